/-
  `go_eq`: the companion of `go_leaf` (GoTac.lean) for characterisation lemmas that are EQUATIONS between a regenerated
  definition and a hand-written, readable spec function (`Gen.f args = C04.fSpec args`).  Both sides branch on the same
  scrutinees, in whatever nesting / order / polarity the Go text happens to have:

    * Bool conditions are turned into propositions first (`(a != b) = true` ~> `¬ a = b`), so that the two sides'
      conditions coincide syntactically and `split` can reduce both at once;
    * after a `split` has named the value of a scrutinee (`heq : g x = .ok y`), a `match g x` on the other side is rewritten
      with it before splitting goes on;
    * every leaf is closed by `simp_all` (with the extra lemmas: characterisations of the callees) or `grind`.

  usage:  `unfold Gen.f C04.fSpec; simp only [<getters…>]; go_eq [<lemmas about callees>]`
  Core Lean only.
-/
import OidcModel.GoTac

syntax "go_eq" "[" Lean.Parser.Tactic.simpLemma,* "]" : tactic
macro_rules
  | `(tactic| go_eq [$ls,*]) => `(tactic| (
      (try simp only [bne_iff_ne, ne_eq, beq_iff_eq, Bool.not_eq_true', Bool.or_eq_true, Bool.and_eq_true, Bool.not_eq_eq_eq_not, Bool.not_true,
         Bool.not_false, decide_eq_true_eq, Bool.not_eq_false'])
      (repeat' (split <;> try simp only [*]))
      all_goals (first | (simp_all [$ls,*]; done) | (simp_all [$ls,*] <;> omega) | grind)))
