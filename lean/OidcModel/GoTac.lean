import OidcModel.Go
/-
  Proof tactics for *characterisation lemmas* of translated Go functions (core Lean only).

  A characterisation lemma states what a regenerated definition computes (`Gen.CheckIssuer now c i = .ok () ↔ c.iss = i`);
  every property theorem is built on such lemmas and never unfolds a regenerated definition itself.  The lemmas are
  the only place where the *shape* of the Go text matters, so they are proved with tactics that do not depend on that
  shape: a semantically neutral rewrite of the Go function (a local variable for a getter, an inverted `if`, an
  early return instead of an `else`, a reordered pair of independent guards) regenerates a different term and the same
  script still closes the goal, while a rewrite that changes what the function computes leaves an unprovable goal.

  usage:  `unfold Gen.f <getters…>; go_leaf`      for `↔` / implication lemmas (add `Go.ok`, `Go.contains`, … as needed;
                                                   `go_char f getters…` is the same with the unfolding built in)
          `unfold spec; go_spec [Gen.f, getters…]` for an equation against a hand-written spec: only the spec is split
          `go_eq [lemmas]` (GoTacEq.lean)          for an equation both of whose sides have to be split
-/

/-! lemmas that make different spellings of the same Go idiom meet (a hand-written loop and `slices.Contains`, …); they are
    NOT global simp lemmas (that would change the normal forms other proofs rely on): `go_char` hands them to `simp_all` -/

theorem Go.any_beq_right {α : Type} [BEq α] [LawfulBEq α] (l : List α) (c : α) :
    Go.any l (fun a => a == c) = l.contains c := by
  unfold Go.any
  rw [Bool.eq_iff_iff]
  simp [List.any_eq_true, List.contains_iff_mem]

theorem Go.any_beq_left {α : Type} [BEq α] [LawfulBEq α] (l : List α) (c : α) :
    Go.any l (fun a => c == a) = l.contains c := by
  unfold Go.any
  rw [Bool.eq_iff_iff]
  simp only [List.any_eq_true, List.contains_iff_mem, beq_iff_eq]
  constructor
  · rintro ⟨x, hx, rfl⟩; exact hx
  · intro h; exact ⟨c, h, rfl⟩

theorem Go.contains_eq {α : Type} [BEq α] (l : List α) (c : α) : Go.contains l c = l.contains c := rfl

/-- a clause `if c then some <verdict> else rest` (a monitor's clause list, a guard that answers with an error) that let the input
    pass did not fire -/
theorem Go.guard_none {α : Type} {c : Prop} [Decidable c] {e : α} {rest : Option α} :
    (if c then some e else rest) = none ↔ ¬c ∧ rest = none := by
  split <;> simp [*]

/-- split every `if` / `match` (after zeta-reducing `have`/`let` binders), then close each branch.  `split` handles one occurrence
    of a scrutinee at a time; rewriting with the equation it has just learned (`simp only [*]`) reduces the other occurrences -
    the other side of an equation, a later test of the same condition - in the same step, so a body with n paths yields n
    branches and not n² -/
syntax "go_leaf" : tactic
macro_rules
  | `(tactic| go_leaf) => `(tactic| (
      (try simp only [])
      (repeat' (split <;> try simp only [*]))
      all_goals (first | (simp_all; done) | (simp_all <;> omega) | grind | (simp_all; grind))))

/-- for an equation `Gen.f … = spec …` whose hand-written side has been unfolded (`unfold spec`): the cases are those of the spec
    alone; on each of them `simp_all` evaluates the regenerated body along the path conditions, with the listed definitions (the
    function itself, the getters, lemmas about its callees); what the evaluation leaves open - the Go text spells a test in
    another way than the spec: permuted disjuncts, a yoda comparison, a nested instead of a joined condition - goes to `go_leaf`.
    The script follows the shape of the spec, never that of the generated text, and visits each path of the spec once -/
syntax "go_spec" "[" Lean.Parser.Tactic.simpLemma,* "]" : tactic
macro_rules
  | `(tactic| go_spec [$ls,*]) => `(tactic| ((repeat' split) <;> simp_all [$ls,*] <;> go_leaf))

/-- `go_unfold f g h`: unfold whichever of the listed definitions occur (unlike `unfold`, it does not fail when one of them
    does not occur any more, e.g. because the Go code now reaches it through an extracted helper that factgen translated
    as a `@[simp] def`) -/
syntax "go_unfold" (ppSpace colGt ident)+ : tactic
macro_rules
  | `(tactic| go_unfold $ids*) => `(tactic| (try simp only [$[$ids:ident],*]))

/-- variant with extra simp lemmas for the branch goals -/
syntax "go_leaf" "[" Lean.Parser.Tactic.simpLemma,* "]" : tactic
macro_rules
  | `(tactic| go_leaf [$ls,*]) => `(tactic| (
      (try simp only [])
      (repeat' (split <;> try simp only [*]))
      all_goals (first | (simp_all [$ls,*]; done) | (simp_all [$ls,*] <;> omega) | grind | (simp_all [$ls,*]; grind))))

/-- `go_char f getter… helper…`: the whole characterisation-lemma script: unfold whichever of the listed definitions occur,
    split, and close every branch with the same definitions available to `simp_all` (so that a definition that only
    appears after an extracted `@[simp]` helper has been unfolded is still seen through) -/
syntax "go_char" (ppSpace colGt ident)+ : tactic
macro_rules
  | `(tactic| go_char $ids*) => `(tactic| (
      (try simp only [$[$ids:ident],*])
      (repeat' (split <;> try simp only [*]))
      all_goals (first | (simp_all [$[$ids:ident],*]; done) | (simp_all [$[$ids:ident],*] <;> omega) | grind
                       | (simp_all [$[$ids:ident],*]; grind)
                       | (simp_all [Go.any_beq_right, Go.any_beq_left, Go.contains_eq, $[$ids:ident],*]; done)
                       | (simp_all [Go.any_beq_right, Go.any_beq_left, Go.contains_eq, $[$ids:ident],*]; grind))))
