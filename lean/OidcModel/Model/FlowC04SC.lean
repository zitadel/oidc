/-
  C04 (round 4b): the code-exchange handlers of both routers over a provider with ANY subject check on its
  JWTProfileVerifier (Model/C04SC.lean) - `Flow.codeExchange` / `Flow.withClient` (Model/Flow.lean) written over the
  regenerated definitions of Generated/TokenEndpointSC.lean.  With `check = none` these ARE `Flow.codeExchange` /
  `Flow.withClient` (Proofs/C04History.lean `sc_codeExchange_default`, by rfl).  The storage effects of issuing are Flow's.
-/
import OidcModel.Model.Flow
import OidcModel.Generated.TokenEndpointSC

namespace FlowSC
open Go Flow

/-- `withClient` (Server router): authenticate through `VerifyClient`, then the registered-grant check -/
def withClient (now : Int) (p : ScProvider) (grant : String) (cc : ClientCredentials) (hasAssertion : Bool) : Go.R OPClient :=
  match Flow.parseCC cc.ClientID cc.ClientSecret cc.ClientAssertionType hasAssertion with
  | .error e => .error e
  | .ok _ =>
    match GenSC.LegacyVerifyClient now ⟨p⟩ { Form := { kv := [("grant_type", grant)] }, Data := cc } with
    | .error e => .error e
    | .ok client =>
      if grant != "" && !Gen.ValidateGrantType now client grant then .error "ErrUnauthorizedClient" else .ok client

/-- token endpoint, grant_type=authorization_code -/
def codeExchange (now : Int) (rt : Router) (p : ScProvider) (req : AccessTokenRequest) (hasAssertion : Bool) : Go.R IssueFor :=
  match rt with
  | .provider =>
    if req.Code == "" then .error "ErrInvalidRequest" else
    match GenSC.ValidateAccessTokenRequest now req p with
    | .error e => .error e
    | .ok (a, c) => Hand.issueForCodeSC now a c p true req.Code ""
  | .legacy =>
    let cc : ClientCredentials := { ClientID := req.ClientID, ClientSecret := req.ClientSecret, ClientAssertion := req.ClientAssertion, ClientAssertionType := req.ClientAssertionType }
    match withClient now p Const.GrantTypeCode cc hasAssertion with
    | .error e => .error e
    | .ok client =>
      if req.Code == "" then .error "ErrInvalidRequest"
      else if req.RedirectURI == "" then .error "ErrInvalidRequest"
      else GenSC.LegacyCodeExchange now ⟨p⟩ { Data := req, Client := client }

/-- one exchange of a history whose provider carries the subject check `f` (`Flow.step … (.exchange …)` otherwise) -/
def stepExchange (now : Int) (s : St) (f : Option (Claims → Go.R Unit)) (rt : Router) (req : AccessTokenRequest) (hasAssertion : Bool) : St × Out :=
  match codeExchange now rt ⟨s.p, f⟩ req hasAssertion with
  | .error e => (s, .error e)
  | .ok i => (applyIssue s i, .issued i (newRefresh s i))

end FlowSC
