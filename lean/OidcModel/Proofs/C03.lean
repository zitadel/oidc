/-
  C03 proofs, layer 2.  Everything is about the definitions REGENERATED from pkg/op (Generated/Authorize.lean,
  Generated/AuthorizeShell.lean, Generated/AuthzTables.lean) plus the hand-modelled shell of `op.Authorize`
  (Model/AuthzFlow.lean) - but only THROUGH the characterisation lemmas of Proofs/C03Char.lean (layer 1): no proof in
  this file unfolds a regenerated definition; what is unfolded here are the hand-written spec functions of layer 1.
-/
import OidcModel.Proofs.C03Char
import OidcModel.Proofs.Store

namespace C03
open Go Gen Hand Authz

deriving instance DecidableEq for Except

/-! ### redirect-URI validation: one error, and success only for registered URIs -/

theorem forRange_some {α β : Type} {l : List α} {f : α → Option β} {r : β} (h : Go.forRange l f = some r) :
    ∃ x, x ∈ l ∧ f x = some r := by
  induction l with
  | nil => cases h
  | cons x xs ih =>
    unfold Go.forRange at h
    split at h
    · exact ⟨x, by simp, by simp_all⟩
    · obtain ⟨y, hy, hfy⟩ := ih h
      exact ⟨y, by simp [hy], hfy⟩

theorem globStep_some {o : UriOracle} {uri g : String} {r : Go.R Unit} (h : globStep o uri g = some r) :
    r = .error E ∨ (r = .ok () ∧ globMatches o g uri = true) := by
  unfold globStep at h
  unfold globMatches
  cases hm : o.globMatch g uri with
  | error e => rw [hm] at h; simp at h; exact Or.inl h.symm
  | ok b => rw [hm] at h; cases b <;> simp at h; exact Or.inr ⟨h.symm, rfl⟩

/-- a check that knows the one error `E` and guarantees `P` when it succeeds: what a success says, and what an error -/
theorem ok_of_cases {x : Go.R Unit} {P : Prop} (hc : x = .error E ∨ (x = .ok () ∧ P)) (h : x = .ok ()) : P := by
  rcases hc with h' | ⟨_, hp⟩
  · rw [h'] at h; cases h
  · exact hp

theorem err_of_cases {x : Go.R Unit} {P : Prop} {e : String} (hc : x = .error E ∨ (x = .ok () ∧ P)) (h : x = .error e) : e = E := by
  rcases hc with h' | ⟨h', _⟩ <;> rw [h'] at h <;> cases h
  rfl

/-- `checkURIAgainstRedirects` knows one error; it lets a URI through only if it is registered literally or matches an opted-in glob -/
theorem checkURI_cases (now : Int) (o : UriOracle) (c : OPClient) (uri : String) :
    checkURIAgainstRedirects now o c uri = .error E ∨
    (checkURIAgainstRedirects now o c uri = .ok () ∧
      (c.redirectURIs.contains uri = true ∨ ∃ gs, c.globs = some gs ∧ gs.any (fun g => globMatches o g uri) = true)) := by
  rw [checkURI_eq]
  unfold checkSpec
  split
  · exact Or.inr ⟨rfl, Or.inl ‹_›⟩
  split
  · exact Or.inl rfl
  rename_i gs hgs
  split
  · rename_i r hr
    obtain ⟨g, hg, hfg⟩ := forRange_some hr
    rcases globStep_some hfg with rfl | ⟨rfl, hm⟩
    · exact Or.inl rfl
    · exact Or.inr ⟨rfl, Or.inr ⟨gs, hgs, List.any_eq_true.2 ⟨g, hg, hm⟩⟩⟩
  · exact Or.inl rfl

theorem checkURI_ok {now : Int} {o : UriOracle} {c : OPClient} {uri : String}
    (h : checkURIAgainstRedirects now o c uri = .ok ()) :
    c.redirectURIs.contains uri = true ∨ ∃ gs, c.globs = some gs ∧ gs.any (fun g => globMatches o g uri) = true :=
  ok_of_cases (checkURI_cases now o c uri) h

theorem checkURI_err {now : Int} {o : UriOracle} {c : OPClient} {uri e : String}
    (h : checkURIAgainstRedirects now o c uri = .error e) : e = "ErrInvalidRequestRedirectURI" :=
  err_of_cases (checkURI_cases now o c uri) h

theorem checkURI_matches {now : Int} {o : UriOracle} {c : OPClient} {uri : String} (strict : Bool)
    (h : checkURIAgainstRedirects now o c uri = .ok ()) : matchesRegistration strict o c uri = true := by
  unfold matchesRegistration
  rcases checkURI_ok h with h1 | ⟨gs, hgs, hany⟩
  · rw [h1]; simp
  · rw [hgs]; simp only [hany]; simp

/-- `HTTPLoopbackOrLocalhost` answers exactly the monitor's question "http(s) URL on a loopback host?" -/
theorem loopback_spec (now : Int) (o : UriOracle) (u : String) :
    (HTTPLoopbackOrLocalhost now o u).2 = (loopbackHTTP o u).isSome ∧
    ((HTTPLoopbackOrLocalhost now o u).2 = true → loopbackHTTP o u = some (HTTPLoopbackOrLocalhost now o u).1) := by
  rw [loopback_eq]
  unfold loopSpec loopbackHTTP
  cases o.urlParse u with
  | error e => simp
  | ok p =>
    by_cases hs : (p.Scheme == "http" || p.Scheme == "https") = true <;>
      by_cases hl : (p.Hostname == "localhost" || (o.parseIP p.Hostname).IsLoopback) = true <;> simp [hs, hl]

theorem schemeAllowed_weak (o : UriOracle) (c : OPClient) (uri rt : String) :
    schemeAllowed false o c uri rt =
      (Go.hasPrefix uri "https://" ||
        if Go.hasPrefix uri "http://" then
          c.devMode || (isNative c && (loopbackHTTP o uri).isSome) || (confidential c && rt == Const.ResponseTypeCode)
        else isNative c) := by
  unfold schemeAllowed schemeOf prefixScheme
  cases Go.hasPrefix uri "https://" <;> cases Go.hasPrefix uri "http://" <;> simp

/-- the native branch knows one error; it accepts only registered URIs (weak reading) -/
theorem native_cases (now : Int) (o : UriOracle) (c : OPClient) (uri rt : String) :
    validateAuthReqRedirectURINative now o c uri = .error E ∨
    (validateAuthReqRedirectURINative now o c uri = .ok () ∧ (isNative c = true → uri ≠ "" → Registered false o c uri rt = true)) := by
  obtain ⟨hlb1, hlb2⟩ := loopback_spec now o uri
  rw [native_eq]
  unfold nativeSpec
  split
  · rename_i u hchk
    split
    · rename_i hcond
      refine Or.inr ⟨rfl, fun hn hne => ?_⟩
      rw [Registered, checkURI_matches false hchk, schemeAllowed_weak, hn, ← hlb1]
      revert hcond
      cases c.devMode <;> cases (HTTPLoopbackOrLocalhost now o uri).2 <;> cases Go.hasPrefix uri "https://" <;>
        cases Go.hasPrefix uri "http://" <;> simp [hne]
    · exact Or.inl rfl
  · split
    · exact Or.inl rfl
    rename_i hl
    have hl : (HTTPLoopbackOrLocalhost now o uri).2 = true := by simpa using hl
    split
    · rename_i r hr
      obtain ⟨reg, hreg, hbody⟩ := forRange_some hr
      split at hbody
      · rename_i hc
        cases hbody
        refine Or.inr ⟨rfl, fun hn hne => ?_⟩
        simp only [Bool.and_eq_true] at hc
        have hvar : loopbackVariant false o uri reg = true := by
          unfold loopbackVariant
          rw [hlb2 hl, (loopback_spec now o reg).2 hc.1]
          simpa [equalURI_eq] using hc.2
        have hm : matchesRegistration false o c uri = true := by
          unfold matchesRegistration
          rw [hn, List.any_eq_true.2 ⟨reg, hreg, hvar⟩]; simp
        rw [Registered, hm, schemeAllowed_weak, hn, ← hlb1, hl]
        cases Go.hasPrefix uri "https://" <;> cases Go.hasPrefix uri "http://" <;> simp [hne]
      · cases hbody
    · exact Or.inl rfl

theorem native_ok {now : Int} {o : UriOracle} {c : OPClient} {uri rt : String}
    (hn : isNative c = true) (hne : uri ≠ "")
    (h : validateAuthReqRedirectURINative now o c uri = .ok ()) : Registered false o c uri rt = true :=
  ok_of_cases (native_cases now o c uri rt) h hn hne

/-- `ValidateAuthReqRedirectURI` knows one error; it accepts only registered URIs (weak reading) -/
theorem validateRedirectURI_cases (now : Int) (o : UriOracle) (c : OPClient) (uri rt : String) :
    ValidateAuthReqRedirectURI now o c uri rt = .error E ∨
    (ValidateAuthReqRedirectURI now o c uri rt = .ok () ∧ Registered false o c uri rt = true) := by
  rw [validateRedirectURI_eq]
  unfold validateURISpec
  split
  · exact Or.inl rfl
  rename_i hne
  have hne : uri ≠ "" := by simpa using hne
  split
  · rename_i hn
    rcases native_cases now o c uri rt with h | ⟨h, hr⟩
    · exact Or.inl h
    · exact Or.inr ⟨h, hr hn hne⟩
  rename_i hn
  split
  · rename_i e hchk
    exact Or.inl (by rw [checkURI_err hchk]; rfl)
  rename_i u hchk
  have hm := checkURI_matches false hchk
  split
  · rename_i h1
    exact Or.inr ⟨rfl, by simp [Registered, hne, hm, schemeAllowed_weak, h1]⟩
  rename_i h1
  split
  · rename_i h2
    split
    · rename_i hcc
      refine Or.inr ⟨rfl, ?_⟩
      rw [isConfidentialType_eq] at hcc
      simp only [Bool.or_eq_true, Bool.and_eq_true] at hcc
      rcases hcc with hd | ⟨hrt, hconf⟩
      · simp [Registered, hne, hm, schemeAllowed_weak, h2, hd]
      · simp [Registered, hne, hm, schemeAllowed_weak, h2, hrt, hconf]
    · exact Or.inl rfl
  · exact Or.inl rfl
/-- **the validation lemma**: `ValidateAuthReqRedirectURI` accepts only registered URIs (weak reading),
    for every client registration, URI string, response type and all library behaviours -/
theorem validateRedirectURI_ok {now : Int} {o : UriOracle} {c : OPClient} {uri rt : String}
    (h : ValidateAuthReqRedirectURI now o c uri rt = .ok ()) : Registered false o c uri rt = true :=
  ok_of_cases (validateRedirectURI_cases now o c uri rt) h

theorem validateRedirectURI_err {now : Int} {o : UriOracle} {c : OPClient} {uri rt e : String}
    (h : ValidateAuthReqRedirectURI now o c uri rt = .error e) : e = "ErrInvalidRequestRedirectURI" :=
  err_of_cases (validateRedirectURI_cases now o c uri rt) h

/-- non-vacuity: an exactly registered https URI of a web client is accepted … -/
example : ValidateAuthReqRedirectURI 0 ⟨fun _ => .error "x", fun _ => {}, fun _ _ => .ok false⟩
    { id := "web", redirectURIs := ["https://rp.example/cb"] } "https://rp.example/cb" "code" = .ok () := by decide +kernel
/-- … and a near miss is rejected with the redirect-disabled error -/
example : ValidateAuthReqRedirectURI 0 ⟨fun _ => .error "x", fun _ => {}, fun _ _ => .ok false⟩
    { id := "web", redirectURIs := ["https://rp.example/cb"] } "https://rp.example/cb/" "code" = .error "ErrInvalidRequestRedirectURI" := by decide +kernel

theorem urlParse_raw {o : UriOracle} {s : String} {pu : URL} (hp : o.urlParse s = .ok pu) : pu.raw = s := by
  unfold UriOracle.urlParse at hp
  split at hp
  · simp at hp; rw [← hp]
  · simp at hp

/-- every response URL is built on the redirect URI it was given -/
theorem authResponseURL_base {now : Int} {o : UriOracle} {uri rt mode : String} {p : RespParams} {enc : Encoder} {u : OutURL}
    (h : AuthResponseURL now o uri rt mode p enc = .ok u) : ∃ f q, u = .response uri f q := by
  obtain ⟨pu, hp, _, hu⟩ := authResponseURL_iff.1 h
  exact ⟨_, _, by rw [hu, urlParse_raw hp]⟩

/-- what `AuthRequestError` may write: a direct page, or a redirect built on the request's own redirect URI -/
def ErrWriteOK (a : ErrReq) (w : Write) : Prop :=
  (∃ s, w = .page s) ∨ (a.nilp = false ∧ ∃ f q, w = .redirect (.response a.redirectURI f q))

theorem authRequestError_writes {now : Int} {o : UriOracle} {a : ErrReq} {err : String} {p : AzProvider} {w : Write}
    (hw : w ∈ AuthRequestError now o a err p) : ErrWriteOK a w := by
  rw [authRequestError_eq] at hw
  unfold errSpec at hw
  split at hw
  · simp at hw; exact Or.inl ⟨_, hw⟩
  rename_i hnil
  split at hw
  · simp at hw; exact Or.inl ⟨_, hw⟩
  split at hw
  · simp at hw; exact Or.inl ⟨_, hw⟩
  · rename_i u hu
    obtain ⟨f, q, rfl⟩ := authResponseURL_base hu
    simp at hw
    exact Or.inr ⟨by simpa using hnil, f, q, hw⟩

/-- an error whose constructor disables redirects is never sent anywhere -/
theorem authRequestError_disabled {now : Int} {o : UriOracle} {a : ErrReq} {err : String} {p : AzProvider} {w : Write}
    (hd : (DefaultToServerError now err err).redirectDisabled = true)
    (hw : w ∈ AuthRequestError now o a err p) : ∃ s, w = .page s := by
  rw [authRequestError_eq] at hw
  unfold errSpec at hw
  simp only [hd, Bool.or_true, if_true] at hw
  split at hw <;> (simp at hw; exact ⟨_, hw⟩)

/-- a request without a request value (`nil`) is never redirected -/
theorem authRequestError_nil {now : Int} {o : UriOracle} {err : String} {p : AzProvider} {w : Write}
    (hw : w ∈ AuthRequestError now o Go.nil err p) : ∃ s, w = .page s := by
  rw [authRequestError_nil_eq] at hw
  exact ⟨400, by simpa using hw⟩

/-! ### a failed redirect-URI validation always yields the redirect-disabled error -/

theorem redirectURI_error_disabled (now : Int) (d : String) :
    (DefaultToServerError now "ErrInvalidRequestRedirectURI" d).redirectDisabled = true := by
  unfold DefaultToServerError
  decide +kernel

/-- `ValidateAuthRequestClient` succeeds only for a registered redirect URI … -/
theorem validateClient_ok {now : Int} {o : UriOracle} {d : AuthDeps} {a : AuthRequestData} {c : OPClient} {sub : String}
    (h : ValidateAuthRequestClient now o d a c () = .ok sub) : Registered false o c a.RedirectURI a.ResponseType = true :=
  validateRedirectURI_ok (validateClient_ok_char h)

/-- … and whenever it fails, either the URI was already validated, or the error is redirect-disabled:
    nothing that can be redirected is raised before the redirect URI has been checked -/
theorem validateClient_err {now : Int} {o : UriOracle} {d : AuthDeps} {a : AuthRequestData} {c : OPClient} {e : String}
    (h : ValidateAuthRequestClient now o d a c () = .error e) :
    Registered false o c a.RedirectURI a.ResponseType = true ∨ (DefaultToServerError now e e).redirectDisabled = true := by
  rcases validateClient_err_char h with hv | hv
  · right
    rw [validateRedirectURI_err hv]
    exact redirectURI_error_disabled now _
  · left; exact validateRedirectURI_ok hv

/-! ### the callback path: everything goes to the stored request's redirect URI -/

/-- what the callback may write for a stored request with redirect URI `uri`: a direct page, a 302 built on `uri`, or the
    form_post page html/template renders for `uri` -/
def RespWriteOK (tm : AzFormTemplate) (uri : String) (w : Write) : Prop :=
  (∃ s, w = .page s) ∨ (∃ f q, w = .redirect (.response uri f q)) ∨
  (∃ ps page, tm.Execute ⟨uri, ps⟩ = .ok page ∧ w = .formPost page.action)

theorem errWrite_stored {tm : AzFormTemplate} {a : AzStored} {w : Write} (h : ErrWriteOK (↑a : ErrReq) w) : RespWriteOK tm a.redirectURI w := by
  rcases h with h | ⟨_, f, q, h⟩
  · exact Or.inl h
  · exact Or.inr (Or.inl ⟨f, q, h⟩)

theorem formPost_writes {now : Int} {tm : AzFormTemplate} {uri : String} {p : RespParams} {enc : Encoder} {ws : List Write} {w : Write}
    (h : Hand.runFormPost (AuthResponseFormPost now tm) uri p enc = .ok ws) (hw : w ∈ ws) :
    ∃ page, tm.Execute ⟨uri, p⟩ = .ok page ∧ w = .formPost page.action := by
  rw [formPost_eq] at h
  unfold formPostSpec at h
  split at h
  · simp at h
  · split at h
    · simp at h
    · rename_i page hpage
      simp at h; subst h
      exact ⟨page, hpage, by simpa using hw⟩

theorem respSpec_writes {now : Int} {o : UriOracle} {d : AuthDeps} {a : AzStored} {p : AzProvider} {ps : RespParams} {w : Write}
    (hw : w ∈ respSpec now o d a p ps) : RespWriteOK d.FormTemplate a.redirectURI w := by
  unfold respSpec at hw
  split at hw
  · split at hw
    · exact errWrite_stored (authRequestError_writes hw)
    · rename_i ws hws
      obtain ⟨page, hpage, hwp⟩ := formPost_writes hws hw
      exact Or.inr (Or.inr ⟨ps, page, hpage, hwp⟩)
  · split at hw
    · exact errWrite_stored (authRequestError_writes hw)
    · rename_i u hu
      obtain ⟨f, q, rfl⟩ := authResponseURL_base hu
      simp at hw
      exact Or.inr (Or.inl ⟨f, q, hw⟩)

theorem authResponse_writes {now : Int} {o : UriOracle} {d : AuthDeps} {a : AzStored} {p : AzProvider} {w : Write}
    (hw : w ∈ AuthResponse now o d a p) : RespWriteOK d.FormTemplate a.redirectURI w := by
  rw [authResponse_eq] at hw
  split at hw
  · exact errWrite_stored (authRequestError_writes hw)
  split at hw
  · rw [authResponseCode_eq] at hw
    split at hw
    · exact errWrite_stored (authRequestError_writes hw)
    · exact respSpec_writes hw
  · rw [authResponseToken_eq] at hw
    split at hw
    · exact errWrite_stored (authRequestError_writes hw)
    · exact respSpec_writes hw

/-- the callback answers with a direct page, or acts on the request stored under the given id -/
theorem authorizeCallback_writes {now : Int} {o : UriOracle} {d : AuthDeps} {r : AzHttpReq} {p : AzProvider} {w : Write}
    (hw : w ∈ AuthorizeCallback now o d r p) :
    (∃ s, w = .page s) ∨ ∃ a, p.Storage.AuthRequestByID (r.Form.Get "id") = .ok a ∧ RespWriteOK d.FormTemplate a.redirectURI w := by
  rw [authorizeCallback_eq] at hw
  cases hid : ParseAuthorizeCallbackRequest now r with
  | error e => rw [hid] at hw; exact Or.inl (authRequestError_nil hw)
  | ok id =>
    have hidv : id = r.Form.Get "id" := (parseCallback_iff.1 hid).2.1
    rw [hid] at hw
    simp only at hw
    cases ha : p.Storage.AuthRequestByID id with
    | error e => rw [ha] at hw; exact Or.inl (authRequestError_nil hw)
    | ok a =>
      rw [ha] at hw
      simp only at hw
      right
      refine ⟨a, hidv ▸ ha, ?_⟩
      split at hw
      · exact authResponse_writes hw
      · exact errWrite_stored (authRequestError_writes hw)

/-- what `/authorize` may write for the (effective) request `e` -/
def AuthorizeWriteOK (o : UriOracle) (clients : List OPClient) (e : AuthRequestData) (w : Write) : Prop :=
  (∃ s, w = .page s) ∨
  ∃ c, clients.find? (·.id == e.ClientID) = some c ∧ Registered false o c e.RedirectURI e.ResponseType = true ∧
    ((∃ req, w = .redirect (.login c.id req) ∧ req.clientID = e.ClientID ∧ req.redirectURI = e.RedirectURI ∧
        req.responseType = e.ResponseType) ∨
     ∃ f q, w = .redirect (.response e.RedirectURI f q))

theorem mkStorage_client {cfg : Cfg} {st : St} {fx : Faults} {nid id : String} {c : OPClient}
    (h : (mkStorage cfg st fx nid).GetClientByClientID id = .ok c) : cfg.clients.find? (·.id == id) = some c := by
  unfold mkStorage at h
  simp only at h
  split at h
  · simp at h
  · split at h
    · simp at h; subst h; assumption
    · simp at h

theorem mkStorage_create {cfg : Cfg} {st : St} {fx : Faults} {nid u : String} {data : AuthRequestData} {req : AzStored}
    (h : (mkStorage cfg st fx nid).CreateAuthRequest data u = .ok req) :
    req.clientID = data.ClientID ∧ req.redirectURI = data.RedirectURI ∧ req.responseType = data.ResponseType := by
  unfold mkStorage at h
  simp only at h
  split at h
  · simp at h
  · simp at h; subst h; exact ⟨rfl, rfl, rfl⟩

theorem errWrite_request {o : UriOracle} {clients : List OPClient} {e : AuthRequestData} {c : OPClient} {w : Write}
    (hc : clients.find? (·.id == e.ClientID) = some c) (hr : Registered false o c e.RedirectURI e.ResponseType = true)
    (h : ErrWriteOK (↑e : ErrReq) w) : AuthorizeWriteOK o clients e w := by
  rcases h with h | ⟨_, f, q, h⟩
  · exact Or.inl h
  · exact Or.inr ⟨c, hc, hr, Or.inr ⟨f, q, h⟩⟩

theorem find_id {clients : List OPClient} {id : String} {c : OPClient}
    (h : clients.find? (·.id == id) = some c) : c.id = id :=
  Store.find_id h

theorem providerCore_writes {now : Int} {o : UriOracle} {d : AuthDeps} {cfg : Cfg} {st : St} {fx : Faults} {nid : String}
    {e : AuthRequestData} {w : Write}
    {dec : AzDecoder} (hw : w ∈ providerAuthorizeCore now o d (mkProvider cfg st fx nid dec) e) : AuthorizeWriteOK o cfg.clients e w := by
  unfold providerAuthorizeCore at hw
  simp only [mkProvider] at hw
  split at hw
  · exact Or.inl (authRequestError_nil hw)
  split at hw
  · exact Or.inl (authRequestError_nil hw)
  split at hw
  · exact Or.inl (authRequestError_disabled (redirectURI_error_disabled now _) hw)
  rename_i c hcl
  have hc := mkStorage_client hcl
  split at hw
  · rename_i x hv
    rcases validateClient_err hv with hr | hd
    · exact errWrite_request hc hr (authRequestError_writes hw)
    · exact Or.inl (authRequestError_disabled hd hw)
  rename_i sub hv
  have hr := validateClient_ok hv
  split at hw
  · exact errWrite_request hc hr (authRequestError_writes hw)
  split at hw
  · exact errWrite_request hc hr (authRequestError_writes hw)
  rename_i req hcr
  simp only [redirectToLogin_eq, AzStored.GetID, List.mem_singleton] at hw
  obtain ⟨h1, h2, h3⟩ := mkStorage_create hcr
  exact Or.inr ⟨c, hc, hr, Or.inl ⟨req, hw, h1, h2, h3⟩⟩

/-- what `/authorize` may write for the raw request `r`: a direct page, or - when the request decodes - what
    `AuthorizeWriteOK` allows for the effective (request-object processed) request -/
def AuthorizeRawOK (o : UriOracle) (cfg : Cfg) (d : AuthDeps) (stg : AzStorage) (r : AzHttpReq) (dec : AzDecoder) (w : Write) : Prop :=
  (∃ s, w = .page s) ∨ ∃ a, decodedReq r dec = .ok a ∧ AuthorizeWriteOK o cfg.clients (effective cfg.requestObjects d stg a) w

/-- Provider router (`op.Authorize`) -/
theorem providerAuthorize_writes {now : Int} {o : UriOracle} {d : AuthDeps} {cfg : Cfg} {st : St} {fx : Faults} {nid : String}
    {r : AzHttpReq} {dec : AzDecoder} {w : Write}
    (hw : w ∈ providerAuthorize now o d (mkProvider cfg st fx nid dec) r) :
    AuthorizeRawOK o cfg d (mkStorage cfg st fx nid) r dec w := by
  simp only [providerAuthorize, mkProvider] at hw
  split at hw
  · exact Or.inl (authRequestError_nil hw)
  rename_i a hpa
  refine Or.inr ⟨a, parseAuthorizeRequest_ok.1 hpa, ?_⟩
  unfold effective
  by_cases hcond : (a.RequestParam != "" && cfg.requestObjects) = true
  · simp only [hcond, ↓reduceIte] at hw ⊢
    split at hw
    · exact Or.inl (authRequestError_nil hw)
    · rename_i e hro
      rw [hro]
      exact providerCore_writes (dec := dec) hw
  · simp only [hcond, ↓reduceIte] at hw ⊢
    exact providerCore_writes (dec := dec) hw

theorem tryErrorRedirect_ok {now : Int} {o : UriOracle} {a : ErrReq} {parent : String} {enc : Encoder} {lg : Unit} {red : Redirect}
    (h : TryErrorRedirect now o a parent enc lg = .ok red) : ∃ f q, red.URL = .response a.redirectURI f q := by
  rw [tryErrorRedirect_eq] at h
  unfold tryErrSpec at h
  split at h
  · simp at h
  split at h
  · simp at h
  split at h
  · simp at h
  · rename_i u hu
    obtain ⟨f, q, rfl⟩ := authResponseURL_base hu
    simp at h; subst h
    exact ⟨f, q, rfl⟩

theorem lookupSpec_ok {now : Int} {s : AzLegacyServer} {a : AuthRequestData} {cr : ClientRequest AuthRequestData}
    (h : lookupSpec now s a = .ok cr) : cr.Data = a ∧ s.provider.Storage.GetClientByClientID a.ClientID = .ok cr.Client := by
  unfold lookupSpec at h
  split at h
  · simp at h
  · split at h
    · simp at h
    · rename_i c hc
      simp at h; subst h
      exact ⟨rfl, hc⟩

/-- a verified request: the effective (request-object processed) request with the client the storage holds for its client id -/
theorem legacyVerify_ok {now : Int} {d : AuthDeps} {s : AzLegacyServer} {form : FormVals} {a : AuthRequestData}
    {cr : ClientRequest AuthRequestData}
    (h : LegacyVerifyAuthRequest now d s { Form := form, Data := a } = .ok cr) :
    cr.Data = effective s.provider.RequestObjectSupported d s.provider.Storage a ∧
    s.provider.Storage.GetClientByClientID cr.Data.ClientID = .ok cr.Client := by
  rw [legacyVerify_eq] at h
  unfold verifySpec at h
  unfold effective
  split at h
  · rename_i hrp
    obtain ⟨hd, hc⟩ := lookupSpec_ok h
    simp [hrp, hd, hc]
  · rename_i hrp
    split at h
    · rename_i hs
      split at h
      · simp at h
      · rename_i a' hro
        obtain ⟨hd, hc⟩ := lookupSpec_ok h
        simp [hrp, hs, hro, hd, hc]
    · simp at h

theorem legacyAuthorize_ok {now : Int} {o : UriOracle} {d : AuthDeps} {s : AzLegacyServer} {cr : ClientRequest AuthRequestData} {red : Redirect}
    (h : LegacyAuthorize now o d s cr = .ok red) :
    (∃ u req, s.provider.Storage.CreateAuthRequest cr.Data u = .ok req ∧ red.URL = .login cr.Client.id req) ∨
    ∃ f q, red.URL = .response cr.Data.RedirectURI f q := by
  rw [legacyAuthorize_eq] at h
  unfold legacyAuthorizeSpec at h
  split at h
  · simp at h
  · rename_i u _
    split at h
    · right; exact tryErrorRedirect_ok h
    · rename_i req hreq
      left
      simp at h
      subst h
      exact ⟨u, req, hreq, rfl⟩

/-- `webServer.authorize` returns a redirect only for an effective request `e` whose client the storage holds and whose redirect
    URI is registered for it; the redirect is the login redirect of the stored `e`, or an error redirect built on its URI -/
theorem webAuthorize_ok {now : Int} {o : UriOracle} {d : AuthDeps} {s : AzWebServer} {form : FormVals} {a : AuthRequestData} {red : Redirect}
    (h : WebAuthorize now o d s { Form := form, Data := a } = .ok red) :
    ∃ e c, e = effective s.server.provider.RequestObjectSupported d s.server.provider.Storage a ∧
      s.server.provider.Storage.GetClientByClientID e.ClientID = .ok c ∧
      Registered false o c e.RedirectURI e.ResponseType = true ∧
      ((∃ u req, s.server.provider.Storage.CreateAuthRequest e u = .ok req ∧ red.URL = .login c.id req) ∨
       ∃ f q, red.URL = .response e.RedirectURI f q) := by
  obtain ⟨cr, hv, hr, hla⟩ := webAuthorize_ok_char h
  obtain ⟨hdata, hclient⟩ := legacyVerify_ok hv
  exact ⟨cr.Data, cr.Client, hdata, hclient, validateRedirectURI_ok hr, legacyAuthorize_ok hla⟩

/-- `webServer.authorizeHandler`: a JSON error document (`WriteError`: never a Location), or a 302 to exactly the URL
    `webServer.authorize` returned for the decoded request (`Redirect.writeOut`) -/
theorem webAuthorizeHandler_writes {now : Int} {o : UriOracle} {d : AuthDeps} {s : AzWebServer} {r : AzHttpReq} {w : Write}
    (hw : w ∈ GenAz.WebAuthorizeHandler now o d s r) :
    (∃ st, w = .page st) ∨ ∃ a red, decodedReq r s.decoder = .ok a ∧
      WebAuthorize now o d s { Form := r.Form, Data := a } = .ok red ∧ w = .redirect red.URL := by
  rw [webAuthorizeHandler_eq] at hw
  split at hw
  · exact Or.inl ⟨_, by simpa using hw⟩
  rename_i a hdq
  split at hw
  · exact Or.inl ⟨_, by simpa using hw⟩
  rename_i red hwa
  exact Or.inr ⟨a, red, decodeRequest_ok.1 hdq, hwa, by simpa using hw⟩

/-- LegacyServer router (`webServer.authorizeHandler`) -/
theorem legacyAuthorize_writes {now : Int} {o : UriOracle} {d : AuthDeps} {cfg : Cfg} {st : St} {fx : Faults} {nid : String}
    {r : AzHttpReq} {dec : AzDecoder} {w : Write}
    (hw : w ∈ legacyAuthorize now o d { server := ⟨mkProvider cfg st fx nid dec⟩, decoder := dec } r) :
    AuthorizeRawOK o cfg d (mkStorage cfg st fx nid) r dec w := by
  unfold legacyAuthorize at hw
  rcases webAuthorizeHandler_writes hw with h | ⟨a, red, hdec, hwa, hwr⟩
  · exact Or.inl h
  · refine Or.inr ⟨a, hdec, ?_⟩
    obtain ⟨e, c, rfl, hc, hr, hurl⟩ := webAuthorize_ok hwa
    refine Or.inr ⟨c, mkStorage_client hc, hr, ?_⟩
    rcases hurl with ⟨u, req, hreq, hu⟩ | ⟨f, q, hu⟩
    · obtain ⟨h1, h2, h3⟩ := mkStorage_create hreq
      exact Or.inl ⟨req, by rw [hwr, hu], h1, h2, h3⟩
    · exact Or.inr ⟨f, q, by rw [hwr, hu]; rfl⟩

/-! ### histories: the model never violates the monitor -/

/-- what a write of the model does with the user agent (the observer's view of it) -/
def sentOf (o : UriOracle) : Write → Sent
  | .page _ => .nowhere
  | .redirect (.login _ a) => .login a.id
  | .redirect (.response base _ _) => .to (destOf o base)
  | .formPost action => .to (destOf o action)

def toAccepted (a : AzStored) : Accepted := ⟨a.id, a.clientID, a.redirectURI, a.responseType⟩

/-- the observer state that belongs to a model state -/
def observer (cfg : Cfg) (st : St) : MonState := { clients := cfg.clients, accepted := st.stored.map toAccepted }

/-- verdicts of the MONITOR (weak reading) on the model's own response to one operation -/
def verdicts (now : Int) (o : UriOracle) (cfg : Cfg) (st : St) (op : Op) : List (Option String) :=
  match op with
  | .authorize rt r dec d fx nid =>
    (step now o cfg st (.authorize rt r dec d fx nid)).2.map fun w =>
      match decodedReq r dec with
      | .ok a =>
        let e := effective cfg.requestObjects d (mkStorage cfg st fx nid) a
        monitorAuthorize false (observer cfg st) o e.ClientID e.RedirectURI e.ResponseType (sentOf o w)
      | .error _ => if sentOf o w = .nowhere then none else some "redirect-without-a-request"
  | .login _ => []
  | .callback r d fx =>
    (step now o cfg st (.callback r d fx)).2.map fun w =>
      monitorCallback false (observer cfg st) o (r.Form.Get "id") (sentOf o w)

def run (now : Int) (o : UriOracle) (cfg : Cfg) : St → List Op → St
  | st, [] => st
  | st, op :: ops => run now o cfg (step now o cfg st op).1 ops

/-- invariant: every stored authorization request carries a redirect URI registered for its client -/
def Inv (o : UriOracle) (cfg : Cfg) (st : St) : Prop :=
  ∀ a ∈ st.stored, registeredFor false (observer cfg st) o a.clientID a.redirectURI a.responseType = true

/-- the observer judges a client id by the registration the configuration holds for it -/
theorem registeredFor_observer {o : UriOracle} {cfg : Cfg} (st : St) {id uri rt : String} {c : OPClient}
    (hc : cfg.clients.find? (·.id == id) = some c) (hr : Registered false o c uri rt = true) :
    registeredFor false (observer cfg st) o id uri rt = true := by
  unfold registeredFor observer; simp only; rw [hc]; exact hr

theorem authorize_writes {now : Int} {o : UriOracle} {cfg : Cfg} {st : St} {rt : Router} {r : AzHttpReq} {dec : AzDecoder} {d : AuthDeps}
    {fx : Faults} {nid : String} {w : Write}
    (hw : w ∈ (step now o cfg st (.authorize rt r dec d fx nid)).2) :
    AuthorizeRawOK o cfg d (mkStorage cfg st fx nid) r dec w := by
  simp only [step] at hw
  cases rt with
  | provider =>
    rw [authorize_eq _ _ _ _ _ rfl] at hw
    exact providerAuthorize_writes hw
  | legacy => exact legacyAuthorize_writes hw

theorem authorizeOK_registered {o : UriOracle} {cfg : Cfg} {st : St} {e : AuthRequestData} {w : Write}
    (h : AuthorizeWriteOK o cfg.clients e w) :
    (∃ s, w = .page s) ∨ registeredFor false (observer cfg st) o e.ClientID e.RedirectURI e.ResponseType = true := by
  rcases h with h | ⟨c, hc, hr, _⟩
  · exact Or.inl h
  · exact Or.inr (registeredFor_observer st hc hr)

theorem step_inv {now : Int} {o : UriOracle} {cfg : Cfg} {st : St} (op : Op) (hi : Inv o cfg st) :
    Inv o cfg (step now o cfg st op).1 := by
  intro a ha
  -- the observer's registrations are those of the configuration, whatever is stored
  show registeredFor false (observer cfg st) o a.clientID a.redirectURI a.responseType = true
  cases op with
  | login id =>
    simp only [step, List.mem_map] at ha
    obtain ⟨b, hb, rfl⟩ := ha
    split <;> exact hi b hb
  | callback r d fx => exact hi a ha
  | authorize rt r dec d fx nid =>
    rcases List.mem_append.1 ha with ha | ha
    · exact hi a ha
    · unfold storedBy at ha
      obtain ⟨w, hw, hwa⟩ := List.mem_filterMap.1 ha
      rcases authorize_writes hw with ⟨s, rfl⟩ | ⟨q, _, ⟨s, rfl⟩ | ⟨c, hc, hr, hl | ⟨f, qq, rfl⟩⟩⟩
      · simp at hwa
      · simp at hwa
      · obtain ⟨req, rfl, h1, h2, h3⟩ := hl
        simp at hwa; subst hwa
        rw [h1, h2, h3]; exact registeredFor_observer st hc hr
      · simp at hwa

/-- html/template renders the redirect URI it is given into the form's `action` attribute UNCHANGED.  This is a hypothesis about
    the template engine: html/template's contextual URL filter replaces URLs whose scheme is not http / https / mailto by
    `#ZgotmplZ` (finding F-C03d, `formpost_template_witness` below). -/
def TemplateOK (d : AuthDeps) : Prop :=
  ∀ ps page, d.FormTemplate.Execute ps = .ok page → page.action = ps.RedirectURI

/-- the one assumption of the full theorem, per operation: callbacks render form_post pages with a faithful template -/
def OpOK : Op → Prop
  | .callback _ d _ => TemplateOK d
  | _ => True

/-- the stored request the reference storage finds is the one the observer recorded under this id -/
theorem byID_find {cfg : Cfg} {st : St} {fx : Faults} {nid id : String} {dec : AzDecoder} {a : AzStored}
    (ha : (mkProvider cfg st fx nid dec).Storage.AuthRequestByID id = .ok a) : st.stored.find? (·.id == id) = some a := by
  simp only [mkProvider, mkStorage] at ha
  split at ha
  · simp at ha
  · split at ha
    · simp at ha; subst ha; assumption
    · simp at ha

theorem monitorCallback_nowhere (m : MonState) (o : UriOracle) (id : String) : monitorCallback false m o id .nowhere = none := by
  unfold monitorCallback; split <;> simp [judge]

/-- under the invariant, a callback for a stored request is judged as one for a registered URI: only the target can be wrong -/
theorem monitorCallback_stored {o : UriOracle} {cfg : Cfg} {st : St} {id : String} {a : AzStored} (hi : Inv o cfg st)
    (h : st.stored.find? (·.id == id) = some a) (s : Sent) :
    monitorCallback false (observer cfg st) o id s = judge true (destOf o a.redirectURI) false s := by
  have hacc : (observer cfg st).accepted.find? (·.id == id) = some (toAccepted a) := by
    unfold observer; simp only
    rw [List.find?_map]
    have : ((fun x : Accepted => x.id == id) ∘ toAccepted) = (fun x : AzStored => x.id == id) := by
      funext x; rfl
    rw [this, h]; rfl
  unfold monitorCallback
  rw [hacc]
  simp only [toAccepted, hi a (List.mem_of_find?_eq_some h)]

/-- one step, without any assumption: the only thing the monitor can ever object to is a form_post page whose action the
    template engine changed (and then only the target clause - never a clause about unregistered URIs) -/
theorem step_verdicts_any {now : Int} {o : UriOracle} {cfg : Cfg} {st : St} (op : Op) (hi : Inv o cfg st) :
    ∀ v ∈ verdicts now o cfg st op, v = none ∨ (¬ OpOK op ∧ v = some "redirect-target-is-not-the-redirect-uri") := by
  intro v hv
  cases op with
  | login id => simp [verdicts] at hv
  | authorize rt r dec d fx nid =>
    left
    simp only [verdicts, List.mem_map] at hv
    obtain ⟨w, hw, rfl⟩ := hv
    rcases authorize_writes hw with ⟨s, rfl⟩ | ⟨a, hdec, hok⟩
    · cases decodedReq r dec <;> simp [sentOf, monitorAuthorize, judge]
    · rw [hdec]
      simp only
      unfold monitorAuthorize
      generalize effective cfg.requestObjects d (mkStorage cfg st fx nid) a = e at hok ⊢
      rcases hok with ⟨s, rfl⟩ | ⟨c, hc, hr, hl | ⟨f, q, rfl⟩⟩
      · simp [sentOf, judge]
      · obtain ⟨req, rfl, _, _, _⟩ := hl
        simp [sentOf, judge, registeredFor_observer st hc hr]
      · simp [sentOf, judge, registeredFor_observer st hc hr]
  | callback r d fx =>
    simp only [verdicts, List.mem_map] at hv
    obtain ⟨w, hw, rfl⟩ := hv
    simp only [step] at hw
    rcases authorizeCallback_writes hw with ⟨s, rfl⟩ | ⟨a, ha, hwa⟩
    · exact Or.inl (monitorCallback_nowhere _ _ _)
    · rw [monitorCallback_stored hi (byID_find ha)]
      rcases hwa with ⟨s, rfl⟩ | ⟨f, q, rfl⟩ | ⟨ps, page, hpage, rfl⟩
      · left; rfl
      · left; simp [sentOf, judge]
      · by_cases hdest : destOf o page.action = destOf o a.redirectURI
        · left; simp [sentOf, judge, hdest]
        · right
          refine ⟨fun ht => hdest (by rw [ht _ _ hpage]), ?_⟩
          simp [sentOf, judge, hdest]

theorem step_verdicts {now : Int} {o : UriOracle} {cfg : Cfg} {st : St} (op : Op) (hi : Inv o cfg st) (hop : OpOK op) :
    ∀ v ∈ verdicts now o cfg st op, v = none := by
  intro v hv
  rcases step_verdicts_any op hi v hv with h | ⟨h, _⟩
  · exact h
  · exact absurd hop h

theorem run_inv {now : Int} {o : UriOracle} {cfg : Cfg} (ops : List Op) : ∀ st, Inv o cfg st → Inv o cfg (run now o cfg st ops) := by
  induction ops with
  | nil => intro st h; exact h
  | cons op ops ih => intro st h; exact ih _ (step_inv op h)

theorem inv_init (o : UriOracle) (cfg : Cfg) : Inv o cfg {} := by intro a ha; simp at ha

/-- **C03 (weak reading), all histories.**  For every set of client registrations, every behaviour of net/url,
    net.ParseIP and doublestar, every sequence of authorize / login / callback operations on either router with
    arbitrary raw requests and decoder behaviour, arbitrary storage failures, arbitrary outcomes of the prompt / scope /
    id_token_hint / request-object / token-creation steps and arbitrary encoder failures: the monitor finds nothing to object to in
    any response of the model to the next operation - provided the template engine leaves the redirect URI alone when that
    operation is a callback (`OpOK`; nothing is assumed about the operations before it). -/
theorem c03_no_unregistered_redirect (now : Int) (o : UriOracle) (cfg : Cfg) (ops : List Op) (op : Op) (hop : OpOK op) :
    ∀ v ∈ verdicts now o cfg (run now o cfg {} ops) op, v = none :=
  step_verdicts op (run_inv ops {} (inv_init o cfg)) hop

/-- **without any assumption** (F-C03d kept visible): whatever the template engine does, no response is ever sent anywhere for an
    unregistered URI and no login page is shown for one; the only possible objection is the target of a form_post page -/
theorem c03_never_for_unregistered (now : Int) (o : UriOracle) (cfg : Cfg) (ops : List Op) (op : Op) :
    ∀ v ∈ verdicts now o cfg (run now o cfg {} ops) op, v = none ∨ v = some "redirect-target-is-not-the-redirect-uri" := by
  intro v hv
  rcases step_verdicts_any op (run_inv ops {} (inv_init o cfg)) v hv with h | ⟨_, h⟩
  · exact Or.inl h
  · exact Or.inr h

/-! ### whole histories: every response along the way, faults at every index, repeated and foreign callbacks -/

/-- the monitor's verdicts on EVERY response of a history (not only the last one) -/
def runVerdicts (now : Int) (o : UriOracle) (cfg : Cfg) : St → List Op → List (Option String)
  | _, [] => []
  | st, op :: ops => verdicts now o cfg st op ++ runVerdicts now o cfg (step now o cfg st op).1 ops

theorem runVerdicts_inv {now : Int} {o : UriOracle} {cfg : Cfg} (ops : List Op) (hops : ∀ op ∈ ops, OpOK op) :
    ∀ st, Inv o cfg st → ∀ v ∈ runVerdicts now o cfg st ops, v = none := by
  induction ops with
  | nil => intro st _ v hv; simp [runVerdicts] at hv
  | cons op ops ih =>
    intro st hi v hv
    simp only [runVerdicts, List.mem_append] at hv
    rcases hv with hv | hv
    · exact step_verdicts op hi (hops op (by simp)) v hv
    · exact ih (fun x hx => hops x (by simp [hx])) _ (step_inv op hi) v hv

/-- **C03 over whole histories** (induction over the operation list, invariant `Inv`): along ANY sequence authorize → login →
    callback → repeated callback → callback with a foreign / unknown / missing id → … in any order and any number, on either router,
    the monitor accepts every single response. -/
theorem c03_history (now : Int) (o : UriOracle) (cfg : Cfg) (ops : List Op) (hops : ∀ op ∈ ops, OpOK op) :
    ∀ v ∈ runVerdicts now o cfg {} ops, v = none :=
  runVerdicts_inv ops hops {} (inv_init o cfg)

def opWithFaults (fx : Faults) : Op → Op
  | .authorize rt r dec d _ nid => .authorize rt r dec d fx nid
  | .login id => .login id
  | .callback r d _ => .callback r d fx

def faultAt (i : Nat) (fx : Faults) (ops : List Op) : List Op :=
  ops.mapIdx fun j op => if j = i then opWithFaults fx op else op

theorem withFaults_ok {fx : Faults} {op : Op} (h : OpOK op) : OpOK (opWithFaults fx op) := by
  cases op <;> exact h

/-- **storage faults at every index**: take any history and make the storage calls of its `i`-th request fail in any way
    (`GetClientByClientID`, `CreateAuthRequest`, `AuthRequestByID`; plain errors, oidc errors, redirect-disabled ones - `Faults`
    are arbitrary functions): still every response of the history is accepted, at the faulty step and at all later ones. -/
theorem c03_history_faults (now : Int) (o : UriOracle) (cfg : Cfg) (ops : List Op) (hops : ∀ op ∈ ops, OpOK op) (i : Nat) (fx : Faults) :
    ∀ v ∈ runVerdicts now o cfg {} (faultAt i fx ops), v = none := by
  apply c03_history
  intro op hop
  unfold faultAt at hop
  rw [List.mem_mapIdx] at hop
  obtain ⟨j, hj, rfl⟩ := hop
  split
  · exact withFaults_ok (hops _ (List.getElem_mem hj))
  · exact hops _ (List.getElem_mem hj)

/-- a callback does not change what is stored: it can be repeated any number of times -/
theorem callback_keeps_state (now : Int) (o : UriOracle) (cfg : Cfg) (st : St) (r : AzHttpReq) (d : AuthDeps) (fx : Faults) :
    (step now o cfg st (.callback r d fx)).1 = st := rfl

/-- **callback with an id nobody was given** (unknown, missing, made up): a direct page, whatever the storage and the encoders do -/
theorem callback_unknown_id {now : Int} {o : UriOracle} {cfg : Cfg} {st : St} {r : AzHttpReq} {d : AuthDeps} {fx : Faults} {w : Write}
    (hid : st.stored.find? (·.id == r.Form.Get "id") = none)
    (hw : w ∈ (step now o cfg st (.callback r d fx)).2) : ∃ s, w = .page s := by
  simp only [step] at hw
  rcases authorizeCallback_writes hw with h | ⟨a, ha, _⟩
  · exact h
  · rw [byID_find ha] at hid; simp at hid

/-- **callback with a foreign id** (the id of a request another client started): whatever is sent goes to the redirect URI stored
    with THAT request - the caller cannot steer it anywhere else -/
theorem callback_foreign_id {now : Int} {o : UriOracle} {cfg : Cfg} {st : St} {r : AzHttpReq} {d : AuthDeps} {fx : Faults} {w : Write}
    {a : AzStored} (hid : st.stored.find? (·.id == r.Form.Get "id") = some a)
    (hw : w ∈ (step now o cfg st (.callback r d fx)).2) : RespWriteOK d.FormTemplate a.redirectURI w := by
  simp only [step] at hw
  rcases authorizeCallback_writes hw with h | ⟨b, hb, hwb⟩
  · exact Or.inl h
  · have := byID_find hb
    rw [hid] at this
    cases this
    exact hwb

/-- **requests with a missing, unknown-client or non-matching redirect URI are answered directly**: if the effective request's
    redirect URI is not registered for the client the storage holds under its client id (or there is no such client), every write
    of `/authorize` is a direct page - on both routers, whatever fails before or after the validation -/
theorem authorize_unregistered_direct {now : Int} {o : UriOracle} {cfg : Cfg} {st : St} {rt : Router} {r : AzHttpReq} {dec : AzDecoder}
    {d : AuthDeps} {fx : Faults} {nid : String} {a : AuthRequestData} {w : Write}
    (hdec : decodedReq r dec = .ok a)
    (hun : ∀ c, cfg.clients.find? (·.id == (effective cfg.requestObjects d (mkStorage cfg st fx nid) a).ClientID) = some c →
      Registered false o c (effective cfg.requestObjects d (mkStorage cfg st fx nid) a).RedirectURI
        (effective cfg.requestObjects d (mkStorage cfg st fx nid) a).ResponseType = false)
    (hw : w ∈ (step now o cfg st (.authorize rt r dec d fx nid)).2) : ∃ s, w = .page s := by
  rcases authorize_writes hw with h | ⟨a', hdec', h | ⟨c, hc, hr, _⟩⟩
  · exact h
  · exact h
  · rw [hdec] at hdec'
    cases hdec'
    rw [hun c hc] at hr
    cases hr

/-- an undecodable request (malformed query, schema-decoder error) is answered directly -/
theorem authorize_undecodable_direct {now : Int} {o : UriOracle} {cfg : Cfg} {st : St} {rt : Router} {r : AzHttpReq} {dec : AzDecoder}
    {d : AuthDeps} {fx : Faults} {nid e : String} {w : Write}
    (hdec : decodedReq r dec = .error e)
    (hw : w ∈ (step now o cfg st (.authorize rt r dec d fx nid)).2) : ∃ s, w = .page s := by
  rcases authorize_writes hw with h | ⟨a', hdec', _⟩
  · exact h
  · rw [hdec] at hdec'; cases hdec'

/-- the redirect-disabled constructors are exactly the redirect-URI error -/
theorem redirectDisabled_table : Gen.redirectDisabledErrors = ["ErrInvalidRequestRedirectURI"] := rfl

/-! ### the strict reading: where the code (hence the model) deviates — known findings, with witnesses -/

/-- a concrete URL parser for the witnesses: four strings, everything else unparseable -/
def witnessOracle : UriOracle :=
  { parse := fun s =>
      if s == "http://localhost/cb" then .ok { Scheme := "http", Host := "localhost", Hostname := "localhost", Path := "/cb", EscapedPath := "/cb" }
      else if s == "http://user:pw@127.0.0.1/cb" then
        .ok { Scheme := "http", Host := "127.0.0.1", Hostname := "127.0.0.1", Path := "/cb", EscapedPath := "/cb", User := "user:pw" }
      else if s == "https://[::1]:1/cb#frag" then
        .ok { Scheme := "https", Host := "[::1]:1", Hostname := "::1", Path := "/cb", EscapedPath := "/cb", Fragment := "frag" }
      else if s == "HTTP://rp.example/cb" then
        .ok { Scheme := "http", Host := "rp.example", Hostname := "rp.example", Path := "/cb", EscapedPath := "/cb" }
      else .error "parse",
    parseIP := fun h => ⟨h == "127.0.0.1" || h == "::1"⟩,
    globMatch := fun _ _ => .ok false }

def witnessNative : OPClient := { id := "native", app := Const.ApplicationTypeNative, auth := "none", redirectURIs := ["http://localhost/cb"] }

/-- F-C03b: the native loopback comparison (`equalURI`: decoded path and raw query only) accepts a requested URI that
    differs from the registered loopback URI in its USERINFO; the strict reading of the statement does not -/
theorem loopback_userinfo_witness :
    ValidateAuthReqRedirectURI 0 witnessOracle witnessNative "http://user:pw@127.0.0.1/cb" "code" = .ok () ∧
    Registered true witnessOracle witnessNative "http://user:pw@127.0.0.1/cb" "code" = false ∧
    Registered false witnessOracle witnessNative "http://user:pw@127.0.0.1/cb" "code" = true := by decide +kernel

/-- F-C03b: … or in its FRAGMENT -/
theorem loopback_fragment_witness :
    ValidateAuthReqRedirectURI 0 witnessOracle witnessNative "https://[::1]:1/cb#frag" "code" = .ok () ∧
    Registered true witnessOracle witnessNative "https://[::1]:1/cb#frag" "code" = false := by decide +kernel

/-- F-C03c: schemes are classified by the literal prefixes `http://` / `https://`; a native, non-dev-mode client that
    registered `HTTP://rp.example/cb` gets its responses sent to a plain-http, non-loopback target -/
theorem scheme_case_witness :
    ValidateAuthReqRedirectURI 0 witnessOracle { witnessNative with redirectURIs := ["HTTP://rp.example/cb"] } "HTTP://rp.example/cb" "code" = .ok () ∧
    Registered true witnessOracle { witnessNative with redirectURIs := ["HTTP://rp.example/cb"] } "HTTP://rp.example/cb" "code" = false := by decide +kernel

/-- the registered loopback URI itself is accepted and satisfies the strict reading too -/
example : ValidateAuthReqRedirectURI 0 witnessOracle witnessNative "http://localhost/cb" "code" = .ok () ∧
    Registered true witnessOracle witnessNative "http://localhost/cb" "code" = true := by decide +kernel

/-! ### the gap between the two readings, exactly -/

/-- the URL parser and the literal prefixes agree about http / https for this URI -/
def SchemeLiteral (o : UriOracle) (uri : String) : Prop :=
  ∀ p, o.urlParse uri = .ok p → (p.Scheme == "https") = (prefixScheme uri == "https") ∧ (p.Scheme == "http") = (prefixScheme uri == "http")

/-- as a loopback URL the string has no userinfo, no fragment and a path without escaped octets -/
def PlainLoopback (o : UriOracle) (u : String) : Prop :=
  ∀ p, loopbackHTTP o u = some p → p.User = "" ∧ p.Fragment = "" ∧ p.EscapedPath = p.Path

/-- For URIs whose scheme is spelled literally and whose loopback forms carry no userinfo / fragment / escaped path, the weak
    reading established by the theorems IS the strict reading of the statement: F-C03b and F-C03c are the whole gap. -/
theorem registered_strict_of_weak {o : UriOracle} {c : OPClient} {uri rt : String}
    (hS : SchemeLiteral o uri) (hU : PlainLoopback o uri) (hR : ∀ reg ∈ c.redirectURIs, PlainLoopback o reg)
    (h : Registered false o c uri rt = true) : Registered true o c uri rt = true := by
  unfold Registered at h ⊢
  simp only [Bool.and_eq_true] at h ⊢
  obtain ⟨⟨hne, hm⟩, hs⟩ := h
  refine ⟨⟨hne, ?_⟩, ?_⟩
  · -- registration match
    unfold matchesRegistration at hm ⊢
    simp only [Bool.or_eq_true] at hm ⊢
    rcases hm with (h1 | h2) | h3
    · exact Or.inl (Or.inl h1)
    · exact Or.inl (Or.inr h2)
    · right
      simp only [Bool.and_eq_true, List.any_eq_true] at h3 ⊢
      obtain ⟨hn, reg, hreg, hv⟩ := h3
      refine ⟨hn, reg, hreg, ?_⟩
      unfold loopbackVariant at hv ⊢
      cases ha : loopbackHTTP o uri with
      | none => simp [ha] at hv
      | some a =>
        cases hb : loopbackHTTP o reg with
        | none => simp [ha, hb] at hv
        | some b =>
          simp only [ha, hb, Bool.not_false, Bool.true_or, Bool.and_true, Bool.and_eq_true, beq_iff_eq] at hv
          obtain ⟨au, af, ap⟩ := hU a ha
          obtain ⟨bu, bf, bp⟩ := hR reg hreg b hb
          simp [au, af, ap, bu, bf, bp, hv.1, hv.2]
  · -- scheme rule
    unfold schemeAllowed schemeOf at hs ⊢
    simp only [Bool.false_eq_true, if_false, if_true] at hs ⊢
    cases hp : o.urlParse uri with
    | error e => simpa [hp] using hs
    | ok p =>
      simp only
      obtain ⟨h1, h2⟩ := hS p hp
      rw [h1, h2]
      exact hs

/-! ### non-vacuity of the history theorem: a concrete flow that reaches every kind of response -/

def demoOracle : UriOracle :=
  { parse := fun s => if s == "https://rp.example/cb" then .ok { Scheme := "https", Host := "rp.example", Hostname := "rp.example", Path := "/cb", EscapedPath := "/cb" } else .error "parse",
    parseIP := fun _ => {}, globMatch := fun _ _ => .ok false }
def demoDeps : AuthDeps :=
  { ValidateAuthReqPrompt := fun _ m => .ok m, ValidateAuthReqScopes := fun _ s => if s.isEmpty then .error "ErrInvalidRequest" else .ok s,
    ValidateAuthReqIDTokenHint := fun _ _ => .ok "", ParseRequestObject := fun a _ _ => .ok a,
    CreateTokenResponse := fun _ _ _ _ _ _ => .ok { kind := "token" }, CreateAuthRequestCode := fun _ _ _ => .ok "code1" }
def demoCfg : Cfg := { clients := [{ id := "web", redirectURIs := ["https://rp.example/cb"], respTypes := ["code"] }] }
def demoReq (uri : String) (scopes : List String) : AuthRequestData :=
  { ClientID := "web", RedirectURI := uri, ResponseType := "code", Scopes := scopes, State := "s" }
/-- a schema decoder that turns every form into `a` -/
def demoRaw (a : AuthRequestData) : AzDecoder := { Decode := fun _ => .ok a }
def demoStored : AzStored := { id := "ar1", clientID := "web", redirectURI := "https://rp.example/cb", responseType := "code", state := "s" }

/-- registered URI: the request is stored and the user agent goes to the login page -/
example : step 0 demoOracle demoCfg {} (.authorize .provider {} (demoRaw (demoReq "https://rp.example/cb" ["openid"])) demoDeps {} "ar1")
    = ({ stored := [demoStored] }, [.redirect (.login "web" demoStored)]) := by decide +kernel
/-- unregistered URI (even together with a scope error): a direct page, on both routers -/
example : (step 0 demoOracle demoCfg {} (.authorize .provider {} (demoRaw (demoReq "https://evil.example/cb" [])) demoDeps {} "ar1")).2 = [.page 400] := by decide +kernel
example : (step 0 demoOracle demoCfg {} (.authorize .legacy {} (demoRaw (demoReq "https://evil.example/cb" [])) demoDeps {} "ar1")).2 = [.page 400] := by decide +kernel
/-- registered URI with a scope error: the error IS redirected (Provider router) — to the registered URI -/
example : (step 0 demoOracle demoCfg {} (.authorize .provider {} (demoRaw (demoReq "https://rp.example/cb" [])) demoDeps {} "ar1")).2
    = [.redirect (.response "https://rp.example/cb" false { kind := "error", err := "ErrInvalidRequest" })] := by decide +kernel
/-- callback after login: the code goes to the stored URI; before login: the error goes there -/
example : (step 0 demoOracle demoCfg { stored := [{ demoStored with done := true }] } (.callback { Form := { kv := [("id", "ar1")] } } demoDeps {})).2
    = [.redirect (.response "https://rp.example/cb" false { kind := "code" })] := by decide +kernel
example : (step 0 demoOracle demoCfg { stored := [demoStored] } (.callback { Form := { kv := [("id", "ar1")] } } demoDeps {})).2
    = [.redirect (.response "https://rp.example/cb" false { kind := "error", err := "ErrInteractionRequired" })] := by decide +kernel

/-! ### F-C03d: the template engine is the one assumption of the full theorem — witness -/

/-- html/template's URL filter as far as it matters here: an `action` whose scheme is not http(s) is replaced by `#ZgotmplZ` -/
def goTemplate : AzFormTemplate :=
  { Execute := fun ps => .ok ⟨if Go.hasPrefix ps.RedirectURI "http://" || Go.hasPrefix ps.RedirectURI "https://" then ps.RedirectURI else "#ZgotmplZ"⟩ }

def fpOracle : UriOracle :=
  { parse := fun s =>
      if s == "myapp://cb" then .ok { Scheme := "myapp", Host := "cb", Hostname := "cb" }
      else if s == "#ZgotmplZ" then .ok { Fragment := "ZgotmplZ" }
      else .error "parse",
    parseIP := fun _ => {}, globMatch := fun _ _ => .ok false }
def fpCfg : Cfg := { clients := [{ id := "app", app := Const.ApplicationTypeNative, auth := "none", redirectURIs := ["myapp://cb"], respTypes := ["code"] }] }
def fpStored : AzStored :=
  { id := "ar1", clientID := "app", redirectURI := "myapp://cb", responseType := "code", responseMode := "form_post", done := true }
def fpDeps : AuthDeps := { demoDeps with FormTemplate := goTemplate }

/-- F-C03d: a native client with a registered custom-scheme URI asks for `response_mode=form_post`; the page the callback answers with
    auto-submits the code to `#ZgotmplZ` (= the provider's own callback URL), not to the registered URI: the monitor objects with the
    TARGET clause (and with nothing else), and the template is not `TemplateOK` -/
theorem formpost_template_witness :
    (step 0 fpOracle fpCfg { stored := [fpStored] } (.callback { Form := { kv := [("id", "ar1")] } } fpDeps {})).2 = [.formPost "#ZgotmplZ"] ∧
    verdicts 0 fpOracle fpCfg { stored := [fpStored] } (.callback { Form := { kv := [("id", "ar1")] } } fpDeps {})
      = [some "redirect-target-is-not-the-redirect-uri"] ∧
    ¬ TemplateOK fpDeps := by
  refine ⟨by decide +kernel, by decide +kernel, ?_⟩
  intro h
  have := h ⟨"myapp://cb", {}⟩ ⟨"#ZgotmplZ"⟩ (by decide +kernel)
  simp at this

/-- with a template that leaves the URI alone the same callback is accepted: the form goes to the registered URI -/
example : verdicts 0 fpOracle fpCfg { stored := [fpStored] } (.callback { Form := { kv := [("id", "ar1")] } } demoDeps {}) = [none] := by decide +kernel
example : TemplateOK demoDeps := by intro ps page h; simp [demoDeps] at h; rw [← h]

/-! ### request objects: the regenerated `ParseRequestObject` / `CopyRequestObjectToAuthRequest` as the request-object step -/

/-- the effective redirect URI after a request object was accepted is the OBJECT's redirect URI when it has one, else the form's;
    client id and response type are those of the form (the object must agree with them): validation therefore judges the URI the
    response will be sent to -/
theorem requestObject_override {now : Int} {ro : AzRoOracle} {a a' : AuthRequestData} {stg : AzStorage} {iss : String}
    (h : GenAz.ParseRequestObject now ro a stg iss = .ok a') :
    ∃ claims : AzRequestObject, a'.RedirectURI = (if claims.RedirectURI != "" then claims.RedirectURI else a.RedirectURI) ∧
      a'.ClientID = a.ClientID ∧ a'.ResponseType = a.ResponseType ∧ a'.RequestParam = "" := by
  obtain ⟨_, _, claims', _, _, _, _, _, _, rfl⟩ := parseRequestObject_ok h
  obtain ⟨h1, _, _, h4, h5, h6⟩ := copyRequestObject_spec now a claims'
  exact ⟨claims', h1, h4, h5, h6⟩

/-- a provider whose request-object step is the regenerated `ParseRequestObject` -/
def withRequestObjects (ro : AzRoOracle) (d : AuthDeps) : AuthDeps :=
  { d with ParseRequestObject := fun a stg iss => GenAz.ParseRequestObject 0 ro a stg iss }

def demoRo : AzRoOracle :=
  { ParseToken := fun _ => .ok ("p", { Issuer := "web", ClientID := "web", Audience := [""], RedirectURI := "https://evil.example/cb" }),
    CheckSignature := fun _ _ c _ _ => .ok c }

/-- non-vacuity: a signed request object that swaps in an unregistered redirect URI is answered with a direct page on both routers,
    although the form's own redirect_uri is registered -/
example : (step 0 demoOracle { demoCfg with requestObjects := true } {}
    (.authorize .provider {} (demoRaw { demoReq "https://rp.example/cb" ["openid"] with RequestParam := "x.y.z" }) (withRequestObjects demoRo demoDeps) {} "ar1")).2
    = [.page 400] := by decide +kernel
example : (step 0 demoOracle { demoCfg with requestObjects := true } {}
    (.authorize .legacy {} (demoRaw { demoReq "https://rp.example/cb" ["openid"] with RequestParam := "x.y.z" }) (withRequestObjects demoRo demoDeps) {} "ar1")).2
    = [.page 400] := by decide +kernel

/-- non-vacuity of the history theorems: a history with a fault injected at index 0 -/
example : faultAt 0 { getClient := fun _ => some "boom" }
    [.authorize .provider {} (demoRaw (demoReq "https://rp.example/cb" ["openid"])) demoDeps {} "ar1", .login "ar1"]
    = [.authorize .provider {} (demoRaw (demoReq "https://rp.example/cb" ["openid"])) demoDeps { getClient := fun _ => some "boom" } "ar1", .login "ar1"] := rfl
example : (step 0 demoOracle demoCfg {} (.authorize .provider {} (demoRaw (demoReq "https://rp.example/cb" ["openid"])) demoDeps
    { getClient := fun _ => some "boom" } "ar1")).2 = [.page 400] := by decide +kernel
/-- callback for an id nobody was given: a direct page -/
example : (step 0 demoOracle demoCfg { stored := [demoStored] } (.callback { Form := { kv := [("id", "ar999")] } } demoDeps {})).2 = [.page 400] := by decide +kernel

end C03
