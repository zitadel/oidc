/-
  C04, last clause - "the issued tokens carry the subject, client, scopes and nonce of that request" - at FUNCTION level,
  about the REGENERATED issuance code (Generated/IssueC06.lean, namespace GenC06: `CreateTokenResponse`, `CreateAccessToken`,
  `createTokens`, `CreateJWT`, `CreateBearerToken`, `CreateIDToken`; the storage, go-jose and AES are arbitrary functions):
  for EVERY token of a code-grant response - ID token, access token (JWT and opaque), refresh token.

  The history model (Model/Flow.lean, `FlowObs.carriedOf`) states what the tokens of a response carry; this file proves that
  the code `CodeExchange` / `LegacyServer.CodeExchange` hand the validated request to produces exactly those values, for all
  storages / keys / clients.  Layer 1: one characterisation lemma per regenerated function (`createTokenResponse_char`,
  `createAccessToken_char`, `createTokens_char`, `createJWT_claims`, `createIDToken_char`), each proved by unfolding that one
  definition and a shape-independent script (`go_leaf` / `grind`); layer 2: `c04_issue_carries` uses only those.  The
  characterisations here are independent of those of Proofs/C06Issue.lean (whose scripts follow the shape of the regenerated
  terms), so that a rewrite that moves a block of `CreateTokenResponse` does not break this file.
-/
import OidcModel.Generated.IssueC06
import OidcModel.Proofs.C04History
import OidcModel.GoTacEq
namespace C04
open Go Hand

/-- the claims `CreateJWT` signs, given the private claims the storage supplied -/
def jwtClaimsOf (now : Int) (issuer : String) (rq : IssRequest) (exp : Int) (id : String) (cl : IssClient) (pc : IssPrivateClaims) : IssAccessTokenClaims :=
  { toTokenClaimsGo := (Gen.NewAccessTokenClaims now issuer rq.GetSubject rq.GetAudience exp id cl.GetID cl.ClockSkew).TokenClaims,
    Claims := pc, Actor := if rq.is_TokenActorRequest then rq.GetActor else "" }

/-- characterisation of the regenerated `CreateJWT`: whatever it returns is the signature (go-jose: an arbitrary function of
    the storage's key) over the regenerated `NewAccessTokenClaims` of this request, this token id and this client -/
theorem createJWT_claims {now : Int} {issuer : String} {rq : IssRequest} {exp : Int} {id : String} {cl : IssClient} {st : IssStorage} {tok : String}
    (h : GenC06.CreateJWT now issuer rq exp id cl st = .ok tok) :
    ∃ key pc, st.SigningKey = .ok key ∧ key.signerOK = true ∧ key.signAT (jwtClaimsOf now issuer rq exp id cl pc) = .ok tok := by
  revert h
  unfold GenC06.CreateJWT jwtClaimsOf
  simp only [Hand.issNewAccessTokenClaims, Hand.issSignerFromKey, Hand.issSignAT]
  go_leaf

theorem jwtClaimsOf_fields (now : Int) (issuer : String) (rq : IssRequest) (exp : Int) (id : String) (cl : IssClient) (pc : IssPrivateClaims) :
    (jwtClaimsOf now issuer rq exp id cl pc).Subject = rq.GetSubject ∧ (jwtClaimsOf now issuer rq exp id cl pc).ClientID = cl.GetID ∧
    (jwtClaimsOf now issuer rq exp id cl pc).JWTID = id ∧ (jwtClaimsOf now issuer rq exp id cl pc).Issuer = issuer ∧
    (rq.GetAudience ≠ [] → (jwtClaimsOf now issuer rq exp id cl pc).Audience = rq.GetAudience) := by
  refine ⟨rfl, rfl, rfl, rfl, ?_⟩
  intro hne
  simp only [jwtClaimsOf, Gen.NewAccessTokenClaims, Go.len, HasLen.len]
  cases h : rq.GetAudience with
  | nil => exact absurd h hne
  | cons x xs => simp; omega

/-- characterisation of the regenerated `CreateTokenResponse` (with an access token): its parts -/
theorem createTokenResponse_char {now : Int} {rq : IssRequest} {cl : IssClient} {cr : IssCreator} {code cur : String} {r : IssTokenResponse}
    (h : GenC06.CreateTokenResponse now rq cl cr true code cur = .ok r) :
    (∃ validity, GenC06.CreateAccessToken now rq cl.AccessTokenType cr cl cur = .ok (r.AccessToken, r.RefreshToken, validity)) ∧
    GenC06.CreateIDToken now cr.IssuerFromContext rq cl.IDTokenLifetime r.AccessToken code cr.Storage cl = .ok r.IDToken ∧
    r.Scope = rq.GetScopes ∧ (rq.is_AuthRequest = true → cr.Storage.DeleteAuthRequest rq.GetID = .ok ()) ∧
    (code ≠ "" → r.State = "") := by
  revert h
  unfold GenC06.CreateTokenResponse
  go_leaf

/-- characterisation of the regenerated `CreateAccessToken`: the storage creates the token(s); the string handed out is a JWT
    over that id, or the encryption of `<id>:<subject>` -/
theorem createAccessToken_char {now : Int} {rq : IssRequest} {tt : Nat} {cr : IssCreator} {cl : IssClient} {cur at' rt : String} {validity : Int}
    (h : GenC06.CreateAccessToken now rq tt cr cl cur = .ok (at', rt, validity)) :
    ∃ id exp, GenC06.createTokens now rq cr.Storage cur cl = .ok (id, rt, exp) ∧
      (tt = IssConst.AccessTokenTypeJWT → GenC06.CreateJWT now cr.IssuerFromContext rq exp id cl cr.Storage = .ok at') ∧
      (tt ≠ IssConst.AccessTokenTypeJWT → cr.Crypto.Encrypt (id ++ ":" ++ rq.GetSubject) = .ok at') := by
  revert h
  unfold GenC06.CreateAccessToken
  simp only [GenC06.CreateBearerToken, HAdd.hAdd]
  go_leaf

/-- characterisation of the regenerated `createTokens`: which storage method is asked, with THIS request -/
theorem createTokens_char {now : Int} {rq : IssRequest} {st : IssStorage} {cur : String} {cl : IssClient} {id rt : String} {exp : Int}
    (h : GenC06.createTokens now rq st cur cl = .ok (id, rt, exp)) :
    if rq.needsRefreshToken then st.CreateAccessAndRefreshTokens rq cur = .ok (id, rt, exp)
    else st.CreateAccessToken rq = .ok (id, exp) ∧ rt = "" := by
  revert h
  unfold GenC06.createTokens
  simp only [Hand.issNeedsRefreshToken]
  go_leaf

theorem mem_appendClientID (now : Int) (cid : String) (aud : List String) : cid ∈ Gen.AppendClientIDToAudience now cid aud := by
  unfold Gen.AppendClientIDToAudience
  simp only [Go.any, Go.append]
  go_leaf

/-- characterisation of the regenerated `CreateIDToken` for an authorization request and a code: what the signed claims carry -/
theorem createIDToken_char {now : Int} {issuer : String} {rq : IssRequest} {validity : Int} {at' code : String} {st : IssStorage} {cl : IssClient} {tok : String}
    (h : GenC06.CreateIDToken now issuer rq validity at' code st cl = .ok tok) (hAR : rq.is_AuthRequest = true) (hcode : code ≠ "") :
    ∃ key c, st.SigningKey = .ok key ∧ key.signID c = .ok tok ∧ c.Nonce = rq.GetNonce ∧ c.AuthorizedParty = rq.GetClientID ∧
      c.ClientID = rq.GetClientID ∧ rq.GetClientID ∈ c.Audience ∧ GenC06.ClaimHash now code key.SignatureAlgorithm = .ok c.CodeHash ∧
      (c.Subject = rq.GetSubject ∨ (c.Subject ≠ "" ∧ c.Subject = c.UserInfo.Subject)) := by
  revert h
  unfold GenC06.CreateIDToken
  simp only [hAR, ↓reduceIte, IssIDTokenClaims.SetUserInfo, Hand.issSignerFromKey, Hand.issSignID]
  -- of the claims the function starts from, only these five facts are used (every later step copies the record)
  generalize hc0 : Hand.issNewIDTokenClaims now issuer rq.GetSubject rq.GetAudience _ rq.GetAuthTime rq.GetNonce rq.GetACR rq.GetAMR
    rq.GetClientID cl.ClockSkew = c0
  have h0 : c0.Nonce = rq.GetNonce ∧ c0.AuthorizedParty = rq.GetClientID ∧ c0.ClientID = rq.GetClientID ∧ rq.GetClientID ∈ c0.Audience ∧
      c0.Subject = rq.GetSubject := by
    subst hc0; exact ⟨rfl, rfl, rfl, mem_appendClientID now _ _, rfl⟩
  clear hc0
  repeat' split
  all_goals (first | (simp_all; done) | grind (splits := 40))

/-- the stored authorization request as `CreateTokenResponse` sees it (op.AuthRequest: an IDTokenRequest that IS an AuthRequest);
    `refresh` = the verdict of the regenerated `needsRefreshToken` (`Flow.wantsRefresh`) -/
def issRequestOf (a : AuthReq) (refresh : Bool) : IssRequest :=
  { GetSubject := a.subject, GetAudience := [a.clientID], GetScopes := a.scopes, GetAuthTime := a.authTime * Go.second, GetClientID := a.clientID,
    is_AuthRequest := true, GetID := a.id, GetNonce := a.nonce, GetState := a.state, needsRefreshToken := refresh }

/-- **The tokens of a code-grant response carry the request's values** (regenerated issuance, all storages / keys / clients).
    If `CreateTokenResponse(ctx, authReq, client, creator, true, code, "")` returns a response `r`, then
    * the storage was asked to create the access token - and, when `needsRefreshToken` says so, the refresh token - FOR THIS
      REQUEST OBJECT (so the records an opaque access token and the refresh token resolve to carry the request's subject,
      client id, audience and scopes), and `r.RefreshToken` is the string the storage returned;
    * `r.AccessToken` is either (JWT) the signature over claims with `sub` = the request's subject, `client_id` = the
      authenticated client's id, `jti` = the id the storage gave the token, or (opaque) the encryption of
      `<that id>:<the request's subject>`;
    * `r.IDToken` is the signature over claims with the request's nonce, `azp` = `client_id` = the request's client, an
      audience containing it, `c_hash` of the presented code, and the request's subject (or the non-empty subject the
      storage's userinfo carries);
    * `r.Scope` is the request's scope list, and `DeleteAuthRequest(request id)` succeeded (the code is consumed). -/
theorem c04_issue_carries (now : Int) (a : AuthReq) (refresh : Bool) (cl : IssClient) (creator : IssCreator) (code : String) (r : IssTokenResponse)
    (hcode : code ≠ "")
    (h : GenC06.CreateTokenResponse now (issRequestOf a refresh) cl creator true code "" = .ok r) :
    (∃ id exp, (if refresh then creator.Storage.CreateAccessAndRefreshTokens (issRequestOf a refresh) "" = .ok (id, r.RefreshToken, exp)
                else creator.Storage.CreateAccessToken (issRequestOf a refresh) = .ok (id, exp) ∧ r.RefreshToken = "") ∧
      (cl.AccessTokenType = IssConst.AccessTokenTypeJWT →
        ∃ key pc c, creator.Storage.SigningKey = .ok key ∧ key.signAT c = .ok r.AccessToken ∧
          c = jwtClaimsOf now creator.IssuerFromContext (issRequestOf a refresh) exp id cl pc ∧
          c.Subject = a.subject ∧ c.ClientID = cl.GetID ∧ c.JWTID = id ∧ c.Audience = [a.clientID]) ∧
      (cl.AccessTokenType ≠ IssConst.AccessTokenTypeJWT → creator.Crypto.Encrypt (id ++ ":" ++ a.subject) = .ok r.AccessToken)) ∧
    (∃ key c, creator.Storage.SigningKey = .ok key ∧ key.signID c = .ok r.IDToken ∧
      c.Nonce = a.nonce ∧ c.AuthorizedParty = a.clientID ∧ c.ClientID = a.clientID ∧ a.clientID ∈ c.Audience ∧
      GenC06.ClaimHash now code key.SignatureAlgorithm = .ok c.CodeHash ∧
      (c.Subject = a.subject ∨ (c.Subject ≠ "" ∧ c.Subject = c.UserInfo.Subject))) ∧
    r.Scope = a.scopes ∧ r.State = "" ∧ creator.Storage.DeleteAuthRequest a.id = .ok () := by
  obtain ⟨⟨validity, hat⟩, hid, hscope, hdel, hstate⟩ := createTokenResponse_char h
  obtain ⟨id, exp, hct, hjwt, hopaque⟩ := createAccessToken_char hat
  have hct' := createTokens_char hct
  refine ⟨⟨id, exp, ?_, ?_, ?_⟩, ?_, hscope, hstate hcode, hdel rfl⟩
  · cases refresh <;> simpa [issRequestOf] using hct'
  · intro htt
    obtain ⟨key, pc, hkey, _, hsign⟩ := createJWT_claims (hjwt htt)
    obtain ⟨f1, f2, f3, _, f5⟩ := jwtClaimsOf_fields now creator.IssuerFromContext (issRequestOf a refresh) exp id cl pc
    exact ⟨key, pc, _, hkey, hsign, rfl, f1, f2, f3, f5 (by simp [issRequestOf])⟩
  · exact hopaque
  · exact createIDToken_char hid rfl hcode

/-! Non-vacuity: a storage / key / client for which the regenerated `CreateTokenResponse` succeeds, with a JWT and with an
    opaque access token, with and without a refresh token. -/
def demoIssCreator : IssCreator :=
  { Storage := { SigningKey := .ok { signID := fun c => .ok ("idt[" ++ c.Subject ++ "|" ++ c.AuthorizedParty ++ "|" ++ c.Nonce ++ "]"),
                                     signAT := fun c => .ok ("jwt[" ++ c.Subject ++ "|" ++ c.ClientID ++ "|" ++ c.JWTID ++ "]") },
                 CreateAccessToken := fun rq => .ok ("at-for-" ++ rq.GetSubject, 0),
                 CreateAccessAndRefreshTokens := fun rq _ => .ok ("at-for-" ++ rq.GetSubject, "rt-for-" ++ rq.GetClientID, 0) },
    IssuerFromContext := "https://op.example" }
def demoIssReq (refresh : Bool) : IssRequest :=
  issRequestOf { id := "ar1", clientID := "web", subject := "user1", scopes := ["openid", "offline_access"], nonce := "n-1", done := true } refresh

example : (GenC06.CreateTokenResponse 0 (demoIssReq true) { GetID := "web", AccessTokenType := 1 } demoIssCreator true "c1" "").toOption.map
      (fun r => (r.AccessToken, r.RefreshToken, r.IDToken, r.Scope)) =
    some ("jwt[user1|web|at-for-user1]", "rt-for-web", "idt[user1|web|n-1]", ["openid", "offline_access"]) := by decide +kernel
example : (GenC06.CreateTokenResponse 0 (demoIssReq false) { GetID := "web", AccessTokenType := 0 } demoIssCreator true "c1" "").toOption.map
      (fun r => (r.AccessToken, r.RefreshToken, r.IDToken)) =
    some ("enc(at-for-user1:user1)", "", "idt[user1|web|n-1]") := by decide +kernel

/-! The monitor is not silent about the single tokens: an ID token with another nonce, an access token naming another client,
    a refresh token with other scopes are flagged - each by its own clause. -/
open FlowObs Flow in
example :
    let o := (runObs 0 (demoState, obsOf demoState) ((demoOps .provider).take 3)).1.2
    let p : C04.Presented := { clientID := "web", secret := "s3cret", code := "c1", redirectURI := "https://rp.example/cb" }
    let ok : C04.Tokens := { subject := "user1", client := "web", scopes := ["openid", "email", "offline_access"], nonce := "n-1" }
    (observe 0 o (.exchange p (some { ok with carried := [{ kind := "id_token", subject := some "user1", client := some "web", nonce := some "n-2" }] }) none)).2.1
      = some "tokens:id_token:nonce" ∧
    (observe 0 o (.exchange p (some { ok with carried := [{ kind := "access_token", subject := some "user1", client := some "web2", scopes := some ["openid", "email", "offline_access"] }] }) none)).2.1
      = some "tokens:access_token:client" ∧
    (observe 0 o (.exchange p (some { ok with carried := [{ kind := "refresh_token", subject := some "user1", client := some "web", scopes := some ["openid", "admin"] }] }) none)).2.1
      = some "tokens:refresh_token:scopes" ∧
    (observe 0 o (.exchange p (some { ok with carried := [{ kind := "access_token", subject := some "user2", client := some "web" }] }) none)).2.1
      = some "tokens:access_token:subject" ∧
    (observe 0 o (.exchange p (some { ok with carried := carriedOf { clientID := "web", subject := "user1", scopes := ["openid", "email", "offline_access"], nonce := "n-1" } demoWeb (some "rt1") }) none)).2.1
      = none := by decide +kernel

end C04
