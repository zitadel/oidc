/-
  C04 - "whenever the request carried a PKCE code challenge, the presented code_verifier matches it" for authorization
  requests that carry a signed REQUEST OBJECT, with the PKCE parameters split in any way between the query and the object.

  The challenge a request CARRIED is decided from what the client sent (`C04.effectiveChallenge`, Spec/C04.lean: per parameter the
  accepted object's value when it sets one, else the query's).  Composition of C19's characterisation of the REGENERATED
  `GenHon.CopyRequestObjectToAuthRequest` / `GenHon.ParseRequestObject` (`C19.copy_char`, `C19.parseRequestObject_char`)
  with C04's exchange theorem (`FlowObs.codeExchange_ok` over the regenerated token-endpoint functions).
  A copy that treats code_challenge / code_challenge_method as a pair falsifies `C19.copy_char`, hence every theorem here.
-/
import OidcModel.Model.FlowC04RO
import OidcModel.Proofs.C19Honour
import OidcModel.Proofs.C04History

namespace C04
open Go Flow

/-- what the reference storage keeps of ANY merged request is the effective challenge of (query, object) -/
theorem ro_copy_effective (now : Int) (a : HonAuthRequest) (o : HonRequestObject) :
    C19.honStoredChallenge (GenHon.CopyRequestObjectToAuthRequest now a o) =
      effectiveChallenge true ⟨a.CodeChallenge, a.CodeChallengeMethod⟩ ⟨o.CodeChallenge, o.CodeChallengeMethod⟩ := by
  rw [C19.copy_char]
  simp only [C19.honStoredChallenge, C19.copySpec, effectiveChallenge, Bool.true_and]
  by_cases h1 : o.CodeChallenge = "" <;> by_cases h2 : o.CodeChallengeMethod = "" <;> by_cases h3 : a.CodeChallenge = "" <;> simp [h1, h2, h3]

/-- every ACCEPTED object, whatever `oidc.ParseToken` / `oidc.CheckSignature` answer: the stored challenge is the effective challenge of
    the query and the VERIFIED claims -/
theorem ro_stored_is_effective {now : Int} {ro : HonRoOracle} {a a' : HonAuthRequest} {stg : HonStorage} {iss : String}
    (h : GenHon.ParseRequestObject now ro a stg iss = .ok a') :
    ∃ payload claims claims', ro.ParseToken a.RequestParam = .ok (payload, claims) ∧
      ro.CheckSignature a.RequestParam payload claims [] (stg, claims.Issuer) = .ok claims' ∧
      C19.honStoredChallenge a' =
        effectiveChallenge true ⟨a.CodeChallenge, a.CodeChallengeMethod⟩ ⟨claims'.CodeChallenge, claims'.CodeChallengeMethod⟩ := by
  obtain ⟨payload, claims, claims', hp, _, _, _, _, hs, rfl⟩ := C19.parseRequestObject_char h
  refine ⟨payload, claims, claims', hp, hs, ?_⟩
  rw [← C19.copy_char now, ro_copy_effective]

/-- an authorize step with a request object: refused without a trace, or `Flow.step (.authorize …)` of the merged request -/
theorem stepAuthorize_cases (now : Int) (s : St) (ro : HonRoOracle) (a : AuthReq) (qc qm raw : String) (hint : FlowHint) :
    (∃ e, FlowRO.stepAuthorize now s ro a qc qm raw hint = (s, .error e)) ∨
    (∃ h, GenHon.ParseRequestObject now ro (FlowRO.queryOf a qc qm raw) {} s.p.issuer = .ok h ∧
      FlowRO.stepAuthorize now s ro a qc qm raw hint = step now s (.authorize (FlowRO.storedOf a h) hint)) := by
  unfold FlowRO.stepAuthorize
  cases hp : GenHon.ParseRequestObject now ro (FlowRO.queryOf a qc qm raw) {} s.p.issuer with
  | error e => exact .inl ⟨e, rfl⟩
  | ok h => exact .inr ⟨h, rfl, rfl⟩

/-- the request an accepted authorize step with an object stores has the EFFECTIVE challenge of what travelled -/
theorem c04_ro_authorize_stores_effective {now : Int} {s s' : St} {ro : HonRoOracle} {a : AuthReq} {qc qm raw : String} {hint : FlowHint}
    {id : String} (h : FlowRO.stepAuthorize now s ro a qc qm raw hint = (s', .loginPage id)) :
    ∃ payload claims claims' r, ro.ParseToken raw = .ok (payload, claims) ∧
      ro.CheckSignature raw payload claims [] (({} : HonStorage), claims.Issuer) = .ok claims' ∧
      s'.store.authReqs = s.store.authReqs ++ [r] ∧ r.id = id ∧ r.clientID = a.clientID ∧
      r.challenge = effectiveChallenge true ⟨qc, qm⟩ ⟨claims'.CodeChallenge, claims'.CodeChallengeMethod⟩ := by
  rcases stepAuthorize_cases now s ro a qc qm raw hint with ⟨e, he⟩ | ⟨hh, hp, hs⟩
  · rw [he] at h; cases h
  · obtain ⟨payload, claims, claims', h1, h2, h3⟩ := ro_stored_is_effective hp
    rw [hs] at h
    simp only [step] at h
    split at h
    · cases h
    · rename_i sub _
      cases h
      exact ⟨payload, claims, claims', _, h1, h2, rfl, rfl, rfl, h3⟩

/-- **a code of a request made with an accepted request object yields tokens only with the verifier of the challenge the request
    CARRIED**: either router, any oracle, any split of the PKCE parameters between query and object - the monitor's PKCE clause for the
    effective challenge (a public client's request carried one) -/
theorem c04_ro_exchange_pkce {now now' : Int} {rt : Router} {p : Provider} {req : AccessTokenRequest} {ha : Bool}
    {a : AuthReq} {c : OPClient} {k : String}
    {ro : HonRoOracle} {q h : HonAuthRequest} {stg : HonStorage} {iss : String}
    (hp : GenHon.ParseRequestObject now' ro q stg iss = .ok h)
    (hst : a.challenge = C19.honStoredChallenge h)
    (hx : codeExchange now rt p req ha = .ok (.code a c k)) :
    ∃ payload claims claims', ro.ParseToken q.RequestParam = .ok (payload, claims) ∧
      ro.CheckSignature q.RequestParam payload claims [] (stg, claims.Issuer) = .ok claims' ∧
      (match effectiveChallenge true ⟨q.CodeChallenge, q.CodeChallengeMethod⟩ ⟨claims'.CodeChallenge, claims'.CodeChallengeMethod⟩ with
       | some ch => pkceOK ch req.CodeVerifier = true
       | none => c.auth ≠ Const.AuthMethodNone) := by
  obtain ⟨payload, claims, claims', h1, h2, h3⟩ := ro_stored_is_effective hp
  refine ⟨payload, claims, claims', h1, h2, ?_⟩
  obtain ⟨a', c', hi, _, _, _, _, hpk, hnone, _⟩ := FlowObs.codeExchange_ok hx
  cases hi
  rw [← h3, ← hst]
  cases hch : a.challenge with
  | none => intro hc; exact absurd hch (hnone hc)
  | some ch =>
    obtain ⟨hv, hvc⟩ := hpk (by simp [hch])
    rw [hch] at hvc
    exact FlowObs.pkce_of_verify hv hvc

/-! non-vacuity: the case a pair-copy gets wrong - the challenge travels in the query, the object carries the method alone -/
example : effectiveChallenge true ⟨"S256(v)", ""⟩ ⟨"", "S256"⟩ = some { Challenge := "S256(v)", Method := "S256" } := by decide
example : effectiveChallenge true ⟨"S256(w)", "plain"⟩ ⟨"S256(v)", ""⟩ = some { Challenge := "S256(v)", Method := "plain" } := by decide
example : effectiveChallenge true ⟨"", "S256"⟩ ⟨"", "S256"⟩ = none := by decide
example : C19.honStoredChallenge (GenHon.CopyRequestObjectToAuthRequest 0 { CodeChallenge := "S256(v)" } { CodeChallengeMethod := "S256" }) =
    some { Challenge := "S256(v)", Method := "S256" } := by decide

end C04
