/-
  C14 proofs over the REGENERATED VerifyJWTAssertion / AuthorizePrivateJWTKey / ParseRequestObject /
  CopyRequestObjectToAuthRequest: assertions and request objects count only when signed by a key the
  storage holds for the client they name as issuer (composition with the C02 theorems): `c14_assertion_sound`,
  `c14_private_key_client`, `c14_request_object_sound`; the accepting direction is `c14_proper_accepted_any`.
  Monitor and vocabulary: Spec/C14.lean.
-/
import OidcModel.Spec.C14
import OidcModel.Proofs.C01
import OidcModel.Proofs.C02
import OidcModel.Generated.RequestObject
-- independent of Proofs.C04 (which has its own lemma about AuthorizePrivateJWTKey): a change to that function shows in the C14
-- theorem it breaks
import OidcModel.Generated.TokenEndpoint
import OidcModel.Proofs.C14Reuse
namespace C14
open Go Gen Hand

theorem clientKeys_eq (registry : List (String × JWK)) (id : String) :
    Hand.jwtProfileKeySet registry id = clientKeys registry id := rfl

/-- without a key set of its own the verifier checks against the keys the storage holds for the named issuer -/
theorem assertionKeys_storage {v : JWTProfileVerifier} (hks : v.keySet.kind = .nilSet) (iss : String) :
    assertionKeys v iss = clientKeys v.Storage iss := by
  simp [assertionKeys, Go.isNil, Nilable.isNil, hks, clientKeys_eq]

theorem subjectIsIssuer_ok {now c} : SubjectIsIssuer now c = .ok () ↔ c.iss = c.sub := by
  unfold SubjectIsIssuer Claims.Issuer Claims.Subject Go.ok; go_leaf

/-- every accepting path of VerifyJWTAssertion (default key set = storage registry); from the characterisation lemma
    `verifyJWTAssertion_ok` (Proofs/C14Reuse.lean) - the regenerated definition is not unfolded here -/
theorem verifyJWTAssertion_paths {now t v c} (hks : v.keySet.kind = .nilSet) (h : VerifyJWTAssertion now t v = .ok c) :
    ∃ p c0, ParseToken now t = .ok (p, c0) ∧ CheckAudience now c0 v.Issuer = .ok () ∧ CheckExpiration now c0 v.Offset = .ok () ∧
      CheckIssuedAt now c0 v.MaxAgeIAT v.Offset = .ok () ∧ applySubjectCheck (SubjectIsIssuer now) v.CheckSubject c0 = .ok () ∧
      CheckSignature now t p c0 [] (clientKeys v.Storage c0.iss) = .ok c := by
  obtain ⟨p, c0, h1, h2, h3, h4, h5, h6⟩ := verifyJWTAssertion_ok.1 h
  exact ⟨p, c0, h1, h2, h3, h4, h5, assertionKeys_storage hks c0.iss ▸ h6⟩

/-- C14: an accepted assertion is signed with a key the storage holds for the client named as
    issuer, targets this provider, is within its time window and (default check) has sub = iss -/
theorem c14_assertion_sound {now t v c} (hks : v.keySet.kind = .nilSet) (h : VerifyJWTAssertion now t v = .ok c) :
    assertionOK v.Issuer v.MaxAgeIAT v.Offset v.CheckSubject.isNone v.Storage t now c = none := by
  obtain ⟨p, c0, hp, haud, hexp, hiat, hsub, hsig⟩ := verifyJWTAssertion_paths hks h
  have hs := C02.parse_and_signature_sound hp hsig
  obtain ⟨_, _, _, _, _, _, _, hc⟩ := C01.checkSignature_ok hsig
  have hiss : c.iss = c0.iss := by subst hc; rfl
  unfold assertionOK
  rw [hiss, hs.1]
  simp only []
  rw [C01.checkAudience_ok] at haud
  rw [C01.checkExpiration_ok] at hexp
  rw [C01.checkIssuedAt_ok] at hiat
  have r1 := C01.tRound_second_bounds (now + v.Offset)
  have r2 := C01.tRound_second_bounds (now - v.MaxAgeIAT)
  have hfind : (claimClauses v.Issuer v.MaxAgeIAT v.Offset v.CheckSubject.isNone c now (-halfSecond)).find? (fun p => !p.2) = none := by
    rw [List.find?_eq_none]
    intro x hx
    subst hc
    simp only [claimClauses, Claims.SetSignatureAlgorithm, List.mem_cons, List.mem_nil_iff, or_false] at hx
    simp only [C01.ns, C01.halfSecond, halfSecond, second] at *
    rcases hx with rfl | rfl | rfl | rfl | rfl | rfl
    · simpa using haud
    · simp; exact decide_eq_true (by omega)
    · simpa using hiat.1
    · simp; exact decide_eq_true (by omega)
    · simp; rcases hiat.2.2 with h0 | h0
      · intro hne; exact absurd h0 hne
      · intro _; omega
    · cases hcs : v.CheckSubject with
      | none =>
        simp only [applySubjectCheck, hcs] at hsub
        have := subjectIsIssuer_ok.1 hsub
        simp [this]
      | some f => simp
  simp [hfind]

/-- `assertionOK` is monotone in the demand sub = iss: the clause lists differ in their last entry only, which is `true` without it -/
theorem assertionOK_mono {i : String} {m o : Int} {s b : Bool} {reg : List (String × JWK)} {t : Token} {now : Int} {c : Claims}
    (hbs : b ≤ s) (h : assertionOK i m o s reg t now c = none) : assertionOK i m o b reg t now c = none := by
  cases b with
  | true => rwa [Bool.eq_true_of_true_le hbs] at h
  | false =>
    unfold assertionOK at h ⊢
    split at h
    · cases h
    · simp_all [claimClauses]

/-- the signature check on a well-formed single-signature token: an admitted algorithm, the presented payload is the signed one,
    and the key the storage hands out for the header's key id and the client named as issuer made the signature -/
theorem checkSignature_genuine {now : Int} {t : Token} {p : Payload} {j : JWS} {s : JSig} {c0 : Claims} {reg : List (String × JWK)} {k : JWK}
    (hjws : t.jws = some j) (hsig : j.Signatures = [s]) (hin : Gen.defaultSigAlgs.contains s.Header.Algorithm = true)
    (hbytes : p.bytes = j.payload.bytes)
    (hfind : (clientKeys reg c0.iss).keys.find? (fun k => k.KeyID == s.Header.KeyID) = some k) (hgen : C02.genuine j s k = true) :
    CheckSignature now t p c0 [] (clientKeys reg c0.iss) = .ok (c0.SetSignatureAlgorithm s.Header.Algorithm) := by
  unfold CheckSignature
  have hall : joseParseSigned t (toJoseSignatureAlgorithms []) = .ok j := by
    unfold joseParseSigned toJoseSignatureAlgorithms; simp [hjws, hsig]; simpa using hin
  have hv : (clientKeys reg c0.iss).VerifySignature j = .ok j.payload := by
    unfold KeySet.VerifySignature GetKeyIDAndAlg
    simp only [hsig, clientKeys] at hfind ⊢
    simp only [hfind, jwsVerify, hsig]
    have : sigVerifies j s k = true := by simpa [C02.genuine, sigVerifies] using hgen
    simp [this]
  simp [hall, hsig, Go.len, HasLen.len, Go.index, hv, Go.bytesEqual, hbytes]

/-- an assertion properly made for the verifier's issuer / max age / offset - by the key the storage hands out for its key id
    and issuer, admitted algorithm, claim conditions met with the half-second margin - is accepted by every verifier with the
    storage-backed key set and the default subject check -/
theorem c14_proper_accepted_any {now : Int} {v : JWTProfileVerifier} {t : Token} {c : Claims} {alg : String}
    (hks : v.keySet.kind = .nilSet) (hcs : v.CheckSubject = none)
    (h : properlyMade v.Issuer v.MaxAgeIAT v.Offset v.Storage t now = some (c, alg)) :
    VerifyJWTAssertion now t v = .ok (c.SetSignatureAlgorithm alg) := by
  unfold properlyMade at h
  split at h; · simp at h
  rename_i hsegs
  split at h
  · rename_i p j hmid hjws
    split at h
    · rename_i c0 s hc0 hsig
      split at h
      · rename_i hcond
        simp at h
        obtain ⟨hc, halg⟩ := h
        subst hc halg
        simp only [Bool.and_eq_true, beq_iff_eq, claimClauses, List.all_cons, List.all_nil, Bool.and_true, decide_eq_true_eq, bne_iff_ne,
          ne_eq, Bool.or_eq_true, Bool.not_true, Bool.false_or] at hcond
        obtain ⟨⟨⟨hin, hbytes⟩, hkey⟩, haud, hexp, hiatp, hiatf, hiato, hsub⟩ := hcond
        have r1 := C01.tRound_second_bounds (now + v.Offset)
        have r2 := C01.tRound_second_bounds (now - v.MaxAgeIAT)
        have e1 : ParseToken now t = .ok (p, c0) := by
          unfold ParseToken; simp [hsegs, hmid, hc0]
        have e2 : CheckAudience now c0 v.Issuer = .ok () := C01.checkAudience_ok.2 (by simpa using haud)
        have e3 : CheckExpiration now c0 v.Offset = .ok () := by
          rw [C01.checkExpiration_ok]; simp only [C01.ns, halfSecond, second] at *; omega
        have e4 : CheckIssuedAt now c0 v.MaxAgeIAT v.Offset = .ok () := by
          rw [C01.checkIssuedAt_ok]
          simp only [C01.ns, C01.halfSecond, halfSecond, second] at *
          refine ⟨hiatp, by omega, ?_⟩
          rcases hiato with h0 | h0
          · left; exact h0
          · right; omega
        have e5 : applySubjectCheck (SubjectIsIssuer now) v.CheckSubject c0 = .ok () := by
          simp only [hcs, applySubjectCheck]; exact subjectIsIssuer_ok.2 hsub.symm
        obtain ⟨k, hfind, hgen⟩ : ∃ k, (clientKeys v.Storage c0.iss).keys.find? (fun k => k.KeyID == s.Header.KeyID) = some k ∧ C02.genuine j s k = true := by
          cases hf : (clientKeys v.Storage c0.iss).keys.find? (fun k => k.KeyID == s.Header.KeyID) with
          | none => simp [hf] at hkey
          | some k => exact ⟨k, rfl, by simpa [hf] using hkey⟩
        have e6 : CheckSignature now t p c0 [] (assertionKeys v c0.iss) = .ok (c0.SetSignatureAlgorithm s.Header.Algorithm) := by
          rw [assertionKeys_storage hks]
          exact checkSignature_genuine hjws hsig hin hbytes hfind hgen
        exact verifyJWTAssertion_ok.2 ⟨p, c0, e1, e2, e3, e4, e5, e6⟩
      · simp at h
    · simp at h
  · simp at h

/-- CHARACTERISATION (shape-independent) of the regenerated `AuthorizePrivateJWTKey` of the token-endpoint model -/
theorem genAuthorizePrivateJWTKey_ok {now t p c} : AuthorizePrivateJWTKey now t p = .ok c ↔
    ∃ j, VerifyJWTAssertion now t p.JWTProfileVerifier = .ok j ∧ p.store.GetClientByClientID j.iss = .ok c ∧ c.auth = Const.AuthMethodPrivateKeyJWT := by
  unfold AuthorizePrivateJWTKey
  -- field or getter, whichever the Go code reads the issuer through
  simp only [Provider.Storage, Claims.Issuer, Claims.GetIssuer, OPClient.AuthMethod]
  go_leaf

/-- the authenticated identity of `private_key_jwt` is exactly the assertion's issuer, and only for
    clients registered for that method -/
theorem c14_private_key_client {now t p c} (h : AuthorizePrivateJWTKey now t p = .ok c) :
    ∃ j, VerifyJWTAssertion now t p.JWTProfileVerifier = .ok j ∧ p.store.GetClientByClientID j.iss = .ok c ∧
      c.auth = Const.AuthMethodPrivateKeyJWT ∧
      assertionOK p.issuer p.jwtMaxAgeIAT p.jwtOffset true p.store.keyRegistry t now j = none := by
  obtain ⟨j, hj, hc, ha⟩ := genAuthorizePrivateJWTKey_ok.1 h
  refine ⟨j, hj, hc, ha, ?_⟩
  have := c14_assertion_sound (v := p.JWTProfileVerifier) (by rfl) hj
  simpa [Provider.JWTProfileVerifier] using this

/-- CHARACTERISATION (shape-independent) of the regenerated `ParseRequestObject` -/
theorem parseRequestObject_ok {now a st issuer a'} : ParseRequestObject now a st issuer = .ok a' ↔
    ∃ p ro0 ro, ParseToken now a.RequestToken = .ok (p, ro0) ∧
      (ro0.clientID = "" ∨ ro0.clientID = a.ClientID) ∧ (ro0.ro.ResponseType = "" ∨ ro0.ro.ResponseType = a.ResponseType) ∧
      ro0.iss = ro0.clientID ∧ issuer ∈ ro0.aud ∧
      CheckSignature now a.RequestToken p ro0 [] (jwtProfileKeySetS st ro0.iss) = .ok ro ∧
      a' = CopyRequestObjectToAuthRequest now a ro := by
  unfold ParseRequestObject Claims.ClientID Claims.ResponseType Claims.Issuer Claims.Audience Go.contains Go.nil HasNil.nilv instHasNilList
  constructor
  · intro h
    try simp only [] at h
    repeat' (split at h <;> try cases h)
    refine ⟨_, _, _, ‹_›, ?_, ?_, ?_, ?_, ‹_›, rfl⟩ <;> grind
  · rintro ⟨p, ro0, ro, h1, h2, h3, h4, h5, h6, rfl⟩
    simp only [h1, h6]
    go_leaf

/-- what an accepted request object must have been: a token signed by a key registered for the client
    it names as issuer, the issuer equal to its client_id claim, this provider in the audience, and
    client_id / response_type agreeing with the plain parameters; only then are parameters copied -/
theorem c14_request_object_sound {now a st issuer a'} (h : ParseRequestObject now a st issuer = .ok a') :
    ∃ p ro0 ro, ParseToken now a.RequestToken = .ok (p, ro0) ∧
      (ro0.clientID = "" ∨ ro0.clientID = a.ClientID) ∧ (ro0.ro.ResponseType = "" ∨ ro0.ro.ResponseType = a.ResponseType) ∧
      ro0.iss = ro0.clientID ∧ issuer ∈ ro0.aud ∧
      C02.acceptedOK [] (clientKeys st.keyRegistry ro0.iss) a.RequestToken ro = none ∧
      a' = CopyRequestObjectToAuthRequest now a ro := by
  obtain ⟨p, ro0, ro, hp, h1, h2, h3, h4, hs, ha⟩ := parseRequestObject_ok.1 h
  have hsound := C02.parse_and_signature_sound hp hs
  exact ⟨p, ro0, ro, hp, h1, h2, h3, h4, by simpa [jwtProfileKeySetS, clientKeys_eq] using hsound.1, ha⟩

end C14
