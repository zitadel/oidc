/-
  C04: everything the check builds and audits (checklib/props.d/C04.json `proof_module`).
    Proofs/C04.lean           function level: characterisation lemmas of the regenerated token-endpoint decision functions, PKCE, redirect_uri
    Proofs/C04History.lean    history level: the observer, the invariant `Inv04` and its induction step
    Proofs/C04Tokens.lean     the tokens of a response carry the request's values (regenerated issuance code)
    Proofs/C04Faults.lean     histories with a storage fault at any storage call of any exchange; `c04_history`, `c04_single_use`
    Proofs/C04Concurrent.lean two exchanges served concurrently: which storage contract single use rests on
    Proofs/C04Parse.lean      request parsing on both routers: the regenerated handlers ARE the history model's skeleton
    Proofs/C04RO.lean         requests with a signed request object: the stored challenge is the effective one (C19.copy_char composed with the exchange theorem)
    Proofs/C04ConcurrentWire.lean  the lookup step of the concurrent model IS the regenerated handler on its own raw request
    Proofs/C04SC.lean         client authentication of the code grant when the JWTProfileVerifier carries any subject check
-/
import OidcModel.Proofs.C04History
import OidcModel.Proofs.C04Tokens
import OidcModel.Proofs.C04Faults
import OidcModel.Proofs.C04Concurrent
import OidcModel.Proofs.C04Parse
import OidcModel.Proofs.C04ConcurrentWire
import OidcModel.Proofs.C04SC
import OidcModel.Proofs.C04RO
