/-
  C04 over histories in which ANY storage call of ANY code exchange may fail (Model/FlowC04X.lean `stepFault`).

  `OpX` = an operation of the base model or a code exchange with a fault at a given storage call; `runObsX` runs the observer
  of Spec/FlowObs.lean next to the model as `runObs` does.  `c04_history_faults`: from an initial situation, for every list of
  such operations, the reference monitor has nothing to object to any step; `c04_fault_fails_closed`: a fault the code reports
  (every call of `CreateTokenResponse` is `errReturned` - regenerated, `callees_fatal`) never ends in tokens;
  `c04_single_use_faults`: two successful exchanges of one code string are separated by a callback handing it out again -
  whatever faults happened before, between and after.  A history of the base model is a history without faulty exchanges
  (`runObsX_base`): `c04_history`, `c04_history_from` and `c04_single_use` are the fault theorems at such a history.
-/
import OidcModel.Proofs.C04History
import OidcModel.Model.FlowC04X

namespace FlowObs.C04F   -- (own sub-namespace: Proofs/C07Wire.lean defines OpX / stepObsX / runObsX … of its own in FlowObs)
open Go Gen Hand Flow FlowX FlowObs

inductive OpX
  | base (op : Flow.Op)
  | exchangeFault (rt : Router) (req : AccessTokenRequest) (ha : Bool) (f : FaultAt)
  deriving Repr

def stepX (now : Int) (s : Flow.St) : OpX → Flow.St × Flow.Out
  | .base op => Flow.step now s op
  | .exchangeFault rt req ha f => stepFault now s rt req ha f

/-- how an onlooker reads an extended operation: a faulty exchange is a code presented at the token endpoint, like any other -/
def opOf : OpX → Flow.Op
  | .base op => op
  | .exchangeFault rt req ha _ => .exchangeDeleteFails rt req ha

def stepObsX (now : Int) (so : Flow.St × ObsState) (op : OpX) : (Flow.St × ObsState) × (Flow.Out × Option String × Option String) :=
  let r := stepX now so.1 op
  match eventOf so.1 r.1 (opOf op) r.2 with
  | none => ((r.1, so.2), (r.2, none, none))
  | some e => let v := observe now so.2 e; ((r.1, v.1), (r.2, v.2.1, v.2.2))

def runObsX (now : Int) (so : Flow.St × ObsState) : List OpX → (Flow.St × ObsState) × List (Flow.Out × Option String × Option String)
  | [] => (so, [])
  | op :: rest =>
    let r := stepObsX now so op
    let rr := runObsX now r.1 rest
    (rr.1, r.2 :: rr.2)

theorem stepObsX_base (now : Int) (so : Flow.St × ObsState) (op : Flow.Op) : stepObsX now so (.base op) = stepObs now so op := rfl

/-- the regenerated fact the fault model rests on: a failure inside any of the three calls of `CreateTokenResponse` that touch
    the storage ends the request with an error (whether the tokens exist by then - `mintedBefore` - is read off the same
    regenerated list and may change with a benign reordering; nothing here depends on it) -/
theorem callees_fatal : calleeFatal "CreateAccessToken" = true ∧ calleeFatal "CreateIDToken" = true ∧ calleeFatal "DeleteAuthRequest" = true := by decide

theorem inv04_delete {s : Flow.St} {o : ObsState} (h : Inv04 s o) (id : String) : Inv04 (deleteAuthRequest s id) o := h.delete id

theorem inv04_effects {s : Flow.St} {o : ObsState} (h : Inv04 s o) (i : IssueFor) (callee : String) (inner : Bool) :
    Inv04 (effectsBefore s i callee inner) o := by
  have hm : ∀ b : Bool, Inv04 (if b = true then mintTokens s i else s) o := by
    intro b
    cases b
    · exact h
    · obtain ⟨m1, m2, m3, m4⟩ := mintTokens_auth s i
      exact h.of_same m1 m2 m3 m4 rfl rfl
  unfold effectsBefore
  cases i with
  | code a c k =>
    simp only []
    split
    · exact inv04_delete (hm _) a.id
    · exact hm _
  | refresh r c k => exact hm _

theorem effectsBefore_delete (s : Flow.St) (i : IssueFor) (inner : Bool) :
    effectsBefore s i "DeleteAuthRequest" inner = if tokensBeforeDelete then mintTokens s i else s := by
  have hb : before "DeleteAuthRequest" "DeleteAuthRequest" = false := by
    unfold before; cases idxOf "DeleteAuthRequest" <;> simp
  have ht : before "CreateAccessToken" "DeleteAuthRequest" = tokensBeforeDelete := rfl
  unfold effectsBefore
  cases i <;> simp [hb, ht]

/-- a faulty exchange, by what it does: it refuses and leaves the storage alone; it ends in an error after
    `CreateTokenResponse` had some of its effects; or - a failure the code swallows - it is the fault-free exchange -/
theorem stepFault_cases (now : Int) (s : Flow.St) (rt : Router) (req : AccessTokenRequest) (ha : Bool) (f : FaultAt) :
    (∃ e, stepFault now s rt req ha f = (s, .error e)) ∨
    (∃ i callee inner, stepFault now s rt req ha f = (effectsBefore s i callee inner, .error "ErrServerError")) ∨
    (∃ callee, f = .issuing callee ∧ calleeFatal callee = false ∧
      stepFault now s rt req ha f = Flow.step now s (.exchange rt req ha)) := by
  cases f with
  | validation site => exact .inl ⟨_, rfl⟩
  | createTokens =>
    simp only [stepFault]
    split
    · exact .inl ⟨_, rfl⟩
    · exact .inr (.inl ⟨_, _, _, rfl⟩)
  | issuing callee =>
    by_cases hdel : callee = "DeleteAuthRequest"
    · -- the fault of the base model
      simp only [stepFault, hdel, beq_self_eq_true, if_true, step_exchangeDeleteFails]
      split
      · exact .inl ⟨_, rfl⟩
      · exact .inr (.inl ⟨_, "DeleteAuthRequest", false, by rw [effectsBefore_delete]⟩)
    · have hne : (callee == "DeleteAuthRequest") = false := by simpa using hdel
      simp only [stepFault, hne, Bool.false_eq_true, if_false, step_exchange]
      cases codeExchange now rt s.p req ha with
      | error e => exact .inl ⟨e, rfl⟩
      | ok i =>
        cases hfat : calleeFatal callee
        · exact .inr (.inr ⟨callee, rfl, hfat, rfl⟩)
        · exact .inr (.inl ⟨_, _, _, rfl⟩)

theorem eventOf_exchangeDeleteFails (s s' : Flow.St) (rt : Router) (req : AccessTokenRequest) (ha : Bool) (out : Flow.Out) :
    eventOf s s' (.exchangeDeleteFails rt req ha) out = eventOf s s' (.exchange rt req ha) out := by
  cases out <;> (try rename_i i _; cases i) <;> rfl

theorem good04_fault {now : Int} {s : Flow.St} {o : ObsState} (h : Inv04 s o) (rt : Router) (req : AccessTokenRequest) (ha : Bool) (f : FaultAt) :
    Inv04 (stepObsX now (s, o) (.exchangeFault rt req ha f)).1.1 (stepObsX now (s, o) (.exchangeFault rt req ha f)).1.2 ∧
      (stepObsX now (s, o) (.exchangeFault rt req ha f)).2.2.1 = none := by
  rcases stepFault_cases now s rt req ha f with ⟨e, he⟩ | ⟨i, callee, inner, he⟩ | ⟨callee, rfl, _, he⟩
  · simp only [stepObsX, stepX, opOf, he, eventOf, observe, judge_none, and_true]
    exact h.of_same rfl rfl rfl (CfgEq.refl s) rfl rfl
  · simp only [stepObsX, stepX, opOf, he, eventOf, observe, judge_none, and_true]
    exact (inv04_effects h i callee inner).of_same rfl rfl rfl (CfgEq.refl _) rfl rfl
  · have hstep : stepObsX now (s, o) (.exchangeFault rt req ha (.issuing callee)) = stepObs now (s, o) (.exchange rt req ha) := by
      simp only [stepObsX, stepX, opOf, he, eventOf_exchangeDeleteFails]
      rfl
    rw [hstep]
    exact good04_step now h (.exchange rt req ha)

theorem good04_stepX (now : Int) {s : Flow.St} {o : ObsState} (h : Inv04 s o) (op : OpX) :
    Inv04 (stepObsX now (s, o) op).1.1 (stepObsX now (s, o) op).1.2 ∧ (stepObsX now (s, o) op).2.2.1 = none := by
  cases op with
  | base op => rw [stepObsX_base]; exact good04_step now h op
  | exchangeFault rt req ha f => exact good04_fault h rt req ha f

theorem inv04_runX (now : Int) {s : Flow.St} {o : ObsState} (h : Inv04 s o) (ops : List OpX) :
    Inv04 (runObsX now (s, o) ops).1.1 (runObsX now (s, o) ops).1.2 ∧ ∀ x ∈ (runObsX now (s, o) ops).2, x.2.1 = none := by
  induction ops generalizing s o with
  | nil => exact ⟨h, by intro x hx; cases hx⟩
  | cons op rest ih =>
    obtain ⟨hinv, hv⟩ := good04_stepX now h op
    obtain ⟨i1, i2⟩ := ih hinv
    exact ⟨i1, List.forall_mem_cons.2 ⟨hv, i2⟩⟩

theorem runObsX_base (now : Int) (so : Flow.St × ObsState) (ops : List Flow.Op) : runObsX now so (ops.map .base) = runObs now so ops := by
  induction ops generalizing so with
  | nil => rfl
  | cons op rest ih => simp only [List.map_cons, runObsX, runObs, stepObsX_base, ih]

end FlowObs.C04F

namespace C04
open FlowObs FlowObs.C04F Flow FlowX

/-- **C04 over histories with storage faults at every index.**  From an initial situation, for EVERY list of operations of the
    base model and code exchanges during which the k-th storage call fails - a read of the validation phase, the token-creating
    call, a call inside `CreateAccessToken` / `CreateIDToken` after the tokens were created, `DeleteAuthRequest` - in any order
    and number, on either router: the reference monitor has nothing to object to any step. -/
theorem c04_history_faults (now : Int) (s : Flow.St) (o : ObsState) (h0 : Init s o) (ops : List OpX) :
    ∀ x ∈ (runObsX now (s, o) ops).2, x.2.1 = none :=
  (inv04_runX now h0.inv04 ops).2

/-- **C04 over histories.**  From an initial situation (empty storage; the observer knows the same clients, issuer and
    assertion settings), for EVERY list of operations - authorize / login / callback / code exchange / code exchange with a
    failing `DeleteAuthRequest` / refresh, on either router, in any order and number - the reference monitor has nothing
    to object to any step of the model: no tokens for a code that was never handed out, was already used (single use),
    belongs to a request that is not completed, or to another client than the authenticated (public: identified) caller;
    the code grant is registered, redirect_uri equal, PKCE verified whenever the request carried a challenge and demanded
    of public clients; the tokens carry subject, client, scopes and nonce of the request; no code is handed out for an
    unknown or uncompleted request. -/
theorem c04_history (now : Int) (s : Flow.St) (o : ObsState) (h0 : Init s o) (ops : List Flow.Op) :
    ∀ x ∈ (runObs now (s, o) ops).2, x.2.1 = none :=
  runObsX_base now (s, o) ops ▸ c04_history_faults now s o h0 (ops.map .base)

/-- the same from any state the invariant holds in (in particular: any state reached by a history) -/
theorem c04_history_from (now : Int) (s : Flow.St) (o : ObsState) (h : Inv04 s o) (ops : List Flow.Op) :
    Inv04 (runObs now (s, o) ops).1.1 (runObs now (s, o) ops).1.2 ∧ ∀ x ∈ (runObs now (s, o) ops).2, x.2.1 = none :=
  runObsX_base now (s, o) ops ▸ inv04_runX now h (ops.map .base)

/-- a fault the code reports never ends in tokens: every faulty exchange is answered with an error -/
theorem c04_fault_fails_closed (now : Int) (s : Flow.St) (rt : Router) (req : AccessTokenRequest) (ha : Bool) (f : FaultAt)
    (hf : ∀ callee, f = .issuing callee → calleeFatal callee = true) :
    ∃ e, (stepFault now s rt req ha f).2 = .error e := by
  rcases stepFault_cases now s rt req ha f with ⟨e, he⟩ | ⟨i, callee, inner, he⟩ | ⟨callee, rfl, hnf, _⟩
  · exact ⟨e, by rw [he]⟩
  · exact ⟨_, by rw [he]⟩
  · rw [hf callee rfl] at hnf; cases hnf

/-- ... and - as long as the deletion of the request is not ordered before the failing call (it is the LAST storage call of
    `CreateTokenResponse`) - leaves the authorization request and its code where they were: the client may retry -/
theorem c04_fault_keeps_code (now : Int) (s : Flow.St) (rt : Router) (req : AccessTokenRequest) (ha : Bool) (f : FaultAt)
    (hf : ∀ callee, f = .issuing callee → calleeFatal callee = true)
    (hlast : ∀ callee, before "DeleteAuthRequest" callee = false) :
    (stepFault now s rt req ha f).1.store.authReqs = s.store.authReqs ∧ (stepFault now s rt req ha f).1.store.codes = s.store.codes := by
  have heff : ∀ (i : IssueFor) (callee : String) (inner : Bool),
      (effectsBefore s i callee inner).store.authReqs = s.store.authReqs ∧ (effectsBefore s i callee inner).store.codes = s.store.codes := by
    intro i callee inner
    have hm : ∀ b : Bool, (if b = true then mintTokens s i else s).store.authReqs = s.store.authReqs ∧
        (if b = true then mintTokens s i else s).store.codes = s.store.codes := by
      intro b; cases b
      · exact ⟨rfl, rfl⟩
      · exact ⟨(mintTokens_auth s i).1, (mintTokens_auth s i).2.1⟩
    unfold effectsBefore
    cases i with
    | code a c k => simp only [hlast, Bool.and_false, Bool.false_eq_true, if_false]; exact hm _
    | refresh r c k => exact hm _
  rcases stepFault_cases now s rt req ha f with ⟨e, he⟩ | ⟨i, callee, inner, he⟩ | ⟨callee, rfl, hnf, _⟩
  · rw [he]; exact ⟨rfl, rfl⟩
  · rw [he]; exact heff i callee inner
  · rw [hf callee rfl] at hnf; cases hnf

end C04

/-! ## Single use across faults -/

namespace FlowObs.C04F   -- (own sub-namespace: Proofs/C07Wire.lean defines OpX / stepObsX / runObsX … of its own in FlowObs)
open Go Gen Hand Flow FlowX FlowObs

theorem stepObsX_state (now : Int) (s : Flow.St) (o : ObsState) (op : OpX) : (stepObsX now (s, o) op).1.1 = (stepX now s op).1 := by
  simp only [stepObsX]; split <;> rfl

def runX (now : Int) (s : Flow.St) : List OpX → Flow.St
  | [] => s
  | op :: rest => runX now (stepX now s op).1 rest

theorem runObsX_state (now : Int) (s : Flow.St) (o : ObsState) (ops : List OpX) : (runObsX now (s, o) ops).1.1 = runX now s ops := by
  induction ops generalizing s o with
  | nil => rfl
  | cons op rest ih =>
    show (runObsX now (stepObsX now (s, o) op).1 rest).1.1 = runX now (stepX now s op).1 rest
    have : (stepObsX now (s, o) op).1 = ((stepX now s op).1, (stepObsX now (s, o) op).1.2) := by rw [← stepObsX_state]
    rw [this, ih]

/-- a `.code` event for `code` needs a base `callback … code`: the callback answers with the code of the operation, and faulty
    exchanges never hand out codes -/
theorem eventOfX_code {s : Flow.St} {op : OpX} {now : Int} {id code : String}
    (h : eventOf s (stepX now s op).1 (opOf op) (stepX now s op).2 = some (.code id code)) : op = .base (.callback id code) := by
  obtain ⟨code', hop, hout⟩ := eventOf_code_inv h
  cases op with
  | base op =>
    cases (show op = .callback id code' from hop)
    obtain ⟨_, _, _, hc⟩ := callback_guard now s id code' code hout
    rw [hc]
  | exchangeFault rt req ha f => cases hop

theorem spent_runX {now : Int} {code : String} (ops : List OpX) (hno : ∀ id, OpX.base (.callback id code) ∉ ops)
    {s : Flow.St} {o : ObsState} (h : Spent o.m04 code) : Spent (runObsX now (s, o) ops).1.2.m04 code := by
  induction ops generalizing s o with
  | nil => exact h
  | cons op rest ih =>
    have hrest : ∀ id, OpX.base (.callback id code) ∉ rest := fun id hm => hno id (List.mem_cons_of_mem _ hm)
    have hstep : Spent (stepObsX now (s, o) op).1.2.m04 code := by
      simp only [stepObsX]
      cases hev : eventOf s (stepX now s op).1 (opOf op) (stepX now s op).2 with
      | none => exact h
      | some e =>
        apply spent_observe h e
        intro id he
        subst he
        have := eventOfX_code hev
        exact hno id (by rw [this]; exact List.mem_cons_self)
    exact ih hrest hstep

end FlowObs.C04F

namespace C04
open FlowObs FlowObs.C04F Flow FlowX

/-- **Single use, across storage faults.**  In any history of base operations and faulty exchanges: `pre`, a SUCCESSFUL exchange
    of `req1.Code`, `mid`, a successful exchange of the same code string - then `mid` contains a callback that hands that code
    out again.  (Faulty exchanges of the code in `pre` - which leave it redeemable - and in `mid` do not change that.) -/
theorem c04_single_use_faults (now : Int) (s : Flow.St) (hr : s.store.authReqs = []) (hc : s.store.codes = []) (hrt : s.store.refresh = [])
    (pre mid : List OpX) (rt1 rt2 : Router) (req1 req2 : AccessTokenRequest) (ha1 ha2 : Bool) (i1 i2 : IssueFor) (n1 n2 : Option String)
    (h1 : (Flow.step now (runX now s pre) (.exchange rt1 req1 ha1)).2 = .issued i1 n1)
    (h2 : (Flow.step now (runX now (Flow.step now (runX now s pre) (.exchange rt1 req1 ha1)).1 mid) (.exchange rt2 req2 ha2)).2 = .issued i2 n2)
    (hcode : req2.Code = req1.Code) :
    ∃ id, OpX.base (.callback id req1.Code) ∈ mid := by
  apply Classical.byContradiction
  intro hno
  have hno' : ∀ id, OpX.base (.callback id req1.Code) ∉ mid := fun id hm => hno ⟨id, hm⟩
  obtain ⟨hinv1, _⟩ := inv04_runX now (init_obsOf hr hc hrt).inv04 pre
  rw [runObsX_state] at hinv1
  obtain ⟨_, hspent⟩ := c04_consumed now hinv1 rt1 req1 ha1 i1 n1 h1
  obtain ⟨hinv2, _⟩ := good04_step now hinv1 (.exchange rt1 req1 ha1)
  rw [stepObs_fst] at hinv2
  have hspent3 := spent_runX (now := now) mid hno' (s := (Flow.step now (runX now s pre) (.exchange rt1 req1 ha1)).1) hspent
  obtain ⟨hinv3, _⟩ := inv04_runX now hinv2 mid
  rw [runObsX_state] at hinv3
  exact spent_not_issued hinv3 (hcode ▸ hspent3) h2

theorem runX_base (now : Int) (s : Flow.St) (ops : List Flow.Op) : runX now s (ops.map .base) = (Flow.run now s ops).1 := by
  rw [← runObsX_state now s (obsOf s), runObsX_base, (runObs_run now s (obsOf s) ops).1]

/-- **Single use.**  In any history, two successful exchanges of the same code string are separated by a callback that
    hands out that code (again): `pre`, a successful exchange of `req1.Code`, `mid`, a successful exchange of the same code
    string - then `mid` contains a `callback … code`. -/
theorem c04_single_use (now : Int) (s : Flow.St) (hr : s.store.authReqs = []) (hc : s.store.codes = []) (hrt : s.store.refresh = [])
    (pre mid : List Flow.Op) (rt1 rt2 : Router) (req1 req2 : AccessTokenRequest) (ha1 ha2 : Bool) (i1 i2 : IssueFor) (n1 n2 : Option String)
    (h1 : (Flow.step now (Flow.run now s pre).1 (.exchange rt1 req1 ha1)).2 = .issued i1 n1)
    (h2 : (Flow.step now (Flow.run now (Flow.step now (Flow.run now s pre).1 (.exchange rt1 req1 ha1)).1 mid).1 (.exchange rt2 req2 ha2)).2 = .issued i2 n2)
    (hcode : req2.Code = req1.Code) :
    ∃ id, Flow.Op.callback id req1.Code ∈ mid := by
  rw [← runX_base] at h1 h2
  rw [← runX_base] at h2
  obtain ⟨id, hm⟩ := c04_single_use_faults now s hr hc hrt (pre.map .base) (mid.map .base) rt1 rt2 req1 req2 ha1 ha2 i1 i2 n1 n2 h1 h2 hcode
  obtain ⟨op, hop, he⟩ := List.mem_map.1 hm
  cases he
  exact ⟨id, hop⟩

/-! Non-vacuity: the fault hits each kind of storage call in turn; the code survives, the retry succeeds once, the replay fails. -/
def demoReq : AccessTokenRequest := { Code := "c1", RedirectURI := "https://rp.example/cb", ClientID := "web", ClientSecret := "s3cret" }
def demoFaultOps (rt : Router) (f : FaultAt) : List OpX :=
  [.base demoAuthorize, .base (.login "ar1" "user1" 1000), .base (.callback "ar1" "c1"), .exchangeFault rt demoReq false f,
   .base (demoExchange rt), .base (demoExchange rt)]

example : ∀ rt : Router, tokensBeforeDelete = true → ∀ f ∈ [FaultAt.validation "AuthRequestByCode", .validation "GetClientByClientID", .validation "AuthorizeClientIDSecret",
      .createTokens, .issuing "CreateAccessToken", .issuing "CreateIDToken", .issuing "DeleteAuthRequest"],
    ((runObsX 0 (demoState, obsOf demoState) (demoFaultOps rt f)).2.map fun x => (outKind x.1 == "tokens", x.2.1)) =
      [(false, none), (false, none), (false, none), (false, none), (true, none), (false, none)] := by
  intro rt; cases rt <;> decide +kernel

/-- whatever the order of creation and deletion: no step of these histories is objected to, and tokens are handed out at most once -/
example : ∀ rt : Router, ∀ f ∈ [FaultAt.validation "AuthRequestByCode", .createTokens, .issuing "CreateAccessToken", .issuing "CreateIDToken", .issuing "DeleteAuthRequest"],
    let r := (runObsX 0 (demoState, obsOf demoState) (demoFaultOps rt f)).2
    r.all (fun x => x.2.1.isNone) = true ∧ (r.filter fun x => outKind x.1 == "tokens").length ≤ 1 := by
  intro rt; cases rt <;> decide +kernel

/-- the refresh token the storage created before a late fault stays behind (the retry gets the NEXT number); an early fault leaves none -/
example : tokensBeforeDelete = true →
    ((runObsX 0 (demoState, obsOf demoState) (demoFaultOps .provider (.issuing "CreateIDToken"))).2.map fun x => showOutShort x.1).getD 4 "" = "tokens:user1:web:rt2" ∧
    ((runObsX 0 (demoState, obsOf demoState) (demoFaultOps .provider .createTokens)).2.map fun x => showOutShort x.1).getD 4 "" = "tokens:user1:web:rt1" := by decide +kernel

end C04
