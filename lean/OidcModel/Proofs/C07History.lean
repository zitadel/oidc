/-
  C07 at HISTORY level: over every list of operations the stateful model (Model/Flow.lean around the REGENERATED
  refresh functions and `needsRefreshToken`) satisfies the C07 reference monitor - a refresh succeeds only with a
  live (unrotated) refresh token of the caller's own client, with refresh enabled and registered, requested ⊆
  granted, granted = requested-or-previous, subject / audience / auth time kept, a NEW token, the old one handed
  to the storage (after which it no longer resolves and the monitor holds it dead).  The ledger of scope lineages
  (`lineage`) is kept here; that every refresh token stays within the scopes of the code grant it descends from
  (`C07.c07_scope_chain`) follows in Proofs/C07Wire.lean from the origins of the tokens.
-/
import OidcModel.Proofs.C04History

namespace FlowObs
open Go Gen Hand Flow

def newCodeRT (s : Flow.St) (a : AuthReq) : RefreshReq :=
  { token := "rt" ++ toString s.nextRT, clientID := a.clientID, subject := a.subject, scopes := a.scopes,
    audience := [a.clientID], authTime := a.authTime }

theorem mintTokens_code_yes {s : Flow.St} {a : AuthReq} {c : OPClient} {k : String} (h : wantsRefresh (.code a c k) = true) :
    (mintTokens s (.code a c k)).store.refresh = s.store.refresh ++ [newCodeRT s a] ∧
    (mintTokens s (.code a c k)).nextRT = s.nextRT + 1 ∧ newRefresh s (.code a c k) = some ("rt" ++ toString s.nextRT) := by
  simp [mintTokens, newRefresh, h, newCodeRT, St.store, St.setStore]

theorem mintTokens_no {s : Flow.St} {i : IssueFor} (h : wantsRefresh i = false) :
    mintTokens s i = s ∧ newRefresh s i = none := by
  simp [mintTokens, newRefresh, h]

theorem mintTokens_refresh (s : Flow.St) (r : RefreshReq) (c : OPClient) (cur : String) :
    (mintTokens s (.refresh r c cur)).store.refresh = s.store.refresh.filter (·.token != cur) ++ [{ r with token := "rt" ++ toString s.nextRT }] ∧
    (mintTokens s (.refresh r c cur)).nextRT = s.nextRT + 1 ∧ newRefresh s (.refresh r c cur) = some ("rt" ++ toString s.nextRT) := by
  simp [mintTokens, newRefresh, wantsRefresh_refresh, St.store, St.setStore]

theorem applyIssue_refreshPart (s : Flow.St) (i : IssueFor) :
    (applyIssue s i).store.refresh = (mintTokens s i).store.refresh ∧ (applyIssue s i).nextRT = (mintTokens s i).nextRT := by
  cases i with
  | code a c k => simp [applyIssue, deletes_authRequest, deleteAuthRequest, St.store, St.setStore]
  | refresh r c k => exact ⟨rfl, rfl⟩

theorem rt_ne_empty (k : Nat) : "rt" ++ toString k ≠ "" := by
  intro h
  have := congrArg String.length h
  simp [String.length_append] at this

/-- the client can authenticate at all under this configuration -/
def AuthCapable (p : Provider) (c : OPClient) : Prop :=
  c.auth = Const.AuthMethodNone ∨
  (c.auth = Const.AuthMethodPrivateKeyJWT ∧ p.pkjwtSupported = true ∧ p.is_JWTAuthorizationGrantExchanger = true) ∨
  c.auth = Const.AuthMethodBasic ∨ (c.auth = Const.AuthMethodPost ∧ p.postSupported = true)

theorem authCapable_of_authAs {now : Int} {p : Provider} {id secret ty : String} {t : Token} {c : OPClient}
    (h : AuthAs now p id secret ty t c) : p.store.clients.find? (·.id == c.id) = some c ∧ AuthCapable p c := by
  rcases h with ⟨_, h1, h2, j, _, hget, hauth⟩ | ⟨_, hget, hrest⟩
  · exact ⟨(getClient_find hget).1, Or.inr (Or.inl ⟨hauth, h1, h2⟩)⟩
  · refine ⟨(getClient_find hget).1, ?_⟩
    rcases hrest with hnone | ⟨_, hpost, hsecret⟩
    · exact Or.inl hnone
    · obtain ⟨c', hc', hk, _⟩ := C05.secret_ok hsecret
      obtain ⟨hfind, _⟩ := C05.getClient_ok hget
      rw [hfind] at hc'; cases hc'
      rcases hk with hb | hp
      · exact Or.inr (Or.inr (Or.inl hb))
      · exact Or.inr (Or.inr (Or.inr ⟨hp, hpost hp⟩))

structure Inv07 (s : Flow.St) (o : ObsState) : Prop where
  cfg : SameCfg o.m07.base s.p
  flag : o.m07.refreshEnabled = s.p.refreshSupported
  /-- a token resolves in the storage iff the monitor holds it live - with the same grant -/
  live : ∀ tok, (s.store.refresh.find? (·.token == tok)).map toRT = o.m07.rts.find? (fun t => t.token == tok && t.live)
  /-- refresh tokens are the storage's own fresh ones -/
  fresh : ∀ r ∈ s.store.refresh, ∃ k, k < s.nextRT ∧ r.token = "rt" ++ toString k
  /-- every stored token belongs to a registered client that can authenticate under this configuration -/
  capable : ∀ r ∈ s.store.refresh, ∃ c, s.p.store.clients.find? (·.id == r.clientID) = some c ∧ AuthCapable s.p c

theorem AuthCapable.trans {s s' : Flow.St} {c : OPClient} (h : AuthCapable s.p c) (e : CfgEq s s') : AuthCapable s'.p c := by
  obtain ⟨_, _, _, _, _, e6, e7, e8⟩ := e
  unfold AuthCapable at *
  rw [e6, e7, e8]; exact h

theorem Inv07.of_same {s s' : Flow.St} {o o' : ObsState} (h : Inv07 s o)
    (h1 : s'.store.refresh = s.store.refresh) (h2 : s'.nextRT = s.nextRT) (h3 : CfgEq s s') (h4 : o'.m07 = o.m07) : Inv07 s' o' := by
  refine ⟨?_, ?_, ?_, ?_, ?_⟩
  · rw [h4]; exact h.cfg.trans h3
  · rw [h4, h3.2.2.2.2.1]; exact h.flag
  · rw [h1, h4]; exact h.live
  · rw [h1, h2]; exact h.fresh
  · rw [h1]; intro r hr
    obtain ⟨c, hc, hcap⟩ := h.capable r hr
    have hcl : s'.p.store.clients = s.p.store.clients := h3.1
    exact ⟨c, by rw [hcl]; exact hc, hcap.trans h3⟩

theorem find?_rt_none {α : Type} {key : α → String} {n : Nat} {l : List α} (h : ∀ e ∈ l, ∃ k, k < n ∧ key e = "rt" ++ toString k) :
    l.find? (fun e => key e == "rt" ++ toString n) = none := by
  rw [List.find?_eq_none]
  intro e he hek
  obtain ⟨k, hk, hid⟩ := h e he
  have : "rt" ++ toString k = "rt" ++ toString n := by rw [← hid]; simpa using hek
  have := rt_inj this
  omega

theorem fresh_not_found {s : Flow.St} (hf : ∀ r ∈ s.store.refresh, ∃ k, k < s.nextRT ∧ r.token = "rt" ++ toString k)
    (l : List RefreshReq) (hl : ∀ r ∈ l, r ∈ s.store.refresh) : l.find? (·.token == "rt" ++ toString s.nextRT) = none :=
  find?_rt_none (key := fun r : RefreshReq => r.token) fun r hr => hf r (hl r hr)

theorem Inv07.next_ne {s : Flow.St} {o : ObsState} (h : Inv07 s o) {tok : String} {r : RefreshReq}
    (hf : s.store.refresh.find? (·.token == tok) = some r) : "rt" ++ toString s.nextRT ≠ tok := by
  intro he
  rw [← he, fresh_not_found h.fresh _ fun _ hr => hr] at hf
  cases hf

/-- a rotation - the records with token `cur` dropped, `new` with a token none of them has appended: `cur` no longer resolves,
    the new token resolves to `new` -/
theorem find?_rotated {l l' : List RefreshReq} {cur : String} {new : RefreshReq} (h : l' = l.filter (·.token != cur) ++ [new])
    (hne : new.token ≠ cur) (hnf : l.find? (·.token == new.token) = none) :
    l'.find? (·.token == cur) = none ∧ l'.find? (·.token == new.token) = some new := by
  subst h
  constructor
  · rw [List.find?_append, find?_filter_none (by simp)]
    simp [hne]
  · rw [List.find?_append, List.find?_eq_none.2 fun x hx => List.find?_eq_none.1 hnf x (List.mem_filter.1 hx).1]
    simp

/-- the storage keeps a part `l` of its records and gains `new` (fresh token), the monitor keeps `rts`, which agrees with `l`, and
    learns `new`: storage and monitor stay in step -/
theorem Inv07.mint {s s' : Flow.St} {o : ObsState} (h : Inv07 s o) {l : List RefreshReq} (hl : ∀ r ∈ l, r ∈ s.store.refresh)
    {rts : List C07.RT} (hlive : ∀ tok, (l.find? (·.token == tok)).map toRT = rts.find? (fun t => t.token == tok && t.live))
    {new : RefreshReq} (hnew : new.token = "rt" ++ toString s.nextRT)
    (h1 : s'.store.refresh = l ++ [new]) (h2 : s'.nextRT = s.nextRT + 1) (h3 : CfgEq s s')
    (hcap : ∃ c, s.p.store.clients.find? (·.id == new.clientID) = some c ∧ AuthCapable s.p c) {o' : ObsState}
    (h4 : o'.m07 = { o.m07 with rts := rts ++ [toRT new] }) : Inv07 s' o' := by
  have hcl : s'.p.store.clients = s.p.store.clients := h3.1
  refine ⟨?_, ?_, ?_, ?_, ?_⟩
  · rw [h4]; exact h.cfg.trans h3
  · rw [h4, h3.2.2.2.2.1]; exact h.flag
  · intro tok
    rw [h1, h4]
    simp only [List.find?_append]
    rw [← hlive tok]
    cases l.find? (·.token == tok) with
    | some x => simp
    | none => by_cases ht : (new.token == tok) = true <;> simp [ht, toRT]
  · intro r hr
    rw [h1] at hr; rw [h2]
    rcases List.mem_append.1 hr with hr | hr
    · obtain ⟨k, hk, hid⟩ := h.fresh r (hl r hr)
      exact ⟨k, by omega, hid⟩
    · exact ⟨s.nextRT, by omega, by rw [List.mem_singleton.1 hr]; exact hnew⟩
  · intro r hr
    rw [h1] at hr
    rcases List.mem_append.1 hr with hr | hr
    · obtain ⟨c, hc, hcp⟩ := h.capable r (hl r hr)
      exact ⟨c, by rw [hcl]; exact hc, hcp.trans h3⟩
    · obtain ⟨c, hc, hcp⟩ := hcap
      exact ⟨c, by rw [hcl, List.mem_singleton.1 hr]; exact hc, hcp.trans h3⟩

/-- what one step must deliver for the C07 induction: the invariant, and no objection -/
def Good07 (now : Int) (s : Flow.St) (o : ObsState) (op : Flow.Op) : Prop :=
  Inv07 (stepObs now (s, o) op).1.1 (stepObs now (s, o) op).1.2 ∧ (stepObs now (s, o) op).2.2.2 = none

theorem good07_authorize {now : Int} {s : Flow.St} {o : ObsState} (h : Inv07 s o) (a : AuthReq) (hint : FlowHint) :
    Good07 now s o (.authorize a hint) := by
  unfold Good07
  cases hv : GenFlow.ValidateAuthReqIDTokenHint now (fun _ => hint.token) hint.raw (hintVerifier s) with
  | error e =>
    rw [stepObs_eq (s' := s) (out := .error e) (by rw [step_authorize, hv])]
    exact ⟨h, rfl⟩
  | ok sub =>
    rw [stepObs_eq (s' := _) (out := _) (by rw [step_authorize, hv])]
    simp only [eventOf, St.store, St.setStore, List.getLast?_append, List.getLast?_singleton, Option.some_or, Option.map_some, observe, and_true]
    exact h.of_same rfl rfl ⟨rfl, rfl, rfl, rfl, rfl, rfl, rfl, rfl⟩ rfl

theorem good07_login {now : Int} {s : Flow.St} {o : ObsState} (h : Inv07 s o) (id subject : String) (authTime : Int) :
    Good07 now s o (.login id subject authTime) := by
  unfold Good07
  rw [stepObs_eq (s' := _) (out := _) rfl]
  simp only [eventOf, observe, and_true]
  exact h.of_same rfl rfl ⟨rfl, rfl, rfl, rfl, rfl, rfl, rfl, rfl⟩ rfl

theorem good07_callback {now : Int} {s : Flow.St} {o : ObsState} (h : Inv07 s o) (id code : String) :
    Good07 now s o (.callback id code) := by
  unfold Good07
  by_cases hid0 : id = ""
  · rw [stepObs_eq (s' := s) (out := .error "ErrInvalidRequest") (by rw [step_callback]; simp [hid0])]
    exact ⟨h, rfl⟩
  cases hf : s.store.authReqs.find? (·.id == id) with
  | none =>
    rw [stepObs_eq (s' := s) (out := .error "ErrInvalidRequest") (by rw [step_callback' now s code hid0, hf])]
    exact ⟨h, rfl⟩
  | some a =>
    by_cases hd : a.done = true
    · rw [stepObs_eq (s' := s.setStore { s.store with codes := (s.store.codes.filter (·.1 != code)) ++ [(code, id)] }) (out := .code code)
        (by rw [step_callback' now s code hid0, hf]; simp [hd])]
      simp only [eventOf, observe]
      split
      · exact ⟨h.of_same rfl rfl ⟨rfl, rfl, rfl, rfl, rfl, rfl, rfl, rfl⟩ rfl, rfl⟩
      · exact ⟨h.of_same rfl rfl ⟨rfl, rfl, rfl, rfl, rfl, rfl, rfl, rfl⟩ rfl, rfl⟩
    · rw [stepObs_eq (s' := s) (out := .error "ErrInteractionRequired") (by rw [step_callback' now s code hid0, hf]; simp [hd])]
      exact ⟨h, rfl⟩

/-- the first record the storage holds after a step and did not hold before it -/
def mintedRec (s s' : Flow.St) : Option RefreshReq :=
  s'.store.refresh.find? fun r => (s.store.refresh.find? (·.token == r.token)).isNone

theorem mintedIn_eq (s s' : Flow.St) : mintedIn s s' = (mintedRec s s').map toRT := rfl

theorem find?_known_none (l : List RefreshReq) : l.find? (fun r => (l.find? (·.token == r.token)).isNone) = none := by
  rw [List.find?_eq_none]
  intro r hr
  have : (l.find? (·.token == r.token)).isSome = true := find?_mem_isSome hr (by simp)
  cases hf : l.find? (·.token == r.token) with
  | none => rw [hf] at this; cases this
  | some _ => simp

theorem mintedRec_same {s s' : Flow.St} (h : s'.store.refresh = s.store.refresh) : mintedRec s s' = none := by
  unfold mintedRec
  rw [h, find?_known_none]

theorem mintedRec_append {s s' : Flow.St} {new : RefreshReq} (h1 : s'.store.refresh = s.store.refresh ++ [new])
    (hnew : s.store.refresh.find? (·.token == new.token) = none) : mintedRec s s' = some new := by
  unfold mintedRec
  rw [h1, List.find?_append, find?_known_none]
  simp [hnew]

theorem mintedIn_append {s s' : Flow.St} {new : RefreshReq} (h1 : s'.store.refresh = s.store.refresh ++ [new])
    (hnew : s.store.refresh.find? (·.token == new.token) = none) : mintedIn s s' = some (toRT new) := by
  rw [mintedIn_eq, mintedRec_append h1 hnew]; rfl

/-- the refresh-token side of a code exchange whose tokens were created in the storage (delivered or not) -/
theorem inv07_codeMint {now : Int} {s s' : Flow.St} {o o' : ObsState} (h : Inv07 s o) {a : AuthReq} {c : OPClient} {k : String}
    {id secret ty : String} {t : Token} (hauth : AuthAs now s.p id secret ty t c) (hcid : c.id = a.clientID)
    (hw : wantsRefresh (.code a c k) = true)
    (h1 : s'.store.refresh = (mintTokens s (.code a c k)).store.refresh) (h2 : s'.nextRT = (mintTokens s (.code a c k)).nextRT)
    (h3 : CfgEq s s') (h4 : o'.m07 = C07.onIssue o.m07 (toRT (newCodeRT s a))) : Inv07 s' o' := by
  obtain ⟨m1, m2, _⟩ := mintTokens_code_yes (s := s) hw
  obtain ⟨hfind, hcap⟩ := authCapable_of_authAs hauth
  exact h.mint (fun _ hr => hr) h.live (new := newCodeRT s a) rfl (by rw [h1, m1]) (by rw [h2, m2]) h3
    ⟨c, by show s.p.store.clients.find? (·.id == a.clientID) = some c; rw [← hcid]; exact hfind, hcap⟩ h4

theorem recOf_new {s s' : Flow.St} {new : RefreshReq} (hf : ∀ r ∈ s.store.refresh, ∃ k, k < s.nextRT ∧ r.token = "rt" ++ toString k)
    (l : List RefreshReq) (hl : ∀ r ∈ l, r ∈ s.store.refresh)
    (h1 : s'.store.refresh = l ++ [new]) (hnew : new.token = "rt" ++ toString s.nextRT) :
    recOf s' (some ("rt" ++ toString s.nextRT)) = some new := by
  simp only [recOf, Option.bind_some]
  rw [h1, List.find?_append, fresh_not_found hf l hl]
  simp [hnew]

theorem good07_exchange {now : Int} {s : Flow.St} {o : ObsState} (h : Inv07 s o) (rt : Router) (req : AccessTokenRequest) (ha : Bool) :
    Good07 now s o (.exchange rt req ha) := by
  unfold Good07
  cases hce : codeExchange now rt s.p req ha with
  | error e =>
    rw [stepObs_eq (s' := s) (out := .error e) (by rw [step_exchange, hce])]
    simp only [eventOf, observe, mintedIn_self, and_true]
    exact h.of_same rfl rfl (CfgEq.refl s) rfl
  | ok i =>
    obtain ⟨a, c, hi, hl, hcid, hgrant, hred, hpk1, hpk2, hauth⟩ := codeExchange_ok hce
    subst hi
    obtain ⟨_, _, _, hcfg⟩ := applyIssue_code s a c req.Code
    obtain ⟨hR, hN⟩ := applyIssue_refreshPart s (.code a c req.Code)
    rw [stepObs_eq (s' := applyIssue s (.code a c req.Code)) (out := .issued (.code a c req.Code) (newRefresh s (.code a c req.Code)))
      (by rw [step_exchange, hce])]
    simp only [eventOf, observe, and_true]
    by_cases hw : wantsRefresh (.code a c req.Code) = true
    · obtain ⟨m1, m2, m3⟩ := mintTokens_code_yes (s := s) hw
      have hrec : recOf (applyIssue s (.code a c req.Code)) (newRefresh s (.code a c req.Code)) = some (newCodeRT s a) := by
        rw [m3]
        exact recOf_new h.fresh s.store.refresh (fun r hr => hr) (by rw [hR, m1]) rfl
      rw [hrec]
      exact inv07_codeMint h hauth hcid hw hR hN hcfg rfl
    · have hw' : wantsRefresh (.code a c req.Code) = false := by simpa using hw
      obtain ⟨m1, m2⟩ := mintTokens_no (s := s) hw'
      rw [m2]
      simp only [recOf, Option.bind_none, Option.map_none]
      exact h.of_same (by rw [hR, m1]) (by rw [hN, m1]) hcfg rfl

theorem good07_exchangeDeleteFails {now : Int} {s : Flow.St} {o : ObsState} (h : Inv07 s o) (rt : Router) (req : AccessTokenRequest) (ha : Bool) :
    Good07 now s o (.exchangeDeleteFails rt req ha) := by
  unfold Good07
  cases hce : codeExchange now rt s.p req ha with
  | error e =>
    rw [stepObs_eq (s' := s) (out := .error e) (by rw [step_exchangeDeleteFails, hce])]
    simp only [eventOf, observe, mintedIn_self, and_true]
    exact h.of_same rfl rfl (CfgEq.refl s) rfl
  | ok i =>
    obtain ⟨a, c, hi, hl, hcid, hgrant, hred, hpk1, hpk2, hauth⟩ := codeExchange_ok hce
    subst hi
    by_cases hb : tokensBeforeDelete = true
    · rw [stepObs_eq (s' := mintTokens s (.code a c req.Code)) (out := .error "ErrServerError")
        (by rw [step_exchangeDeleteFails, hce]; simp [hb])]
      simp only [eventOf, observe, and_true]
      obtain ⟨_, _, _, hcfg⟩ := mintTokens_auth s (.code a c req.Code)
      by_cases hw : wantsRefresh (.code a c req.Code) = true
      · obtain ⟨m1, m2, m3⟩ := mintTokens_code_yes (s := s) hw
        rw [mintedIn_append (new := newCodeRT s a) m1 (fresh_not_found h.fresh s.store.refresh (fun r hr => hr))]
        exact inv07_codeMint h hauth hcid hw rfl rfl hcfg rfl
      · have hw' : wantsRefresh (.code a c req.Code) = false := by simpa using hw
        obtain ⟨m1, _⟩ := mintTokens_no (s := s) hw'
        rw [m1, mintedIn_self]
        exact h.of_same rfl rfl (CfgEq.refl s) rfl
    · rw [stepObs_eq (s' := s) (out := .error "ErrServerError") (by rw [step_exchangeDeleteFails, hce]; simp [hb])]
      simp only [eventOf, observe, mintedIn_self, and_true]
      exact h.of_same rfl rfl (CfgEq.refl s) rfl


theorem subset_of_sub {a b : List String} (h : C07.sub a b) : C07.subset a b = true := by
  simp only [C07.subset, List.all_eq_true, List.contains_eq_mem, decide_eq_true_eq]
  exact h

theorem tokenLookup {s : Store} {tok : String} {r : RefreshReq} (h : s.TokenRequestByRefreshToken tok = .ok r) :
    s.refresh.find? (·.token == tok) = some r := by
  unfold Store.TokenRequestByRefreshToken at h
  split at h
  · rename_i r' hr; simp at h; subst h; exact hr
  · simp at h

/-- the monitor's bookkeeping of a rotation -/
def killTok (rt : String) (x : C07.RT) : C07.RT := if x.token == rt then { x with live := false } else x

/-- killing a token on both sides keeps what resolves in the storage and what the monitor holds live in step -/
theorem live_kill {l : List RefreshReq} {rts : List C07.RT} (cur : String)
    (h : ∀ tok, (l.find? (·.token == tok)).map toRT = rts.find? (fun t => t.token == tok && t.live)) (tok : String) :
    ((l.filter (·.token != cur)).find? (·.token == tok)).map toRT =
      (rts.map (killTok cur)).find? (fun t => t.token == tok && t.live) := by
  by_cases ht : tok = cur
  · subst ht
    rw [find?_filter_none (p := fun r : RefreshReq => r.token != tok) (q := fun r => r.token == tok)
      (by intro x hx; have : x.token = tok := by simpa using hx
          simp [this])]
    symm
    rw [Option.map_none, List.find?_eq_none]
    intro x hx
    obtain ⟨y, _, rfl⟩ := List.mem_map.1 hx
    unfold killTok
    by_cases hy : (y.token == tok) = true <;> simp [hy]
  · rw [find?_filter_of_imp (p := fun r : RefreshReq => r.token != cur) (q := fun r => r.token == tok)
      (by intro x hx; have : x.token = tok := by simpa using hx
          simp [this, ht]),
      find?_map_fix (p := fun t : C07.RT => t.token == tok && t.live) (f := killTok cur)
      (by intro x; unfold killTok
          by_cases hx : (x.token == cur) = true
          · have hx' : x.token = cur := by simpa using hx
            have : (cur == tok) = false := by simpa using (Ne.symm ht)
            simp [hx', this]
          · simp [hx])
      (by intro x hx; unfold killTok
          have hx' : x.token = tok := by
            simp only [Bool.and_eq_true, beq_iff_eq] at hx
            exact hx.1
          have : (x.token == cur) = false := by rw [hx']; simpa using ht
          simp [this])]
    exact h tok

/-- the result of a rotation as the storage recorded it -/
def rotated (s : Flow.St) (r1 : RefreshReq) : C07.Result :=
  { newRT := "rt" ++ toString s.nextRT, scopes := r1.scopes, client := r1.clientID, subject := r1.subject, audience := r1.audience,
    authTime := r1.authTime, handedOver := true }

/-- a refresh the typed exchange lets through: the storage holds the grant under the new token; with the presented token killed
    on both sides and the new one minted, storage and monitor stay in step; the monitor has nothing to object -/
theorem refresh_accepted {now : Int} {s : Flow.St} {o : ObsState} (h : Inv07 s o) {rt : Router} {req : RefreshTokenRequest} {ha : Bool}
    {r1 : RefreshReq} {c : OPClient} (hre : refreshExchange now rt s.p req ha = .ok (.refresh r1 c req.RefreshToken)) :
    recOf (mintTokens s (.refresh r1 c req.RefreshToken)) (some ("rt" ++ toString s.nextRT)) =
      some { r1 with token := "rt" ++ toString s.nextRT } ∧
    Inv07 (mintTokens s (.refresh r1 c req.RefreshToken))
      { o with m07 := C07.onRefresh o.m07 req.RefreshToken (some (rotated s r1)) } ∧
    ∀ err cr, C07.judge o.m07 now (presentedRefresh req) req.RefreshToken req.Scopes (some (rotated s r1)) err cr = none := by
  obtain ⟨r0, r1', c', hi, hsup, htok, hlook, hcid, hgrant, hvs, hauth⟩ := refreshExchange_ok hre
  cases hi
  obtain ⟨hsub, hclient, hsubj, haud, hat, hscopes⟩ := C07.validateRefreshTokenScopes_ok hvs
  obtain ⟨m1, m2, m3⟩ := mintTokens_refresh s r1 c req.RefreshToken
  obtain ⟨_, _, _, hcfg⟩ := mintTokens_auth s (.refresh r1 c req.RefreshToken)
  have hfind0 : s.store.refresh.find? (·.token == req.RefreshToken) = some r0 := tokenLookup hlook
  have hr0mem := List.mem_of_find?_eq_some hfind0
  have hlive0 : o.m07.rts.find? (fun t => t.token == req.RefreshToken && t.live) = some (toRT r0) := by
    rw [← h.live, hfind0]; rfl
  have hfilt : ∀ r ∈ s.store.refresh.filter (·.token != req.RefreshToken), r ∈ s.store.refresh := fun r hr => (List.mem_filter.1 hr).1
  refine ⟨recOf_new h.fresh _ hfilt m1 rfl, ?_, fun err cr => ?_⟩
  · have hon : C07.onRefresh o.m07 req.RefreshToken (some (rotated s r1)) =
        { o.m07 with rts := o.m07.rts.map (killTok req.RefreshToken) ++ [toRT { r1 with token := "rt" ++ toString s.nextRT }] } := by
      simp only [C07.onRefresh, hlive0, rotated]
      congr 2
      simp [toRT, hclient, hsubj, haud, hat]
    obtain ⟨c', hc', hcp⟩ := h.capable r0 hr0mem
    exact h.mint hfilt (live_kill req.RefreshToken h.live) (new := { r1 with token := "rt" ++ toString s.nextRT }) rfl m1 m2 hcfg
      ⟨c', by show s.p.store.clients.find? (·.id == r1.clientID) = some c'; rw [hclient]; exact hc', hcp⟩ hon
  · obtain ⟨hcl, _, _, _⟩ := h.cfg
    have hclient' : o.m07.base.clients.find? (·.id == r0.clientID) = some c := by
      rw [hcl, ← hcid]; exact (authCapable_of_authAs hauth).1
    have hcaller : C04.callerIs o.m07.base now c (presentedRefresh req) = true :=
      callerIs_of_authAs (pr := presentedRefresh req) h.cfg rfl rfl rfl hauth
    have hgr : c.grants.contains "refresh_token" = true := by simpa [Const.GrantTypeRefreshToken] using hgrant
    have hreqsub : C07.subset req.Scopes r0.scopes = true := by
      cases hreq : req.Scopes with
      | nil => rfl
      | cons x xs =>
        rw [hreq] at hscopes
        simp only [List.isEmpty_cons, Bool.false_eq_true, if_false] at hscopes
        rw [← hscopes]; exact subset_of_sub hsub
    have hflag : o.m07.refreshEnabled = true := by rw [h.flag]; exact hsup
    have hnewne' : (("rt" ++ toString s.nextRT) == req.RefreshToken) = false := by simpa using h.next_ne hfind0
    have hnonempty : (("rt" ++ toString s.nextRT) == "") = false := by simp
    unfold C07.judge
    simp only [rotated, hlive0, toRT, hclient', hflag, hcaller, hgr, hreqsub, Bool.not_true, Bool.false_eq_true, if_false]
    have hsc : (r1.scopes != if req.Scopes.isEmpty = true then r0.scopes else req.Scopes) = false := by
      rw [hscopes]; simp
    simp only [hsc, subset_of_sub hsub, hclient, hsubj, haud, hat, bne_self_eq_false, hnonempty, hnewne', Bool.or_self,
      Bool.not_true, Bool.false_eq_true, if_false]

theorem good07_refresh_ok {now : Int} {s : Flow.St} {o : ObsState} (h : Inv07 s o) (rt : Router) (req : RefreshTokenRequest) (ha : Bool)
    {i : IssueFor} (hre : refreshExchange now rt s.p req ha = .ok i) : Good07 now s o (.refresh rt req ha) := by
  obtain ⟨_, r1, c, rfl, _⟩ := refreshExchange_ok hre
  obtain ⟨hrec, hinv, hj⟩ := refresh_accepted h hre
  unfold Good07
  rw [stepObs_eq (s' := mintTokens s (.refresh r1 c req.RefreshToken))
    (out := .issued (.refresh r1 c req.RefreshToken) (newRefresh s (.refresh r1 c req.RefreshToken)))
    (by rw [step_refresh, hre]; rfl)]
  simp only [eventOf, observe, (mintTokens_refresh s r1 c req.RefreshToken).2.2, hrec, Option.getD_some, Option.isSome_some,
    beq_self_eq_true, Bool.and_self]
  exact ⟨hinv, hj _ _⟩

/-! ## Refused refreshes: "a request that fails only because of its scope is answered invalid_scope" -/


/-- The instant `now` does not sit on the rounding boundary of the assertion's time window.  The spec reads an assertion's
    `exp` / `iat` with half a second of tolerance (C14), the code rounds its clock to whole seconds: on the boundary the spec
    may regard an assertion as proving a client which the code (correctly, by its own clock) refuses.  `Decisive` says
    this is not such an instant: what the spec accepts, the code accepts. -/
def Decisive (now : Int) (p : Provider) (t : Token) : Prop :=
  ∀ id, C14.provesClient p.issuer p.jwtMaxAgeIAT p.jwtOffset p.store.keyRegistry t now = some id →
    ∃ j, VerifyJWTAssertion now t p.JWTProfileVerifier = .ok j

/-- how the caller convinced the monitor, spelled out (`callerIs` for a client that can authenticate at all) -/
theorem cred_cases {now : Int} {p : Provider} {m : C04.MonState} {c : OPClient} {req : RefreshTokenRequest}
    (hm : SameCfg m p) (hcap : AuthCapable p c) (h : C04.callerIs m now c (presentedRefresh req) = true) :
    (req.ClientAssertionType ≠ Const.ClientAssertionTypeJWTAssertion ∧ req.ClientID = c.id ∧ c.auth = Const.AuthMethodNone) ∨
    (req.ClientAssertionType = Const.ClientAssertionTypeJWTAssertion ∧ c.auth = Const.AuthMethodPrivateKeyJWT ∧ p.pkjwtSupported = true ∧
      p.is_JWTAuthorizationGrantExchanger = true ∧
      C14.provesClient p.issuer p.jwtMaxAgeIAT p.jwtOffset p.store.keyRegistry req.ClientAssertion now = some c.id) ∨
    (req.ClientAssertionType ≠ Const.ClientAssertionTypeJWTAssertion ∧ req.ClientID = c.id ∧ req.ClientSecret = c.secret ∧
      (c.auth = Const.AuthMethodBasic ∨ (c.auth = Const.AuthMethodPost ∧ p.postSupported = true))) := by
  obtain ⟨hcl, hissuer, hmax, hoff⟩ := hm
  unfold C04.callerIs presentedRefresh at h
  have eNone : c.auth = Const.AuthMethodNone → (c.auth == "none") = true := fun e => by rw [e]; decide
  have ePk : c.auth = Const.AuthMethodPrivateKeyJWT → (c.auth == "none") = false ∧ (c.auth == "private_key_jwt") = true :=
    fun e => by rw [e]; exact ⟨by decide, by decide⟩
  have eBasic : c.auth = Const.AuthMethodBasic → (c.auth == "none") = false ∧ (c.auth == "private_key_jwt") = false :=
    fun e => by rw [e]; exact ⟨by decide, by decide⟩
  have ePost : c.auth = Const.AuthMethodPost → (c.auth == "none") = false ∧ (c.auth == "private_key_jwt") = false :=
    fun e => by rw [e]; exact ⟨by decide, by decide⟩
  by_cases hty : req.ClientAssertionType = Const.ClientAssertionTypeJWTAssertion
  · have hty' : (req.ClientAssertionType == Const.ClientAssertionTypeJWTAssertion) = true := by simpa using hty
    simp only [hty', if_true] at h
    rcases hcap with hn | ⟨hp, h1, h2⟩ | hb | ⟨hpo, _⟩
    · simp only [eNone hn, if_true, Option.isNone_some, Bool.and_false, Bool.false_eq_true] at h
    · simp only [(ePk hp).1, (ePk hp).2, Bool.false_eq_true, if_false, if_true] at h
      rw [hissuer, hmax, hoff, hcl] at h
      exact Or.inr (Or.inl ⟨hty, hp, h1, h2, beq_iff_eq.1 h⟩)
    · simp only [(eBasic hb).1, (eBasic hb).2, Bool.false_eq_true, if_false, Option.isNone_some, Bool.false_and] at h
    · simp only [(ePost hpo).1, (ePost hpo).2, Bool.false_eq_true, if_false, Option.isNone_some, Bool.false_and] at h
  · have hty' : (req.ClientAssertionType == Const.ClientAssertionTypeJWTAssertion) = false := by simpa using hty
    simp only [hty', Bool.false_eq_true, if_false] at h
    rcases hcap with hn | ⟨hp, _, _⟩ | hb | ⟨hpo, hps⟩
    · simp only [eNone hn, if_true, Option.isNone_none, Bool.and_true, beq_iff_eq] at h
      exact Or.inl ⟨hty, h, hn⟩
    · simp only [(ePk hp).1, (ePk hp).2, Bool.false_eq_true, if_false, if_true] at h
    · simp only [(eBasic hb).1, (eBasic hb).2, Bool.false_eq_true, if_false, Option.isNone_none, Bool.true_and, Bool.and_eq_true, beq_iff_eq] at h
      exact Or.inr (Or.inr ⟨hty, h.1, h.2, Or.inl hb⟩)
    · simp only [(ePost hpo).1, (ePost hpo).2, Bool.false_eq_true, if_false, Option.isNone_none, Bool.true_and, Bool.and_eq_true, beq_iff_eq] at h
      exact Or.inr (Or.inr ⟨hty, h.1, h.2, Or.inr ⟨hpo, hps⟩⟩)

theorem getClient_of_find {s : Store} {c : OPClient} (h : s.clients.find? (·.id == c.id) = some c) : s.GetClientByClientID c.id = .ok c := by
  simp [Store.GetClientByClientID, h]

theorem secret_of_find {s : Store} {c : OPClient} (h : s.clients.find? (·.id == c.id) = some c)
    (ha : c.auth = Const.AuthMethodBasic ∨ c.auth = Const.AuthMethodPost) : s.AuthorizeClientIDSecret c.id c.secret = .ok () := by
  unfold Store.AuthorizeClientIDSecret
  rw [h]
  rcases ha with ha | ha <;> simp [ha]

theorem privateKey_of_proves {now : Int} {p : Provider} {t : Token} {c : OPClient}
    (hfind : p.store.clients.find? (·.id == c.id) = some c) (hauth : c.auth = Const.AuthMethodPrivateKeyJWT)
    (hdec : Decisive now p t)
    (hpr : C14.provesClient p.issuer p.jwtMaxAgeIAT p.jwtOffset p.store.keyRegistry t now = some c.id) :
    AuthorizePrivateJWTKey now t p = .ok c := by
  obtain ⟨j, hj⟩ := hdec c.id hpr
  have := provesClient_of_verify hj
  rw [hpr] at this
  have hiss : j.iss = c.id := by simpa using this.symm
  unfold AuthorizePrivateJWTKey
  simp only [hj, Provider.Storage, Claims.Issuer, hiss, getClient_of_find hfind, OPClient.AuthMethod, hauth, bne_self_eq_false,
    Bool.false_eq_true, if_false]

theorem widening_scopes {now : Int} {requested : List String} {r0 : RefreshReq} (h : C07.subset requested r0.scopes = false) :
    ValidateRefreshTokenScopes now requested r0 = .error "ErrInvalidScope" := by
  rw [C07.validateRefreshTokenScopes_eq]
  exact C07.scopesSpec_widening h

/-- model-side completeness: a live token of client `c`, presented by a caller the monitor takes for `c`, with the
    refresh grant enabled and registered and a scope parameter that is NOT within the grant, is answered `invalid_scope` -/
theorem widening_refused {now : Int} {rt : Router} {p : Provider} {req : RefreshTokenRequest} {ha : Bool} {m : C04.MonState}
    {r0 : RefreshReq} {c : OPClient}
    (hm : SameCfg m p) (hsup : p.refreshSupported = true) (hlook : p.store.refresh.find? (·.token == req.RefreshToken) = some r0)
    (htok : req.RefreshToken ≠ "") (hc : p.store.clients.find? (·.id == r0.clientID) = some c) (hcap : AuthCapable p c)
    (hcaller : C04.callerIs m now c (presentedRefresh req) = true) (hgrant : c.grants.contains "refresh_token" = true)
    (hwide : C07.subset req.Scopes r0.scopes = false)
    (hha : ha = (req.ClientAssertionType == Const.ClientAssertionTypeJWTAssertion))
    (hdec : req.ClientAssertionType = Const.ClientAssertionTypeJWTAssertion → Decisive now p req.ClientAssertion)
    (hid : c.id ≠ "") :
    refreshExchange now rt p req ha = .error "ErrInvalidScope" := by
  have hcid : c.id = r0.clientID := by simpa using List.find?_some hc
  have hfind : p.store.clients.find? (·.id == c.id) = some c := by rw [hcid]; exact hc
  have hlook' : p.store.TokenRequestByRefreshToken req.RefreshToken = .ok r0 := by
    simp [Store.TokenRequestByRefreshToken, hlook]
  have hbytok : C07.byTokenSpec p.store req.RefreshToken = .ok r0 := by
    simp [C07.byTokenSpec, hlook']
  have hgt : ValidateGrantType now c Const.GrantTypeRefreshToken = true :=
    C04.validateGrantType_iff.2 (by simpa [Const.GrantTypeRefreshToken] using hgrant)
  have hscope := C07.scopesSpec_widening hwide
  have htok' : (req.RefreshToken == "") = false := by simpa using htok
  have hidn : ¬ c.id ≠ r0.clientID := by simp [hcid]
  cases rt with
  | provider =>
    have hauth : C07.authorizeRefreshSpec now req p = .ok (r0, c) := by
      unfold C07.authorizeRefreshSpec
      rcases cred_cases hm hcap hcaller with ⟨hty, hcl, hn⟩ | ⟨hty, hpk, h1, h2, hpr⟩ | ⟨hty, hcl, hsec, hk⟩
      · simp [hty, hcl, getClient_of_find hfind, hgt, hn, hbytok, Const.AuthMethodNone, Const.AuthMethodPrivateKeyJWT]
      · simp [hty, h1, h2, privateKey_of_proves hfind hpk (hdec hty) hpr, hgt, hbytok]
      · have hsecret := secret_of_find hfind (by rcases hk with hb | ⟨hp, _⟩; exact Or.inl hb; exact Or.inr hp)
        rcases hk with hb | ⟨hp, hps⟩
        · simp [hty, hcl, hsec, getClient_of_find hfind, hgt, hb, hbytok, hsecret, Const.AuthMethodNone, Const.AuthMethodPrivateKeyJWT,
            Const.AuthMethodBasic, Const.AuthMethodPost]
        · simp [hty, hcl, hsec, getClient_of_find hfind, hgt, hp, hps, hbytok, hsecret, Const.AuthMethodNone, Const.AuthMethodPrivateKeyJWT,
            Const.AuthMethodPost]
    simp only [refreshExchange, hsup, Bool.not_true, Bool.false_eq_true, if_false, C07.validateRefreshTokenRequest_eq]
    unfold C07.validateRefreshSpec
    simp only [htok, if_false, hauth, if_neg hidn, hscope]
  | legacy =>
    have hwc : withClient now p Const.GrantTypeRefreshToken
        { ClientID := req.ClientID, ClientSecret := req.ClientSecret, ClientAssertion := req.ClientAssertion, ClientAssertionType := req.ClientAssertionType } ha = .ok c := by
      unfold withClient parseCC
      simp only [C07.legacyVerifyClient_eq]
      unfold C07.legacyVerifySpec
      simp only [formGet_grant]
      have hgne : ¬ Const.GrantTypeRefreshToken = Const.GrantTypeClientCredentials := by decide
      have hgne' : (Const.GrantTypeRefreshToken != "") = true := by decide
      rcases cred_cases hm hcap hcaller with ⟨hty, hcl, hn⟩ | ⟨hty, hpk, h1, h2, hpr⟩ | ⟨hty, hcl, hsec, hk⟩
      · have hty' : (req.ClientAssertionType == Const.ClientAssertionTypeJWTAssertion) = false := by simpa using hty
        have hidb' : (c.id == "") = false := by simpa using hid
        simp [hha, hty, hty', hcl, hidb', hgne, hgne', getClient_of_find hfind, hgt, hn, Const.AuthMethodNone]
      · simp [hha, hty, hgne, hgne', h1, h2, privateKey_of_proves hfind hpk (hdec hty) hpr, hgt]
      · have hty' : (req.ClientAssertionType == Const.ClientAssertionTypeJWTAssertion) = false := by simpa using hty
        have hidb' : (c.id == "") = false := by simpa using hid
        have hsecret := secret_of_find hfind (by rcases hk with hb | ⟨hp, _⟩; exact Or.inl hb; exact Or.inr hp)
        rcases hk with hb | ⟨hp, hps⟩
        · simp [hha, hty, hty', hcl, hsec, hidb', hgne, hgne', getClient_of_find hfind, hgt, hb, hsecret, Const.AuthMethodNone,
            Const.AuthMethodPrivateKeyJWT, Const.AuthMethodBasic, Const.AuthMethodPost]
        · simp [hha, hty, hty', hcl, hsec, hidb', hgne, hgne', getClient_of_find hfind, hgt, hp, hps, hsecret, Const.AuthMethodNone,
            Const.AuthMethodPrivateKeyJWT, Const.AuthMethodPost]
    simp only [refreshExchange, hwc, htok', Bool.false_eq_true, if_false, C07.legacyRefreshToken_eq]
    unfold C07.legacyRefreshSpec
    have hsupf : ¬ p.refreshSupported = false := by simp [hsup]
    rw [if_neg hsupf]
    simp only [hbytok, if_neg hidn, hscope]


/-- side conditions under which the clause "a widening request is answered invalid_scope" can be demanded of a refresh
    operation: the `hasAssertion` flag of the operation says what the request's assertion type says (a `client_assertion`
    was sent iff the type is the JWT one - the only shapes the observer's `Presented` can express), and an assertion is not
    judged at a rounding-boundary instant (`Decisive`). -/
def OpOK (now : Int) (p : Provider) : Flow.Op → Prop
  | .refresh _ req ha =>
    ha = (req.ClientAssertionType == Const.ClientAssertionTypeJWTAssertion) ∧
    (req.ClientAssertionType = Const.ClientAssertionTypeJWTAssertion → Decisive now p req.ClientAssertion)
  | _ => True

/-- registered client ids are not empty (the Server router refuses a request without client_id and assertion outright) -/
def ClientsOK (p : Provider) : Prop := ∀ c ∈ p.store.clients, c.id ≠ ""

theorem verifier_cfg {s s' : Flow.St} (e : CfgEq s s') : s'.p.JWTProfileVerifier = s.p.JWTProfileVerifier := by
  obtain ⟨e1, e2, e3, e4, _⟩ := e
  simp only [Provider.JWTProfileVerifier, Store.keyRegistry, e1, e2, e3, e4]

theorem Decisive.trans {now : Int} {s s' : Flow.St} {t : Token} (h : Decisive now s.p t) (e : CfgEq s s') : Decisive now s'.p t := by
  unfold Decisive at *
  rw [verifier_cfg e]
  obtain ⟨e1, e2, e3, e4, _⟩ := e
  simp only [Store.keyRegistry] at h ⊢
  rw [e1, e2, e3, e4]; exact h

theorem OpOK.trans {now : Int} {s s' : Flow.St} {op : Flow.Op} (h : OpOK now s.p op) (e : CfgEq s s') : OpOK now s'.p op := by
  cases op with
  | refresh rt req ha => exact ⟨h.1, fun hty => (h.2 hty).trans e⟩
  | _ => trivial

theorem ClientsOK.trans {s s' : Flow.St} (h : ClientsOK s.p) (e : CfgEq s s') : ClientsOK s'.p := by
  unfold ClientsOK at *; rw [e.1]; exact h

theorem step_cfg (now : Int) (s : Flow.St) (op : Flow.Op) : CfgEq s (Flow.step now s op).1 := by
  cases op with
  | authorize a hint =>
    rw [step_authorize]
    split
    · exact CfgEq.refl s
    · exact ⟨rfl, rfl, rfl, rfl, rfl, rfl, rfl, rfl⟩
  | login a b c => exact ⟨rfl, rfl, rfl, rfl, rfl, rfl, rfl, rfl⟩
  | callback id code =>
    rw [step_callback]
    split
    · exact CfgEq.refl s
    · split
      · exact CfgEq.refl s
      · split
        · exact CfgEq.refl s
        · exact ⟨rfl, rfl, rfl, rfl, rfl, rfl, rfl, rfl⟩
  | exchange rt req ha =>
    rw [step_exchange]
    cases hce : codeExchange now rt s.p req ha with
    | error e => exact CfgEq.refl s
    | ok i =>
      obtain ⟨a, c, hi, _⟩ := codeExchange_ok hce
      subst hi
      exact (applyIssue_code s a c req.Code).2.2.2
  | exchangeDeleteFails rt req ha =>
    rw [step_exchangeDeleteFails]
    split
    · exact CfgEq.refl s
    · split
      · exact (mintTokens_auth s _).2.2.2
      · exact CfgEq.refl s
  | refresh rt req ha =>
    rw [step_refresh]
    cases hre : refreshExchange now rt s.p req ha with
    | error e => exact CfgEq.refl s
    | ok i =>
      obtain ⟨r0, r1, c, hi, _⟩ := refreshExchange_ok hre
      subst hi
      exact (mintTokens_auth s _).2.2.2

/-- a refused refresh on which nothing was created can at most trip the widening clause -/
theorem c07judge_refusal (m : C07.MonState) (now : Int) (p : C04.Presented) (rt : String) (req : List String) (err : String) :
    C07.judge m now p rt req none err false = none ∨
    C07.judge m now p rt req none err false = some "widening-not-answered-with-invalid_scope" := by
  unfold C07.judge
  simp only [Bool.false_eq_true, if_false]
  split
  · exact Or.inl rfl
  · split
    · exact Or.inl rfl
    · split
      · exact Or.inr rfl
      · exact Or.inl rfl

/-- a refused refresh: nothing changes, nothing was created; the only clause that can fire is the widening one, and under
    the side conditions it does not -/
theorem good07_refresh_err {now : Int} {s : Flow.St} {o : ObsState} (h : Inv07 s o) (rt : Router) (req : RefreshTokenRequest) (ha : Bool)
    {e : String} (hre : refreshExchange now rt s.p req ha = .error e) :
    Inv07 (stepObs now (s, o) (.refresh rt req ha)).1.1 (stepObs now (s, o) (.refresh rt req ha)).1.2 ∧
    ((stepObs now (s, o) (.refresh rt req ha)).2.2.2 = none ∨
      (stepObs now (s, o) (.refresh rt req ha)).2.2.2 = some "widening-not-answered-with-invalid_scope") ∧
    (OpOK now s.p (.refresh rt req ha) → ClientsOK s.p → (stepObs now (s, o) (.refresh rt req ha)).2.2.2 = none) := by
  rw [stepObs_eq (s' := s) (out := .error e) (by rw [step_refresh, hre])]
  simp only [eventOf, observe, bne_self_eq_false]
  refine ⟨h.of_same rfl rfl (CfgEq.refl s) rfl, ?_, ?_⟩
  · exact c07judge_refusal _ _ _ _ _ _
  · intro hop hcl
    unfold C07.judge
    simp only [Bool.false_eq_true, if_false]
    cases hl : o.m07.rts.find? (fun t => t.token == req.RefreshToken && t.live) with
    | none => rfl
    | some t =>
      simp only []
      cases hc : o.m07.base.clients.find? (·.id == t.client) with
      | none => rfl
      | some c =>
        simp only []
        -- the stored record behind the monitor's live token
        have hl' := h.live req.RefreshToken
        rw [hl] at hl'
        cases hfind : s.store.refresh.find? (·.token == req.RefreshToken) with
        | none => rw [hfind] at hl'; simp at hl'
        | some r0 =>
          rw [hfind] at hl'
          have ht : t = toRT r0 := by simpa using hl'.symm
          subst ht
          have hr0mem := List.mem_of_find?_eq_some hfind
          have hr0tok : r0.token = req.RefreshToken := by simpa using List.find?_some hfind
          obtain ⟨k0, _, hk0id⟩ := h.fresh r0 hr0mem
          have htokne : req.RefreshToken ≠ "" := by rw [← hr0tok, hk0id]; exact rt_ne_empty k0
          obtain ⟨hclients, _, _, _⟩ := h.cfg
          have hc' : s.p.store.clients.find? (·.id == r0.clientID) = some c := by rw [← hclients]; exact hc
          obtain ⟨c2, hc2, hcap⟩ := h.capable r0 hr0mem
          rw [hc'] at hc2; cases hc2
          have hcid : c.id ≠ "" := hcl c (List.mem_of_find?_eq_some hc')
          rw [if_neg]
          intro hcond
          simp only [Bool.and_eq_true, Bool.not_eq_true', bne_iff_ne, ne_eq] at hcond
          obtain ⟨⟨⟨⟨hen, hcaller⟩, hgr⟩, hwide⟩, herr⟩ := hcond
          have hsup : s.p.refreshSupported = true := by rw [← h.flag]; exact hen
          have := widening_refused (rt := rt) (ha := ha) h.cfg hsup hfind htokne hc' hcap hcaller hgr hwide hop.1 hop.2 hcid
          rw [hre] at this
          cases this
          exact herr (by simp [Flow.oauthCode])


def widening : Option String := some "widening-not-answered-with-invalid_scope"

/-- one step: the invariant is kept; the C07 monitor has nothing to object to any successful refresh nor to any other
    operation; a refused refresh can at most trip the widening clause, and under the side conditions does not -/
theorem good07_step (now : Int) {s : Flow.St} {o : ObsState} (h : Inv07 s o) (op : Flow.Op) :
    Inv07 (stepObs now (s, o) op).1.1 (stepObs now (s, o) op).1.2 ∧
    ((stepObs now (s, o) op).2.2.2 = none ∨
      ((stepObs now (s, o) op).2.2.2 = widening ∧ ∃ e, (stepObs now (s, o) op).2.1 = .error e)) ∧
    (OpOK now s.p op → ClientsOK s.p → (stepObs now (s, o) op).2.2.2 = none) := by
  have lift : ∀ {op : Flow.Op}, Good07 now s o op →
      Inv07 (stepObs now (s, o) op).1.1 (stepObs now (s, o) op).1.2 ∧
      ((stepObs now (s, o) op).2.2.2 = none ∨
        ((stepObs now (s, o) op).2.2.2 = widening ∧ ∃ e, (stepObs now (s, o) op).2.1 = .error e)) ∧
      (OpOK now s.p op → ClientsOK s.p → (stepObs now (s, o) op).2.2.2 = none) :=
    fun g => ⟨g.1, Or.inl g.2, fun _ _ => g.2⟩
  cases op with
  | authorize a hint => exact lift (good07_authorize h a hint)
  | login id subject authTime => exact lift (good07_login h id subject authTime)
  | callback id code => exact lift (good07_callback h id code)
  | exchange rt req ha => exact lift (good07_exchange h rt req ha)
  | exchangeDeleteFails rt req ha => exact lift (good07_exchangeDeleteFails h rt req ha)
  | refresh rt req ha =>
    cases hre : refreshExchange now rt s.p req ha with
    | ok i => exact lift (good07_refresh_ok h rt req ha hre)
    | error e =>
      obtain ⟨h1, h2, h3⟩ := good07_refresh_err h rt req ha hre
      refine ⟨h1, ?_, h3⟩
      rcases h2 with h2 | h2
      · exact Or.inl h2
      · refine Or.inr ⟨h2, e, ?_⟩
        rw [stepObs_eq (s' := s) (out := .error e) (by rw [step_refresh, hre])]
        rfl

theorem inv07_run (now : Int) {s : Flow.St} {o : ObsState} (h : Inv07 s o) (ops : List Flow.Op) :
    Inv07 (runObs now (s, o) ops).1.1 (runObs now (s, o) ops).1.2 ∧
    (∀ x ∈ (runObs now (s, o) ops).2, x.2.2 = none ∨ (x.2.2 = widening ∧ ∃ e, x.1 = .error e)) ∧
    ((∀ op ∈ ops, OpOK now s.p op) → ClientsOK s.p → ∀ x ∈ (runObs now (s, o) ops).2, x.2.2 = none) := by
  induction ops generalizing s o with
  | nil => exact ⟨h, (by intro x hx; cases hx), (by intro _ _ x hx; cases hx)⟩
  | cons op rest ih =>
    obtain ⟨hinv, hv, hvok⟩ := good07_step now h op
    obtain ⟨i1, i2, i3⟩ := ih hinv
    have hcfg : CfgEq s (stepObs now (s, o) op).1.1 := by rw [stepObs_fst]; exact step_cfg now s op
    exact ⟨i1, List.forall_mem_cons.2 ⟨hv, i2⟩, fun hops hcl => List.forall_mem_cons.2 ⟨hvok (hops op List.mem_cons_self) hcl,
      i3 (fun op' hop' => (hops op' (List.mem_cons_of_mem _ hop')).trans hcfg) (hcl.trans hcfg)⟩⟩

theorem Init.inv07 {s : Flow.St} {o : ObsState} (h : Init s o) : Inv07 s o := by
  refine ⟨h.cfg07, h.refreshFlag, ?_, ?_, ?_⟩
  · intro tok; rw [h.noRefresh, h.obsRts]; rfl
  · rw [h.noRefresh]; intro r hr; cases hr
  · rw [h.noRefresh]; intro r hr; cases hr

end FlowObs

namespace C07
open FlowObs Flow

/-- **C07 over histories, unconditional part.**  From an initial situation, for EVERY list of operations on either router:
    the reference monitor has nothing to object to any step that is not a REFUSED refresh - in particular every refresh that
    succeeds was made with a live (not yet rotated, actually issued) refresh token, by the authenticated / identified client
    the token belongs to, with refresh enabled and the grant registered, requested ⊆ granted, granted = requested-or-previous
    scopes, client / subject / audience / auth time kept, a new token different from the old one, and the old one handed to
    the storage; and no refused request ever created tokens.  A refused refresh can at most trip the clause "a widening
    request must be answered invalid_scope" (see `c07_history` for when it cannot). -/
theorem c07_history_core (now : Int) (s : Flow.St) (o : ObsState) (h0 : Init s o) (ops : List Flow.Op) :
    ∀ x ∈ (runObs now (s, o) ops).2, x.2.2 = none ∨ (x.2.2 = widening ∧ ∃ e, x.1 = .error e) :=
  (inv07_run now h0.inv07 ops).2.1

/-- **C07 over histories.**  ... and the monitor has nothing at all to object (including: a request that fails only because
    of its scope is answered `invalid_scope`) when (a) registered client ids are not empty, (b) every refresh operation's
    `hasAssertion` flag agrees with its assertion type, and (c) no client assertion is judged at a rounding-boundary instant
    (`Decisive`).  Each of the three is needed: `c07_widening_needs_*` below. -/
theorem c07_history (now : Int) (s : Flow.St) (o : ObsState) (h0 : Init s o) (ops : List Flow.Op)
    (hops : ∀ op ∈ ops, OpOK now s.p op) (hcl : ClientsOK s.p) :
    ∀ x ∈ (runObs now (s, o) ops).2, x.2.2 = none :=
  (inv07_run now h0.inv07 ops).2.2 hops hcl

/-- **Rotation.**  After a successful refresh (in any reachable state) the presented token no longer resolves in the storage,
    the monitor holds it dead, and the response's new token is a different one that does resolve. -/
theorem c07_rotation (now : Int) {s : Flow.St} {o : ObsState} (h : Inv07 s o) (rt : Router) (req : RefreshTokenRequest) (ha : Bool)
    (i : IssueFor) (nr : Option String) (hok : (Flow.step now s (.refresh rt req ha)).2 = .issued i nr) :
    (∃ e, (Flow.step now s (.refresh rt req ha)).1.p.store.TokenRequestByRefreshToken req.RefreshToken = .error e) ∧
    (stepObs now (s, o) (.refresh rt req ha)).1.2.m07.rts.find? (fun t => t.token == req.RefreshToken && t.live) = none ∧
    ∃ tok r, nr = some tok ∧ tok ≠ req.RefreshToken ∧
      (Flow.step now s (.refresh rt req ha)).1.p.store.TokenRequestByRefreshToken tok = .ok r := by
  have hinv := (good07_step now h (.refresh rt req ha)).1
  rw [stepObs_fst] at hinv
  cases hre : refreshExchange now rt s.p req ha with
  | error e => rw [step_refresh, hre] at hok; cases hok
  | ok i' =>
    obtain ⟨r0, r1, c, rfl, _, _, hlook, _⟩ := refreshExchange_ok hre
    obtain ⟨m1, _, m3⟩ := mintTokens_refresh s r1 c req.RefreshToken
    have hnf := fresh_not_found h.fresh s.store.refresh fun _ hr => hr
    have hne := h.next_ne (tokenLookup hlook)
    rw [step_refresh, hre] at hok hinv ⊢
    simp only [] at hok hinv ⊢
    cases hok
    obtain ⟨f1, f2⟩ := find?_rotated (l' := (applyIssue s (.refresh r1 c req.RefreshToken)).p.store.refresh)
      (new := { r1 with token := "rt" ++ toString s.nextRT }) m1 hne hnf
    refine ⟨?_, ?_, _, { r1 with token := "rt" ++ toString s.nextRT }, m3, hne, ?_⟩
    · simp only [Store.TokenRequestByRefreshToken, f1]; exact ⟨_, rfl⟩
    · rw [← hinv.live req.RefreshToken]; exact congrArg (Option.map toRT) f1
    · simp only [Store.TokenRequestByRefreshToken, f2]

end C07

/-! ## Scope chains: the lineage of every refresh token -/

namespace FlowObs
open Go Gen Hand Flow

/-- Ghost bookkeeping of one step: for every refresh token the storage has minted, the scopes of the code grant it DESCENDS
    from.  A code exchange that makes the storage mint a refresh token starts a lineage with the scopes granted then; a
    successful refresh passes the lineage of the presented token on to the new token. -/
def lineageStep (now : Int) (s : Flow.St) (g : List (String × List String)) (op : Flow.Op) : List (String × List String) :=
  match op, (Flow.step now s op).2 with
  | .refresh _ req _, .issued _ (some tok) =>
    match g.find? (·.1 == req.RefreshToken) with
    | some (_, sc) => g ++ [(tok, sc)]
    | none => g
  | .exchange _ _ _, _ | .exchangeDeleteFails _ _ _, _ =>
    match mintedIn s (Flow.step now s op).1 with
    | some t => g ++ [(t.token, t.scopes)]
    | none => g
  | _, _ => g

def lineage (now : Int) : Flow.St → List (String × List String) → List Flow.Op → List (String × List String)
  | _, g, [] => g
  | s, g, op :: rest => lineage now (Flow.step now s op).1 (lineageStep now s g op) rest

/-- every stored refresh token has a lineage, and its scopes are within the grant's -/
structure Lin (s : Flow.St) (g : List (String × List String)) : Prop where
  within : ∀ r ∈ s.store.refresh, ∃ sc, g.find? (·.1 == r.token) = some (r.token, sc) ∧ C07.sub r.scopes sc
  fresh : ∀ e ∈ g, ∃ k, k < s.nextRT ∧ e.1 = "rt" ++ toString k

/-! ## Non-vacuity and the need for the side conditions of `c07_history` -/

/-- a chain: exchange, two refreshes (the second drops offline_access), a replay of a rotated token, a foreign caller, a
    request widening back to the dropped scope, and a refresh without a scope parameter -/
def demoChain (rt : Router) : List Flow.Op :=
  [demoAuthorize, .login "ar1" "user1" 1000, .callback "ar1" "c1", demoExchange rt,
   demoRefresh rt "rt1" ["openid", "email", "offline_access"],
   demoRefresh rt "rt2" ["openid", "email"],
   demoRefresh rt "rt1" [],                                                              -- replay of a rotated token
   .refresh rt { RefreshToken := "rt3", ClientID := "pub" } false,                      -- another client presents it
   demoRefresh rt "rt3" ["openid", "email", "offline_access"],                          -- re-widening to a dropped scope
   demoRefresh rt "rt3" []]

-- witnesses for the side conditions
def wEmpty : OPClient :=
  { id := "", secret := "s", auth := "client_secret_basic", grants := ["authorization_code", "refresh_token"], redirectURIs := ["https://rp.example/cb"] }
def wStateEmpty : Flow.St := { p := { store := { clients := [wEmpty] }, issuer := "https://op.example", refreshSupported := true } }
def wOpsEmpty : List Flow.Op :=
  [.authorize { clientID := "", redirectURI := "https://rp.example/cb", scopes := ["openid", "offline_access"] } {}, .login "ar1" "user1" 1000, .callback "ar1" "c1",
   .exchange .provider { Code := "c1", RedirectURI := "https://rp.example/cb", ClientID := "", ClientSecret := "s" } false,
   .refresh .legacy { RefreshToken := "rt1", Scopes := ["openid", "admin"], ClientID := "", ClientSecret := "s" } false]

def wOpsFlag : List Flow.Op :=
  [demoAuthorize, .login "ar1" "user1" 1000, .callback "ar1" "c1", demoExchange .legacy,
   .refresh .legacy { RefreshToken := "rt1", Scopes := ["openid", "admin"], ClientID := "web", ClientSecret := "s3cret" } true]

def wKey : JWK := { KeyID := "k1", Use := "sig", kty := .rsa, keyNo := 7 }
def wPk : OPClient :=
  { id := "pk", auth := "private_key_jwt", grants := ["authorization_code", "refresh_token"], redirectURIs := ["https://rp.example/cb"], keys := [wKey] }
def wStatePk : Flow.St :=
  { p := { store := { clients := [wPk] }, issuer := "https://op.example", refreshSupported := true, pkjwtSupported := true, jwtOffset := 0 } }
def wAssertion (bytes : Nat) (exp iat : Int) : Token :=
  let p : Payload := { bytes := bytes, claims := some { iss := "pk", sub := "pk", aud := ["https://op.example"], exp := exp, iat := iat } }
  let hdr : JHeader := { Algorithm := "RS256", KeyID := "k1" }
  { segs := 3, middle := some p, jws := some { Signatures := [{ Header := hdr, signer := some 7, signedAlg := "RS256", signedBytes := bytes, signedHdr := hdr }], payload := p } }
/-- 3700.5 s: `now - MaxAgeIAT` (3600 s) is 100.5 s, which the code rounds up to 101 s -/
def wNow : Int := 3700500000000
def wOpsPk (iatOfRefreshAssertion : Int) : List Flow.Op :=
  [.authorize { clientID := "pk", redirectURI := "https://rp.example/cb", scopes := ["openid", "offline_access"] } {}, .login "ar1" "user1" 50, .callback "ar1" "c1",
   .exchange .provider { Code := "c1", RedirectURI := "https://rp.example/cb", ClientAssertionType := Const.ClientAssertionTypeJWTAssertion, ClientAssertion := wAssertion 1 4000 3700 } true,
   .refresh .provider { RefreshToken := "rt1", Scopes := ["openid", "admin"], ClientAssertionType := Const.ClientAssertionTypeJWTAssertion,
                        ClientAssertion := wAssertion 2 4000 iatOfRefreshAssertion } true]

end FlowObs

namespace C07
open FlowObs Flow

/-- the chain on both routers: every step accepted by both monitors; scopes shrink, replays / foreign callers / re-widening are refused -/
example : ((runObs 0 (demoState, obsOf demoState) (demoChain .provider)).2.map fun x => (showOutShort x.1, x.2.1, x.2.2)) =
  [("login:ar1", none, none), ("done", none, none), ("code:c1", none, none), ("tokens:user1:web:rt1", none, none),
   ("refreshed:user1:web:openid email offline_access:rt2", none, none), ("refreshed:user1:web:openid email:rt3", none, none),
   ("error:ErrInvalidGrant", none, none), ("error:ErrInvalidGrant", none, none), ("error:ErrInvalidScope", none, none),
   ("refreshed:user1:web:openid email:rt4", none, none)] := by decide +kernel

example : ((runObs 0 (demoState, obsOf demoState) (demoChain .legacy)).2.map fun x => (showOutShort x.1, x.2.1, x.2.2)) =
  [("login:ar1", none, none), ("done", none, none), ("code:c1", none, none), ("tokens:user1:web:rt1", none, none),
   ("refreshed:user1:web:openid email offline_access:rt2", none, none), ("refreshed:user1:web:openid email:rt3", none, none),
   ("error:ErrInvalidGrant", none, none), ("error:ErrInvalidGrant", none, none), ("error:ErrInvalidScope", none, none),
   ("refreshed:user1:web:openid email:rt4", none, none)] := by decide +kernel

/-- the premises of `c07_history` hold for it -/
example : Init demoState (obsOf demoState) ∧ ClientsOK demoState.p ∧ ∀ op ∈ demoChain .provider, OpOK 0 demoState.p op := by
  refine ⟨init_obsOf rfl rfl rfl, ?_, ?_⟩
  · intro c hc
    simp only [demoState, List.mem_cons, List.mem_nil_iff, or_false] at hc
    rcases hc with rfl | rfl <;> decide
  · intro op hop
    simp only [demoChain, List.mem_cons, List.mem_nil_iff, or_false] at hop
    rcases hop with rfl | rfl | rfl | rfl | rfl | rfl | rfl | rfl | rfl | rfl <;>
      first | trivial | exact ⟨by decide, fun h => absurd h (by decide)⟩

/-- the lineage of the chain: the last token descends from the grant of the exchange -/
example : lineage 0 demoState [] (demoChain .provider) =
  [("rt1", ["openid", "email", "offline_access"]), ("rt2", ["openid", "email", "offline_access"]),
   ("rt3", ["openid", "email", "offline_access"]), ("rt4", ["openid", "email", "offline_access"])] := by decide +kernel

/-- the monitor is not trivially silent: a refresh answered with a scope that was dropped, or without rotation, is flagged -/
example :
    let o := (runObs 0 (demoState, obsOf demoState) ((demoChain .provider).take 6)).1.2
    (observe 0 o (.refresh { clientID := "web", secret := "s3cret" } "rt3" ["openid", "email", "offline_access"]
      (some { newRT := "rt4", scopes := ["openid", "email", "offline_access"], client := "web", subject := "user1", audience := ["web"], authTime := 1000, handedOver := true })
      "" true)).2.2 = some "scope-widened" ∧
    (observe 0 o (.refresh { clientID := "web", secret := "s3cret" } "rt3" ["openid"]
      (some { newRT := "", scopes := ["openid"], client := "web", subject := "user1", audience := ["web"], authTime := 1000, handedOver := false })
      "" true)).2.2 = some "no-new-refresh-token" := by decide +kernel

/-- the storage fault leaves a refresh token behind that was never delivered (when the storage creates the tokens before the
    deletion is attempted - a regenerated fact); the observer learns it from the storage, and a later refresh with it (by its
    client) is a refresh of a known, live token -/
example : Flow.tokensBeforeDelete = true → ((runObs 0 (demoState, obsOf demoState)
      [demoAuthorize, .login "ar1" "user1" 1000, .callback "ar1" "c1",
       .exchangeDeleteFails .provider { Code := "c1", RedirectURI := "https://rp.example/cb", ClientID := "web", ClientSecret := "s3cret" } false,
       demoRefresh .provider "rt1" []]).2.map fun x => (showOutShort x.1, x.2.1, x.2.2)) =
  [("login:ar1", none, none), ("done", none, none), ("code:c1", none, none), ("error:ErrServerError", none, none),
   ("refreshed:user1:web:openid email offline_access:rt2", none, none)] := by decide +kernel

/-- ... whereas an observer that only learns refresh tokens from token responses would have to object (the undelivered token
    exists and works): -/
example :
    let o := (runObs 0 (demoState, obsOf demoState) [demoAuthorize, .login "ar1" "user1" 1000, .callback "ar1" "c1"]).1.2
    (observe 0 o (.refresh { clientID := "web", secret := "s3cret" } "rt1" []
      (some { newRT := "rt2", scopes := ["openid", "email", "offline_access"], client := "web", subject := "user1", audience := ["web"], authTime := 1000, handedOver := true })
      "" true)).2.2 = some "unknown-or-dead-refresh-token" := by decide +kernel

/-! Each side condition of `c07_history` is needed: without it the widening clause fires on the model (the request was
    refused for ANOTHER reason than its scope, which the monitor's credential check does not see). -/

/-- (a) a registered client with the empty id: the Server router refuses a request without client_id as invalid_request -/
theorem c07_widening_needs_client_ids :
    ((runObs 0 (wStateEmpty, obsOf wStateEmpty) wOpsEmpty).2.map fun x => (showOutShort x.1, x.2.2)).getLast? =
      some ("error:ErrInvalidRequest", widening) := by decide +kernel

/-- (b) `hasAssertion` without the JWT assertion type: the Server router refuses it as invalid_request -/
theorem c07_widening_needs_assertion_flag :
    ((runObs 0 (demoState, obsOf demoState) wOpsFlag).2.map fun x => (showOutShort x.1, x.2.2)).getLast? =
      some ("error:ErrInvalidRequest", widening) := by decide +kernel

/-- (c) an assertion whose `iat` is exactly `MaxAgeIAT + 0.5 s` old: the spec (half a second of tolerance) takes it, the code
    (which rounds `now - MaxAgeIAT` up to the next second) refuses it as too old - one second younger and all is well -/
theorem c07_widening_needs_decisive_instant :
    ((runObs wNow (wStatePk, obsOf wStatePk) (wOpsPk 100)).2.map fun x => (showOutShort x.1, x.2.2)).getLast? =
      some ("error:ErrIatToOld", widening) ∧
    ((runObs wNow (wStatePk, obsOf wStatePk) (wOpsPk 101)).2.map fun x => (showOutShort x.1, x.2.2)).getLast? =
      some ("error:ErrInvalidScope", none) := by decide +kernel

end C07
