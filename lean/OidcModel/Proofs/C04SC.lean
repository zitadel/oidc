/-
  C04: client authentication of the code grant under a provider whose JWTProfileVerifier carries ANY subject check
  (`op.SubjectCheck`: the one verifier of a `JWTAuthorizationGrantExchanger` serves the jwt-bearer grant - where delegation,
  `iss ≠ sub`, is what the option is for - AND private_key_jwt client authentication).

  The theorems over the REGENERATED `GenSC.AuthorizePrivateJWTKey` / `AuthorizeCodeClient` / `ValidateAccessTokenRequest` /
  `LegacyVerifyClient` / `LegacyCodeExchange` (Generated/TokenEndpointSC.lean: the same Go functions as in
  Generated/TokenEndpoint.lean, over `ScProvider` = a Provider plus the check its verifier was built with), for EVERY check `f`,
  are those of Proofs/C04.lean and Proofs/C04History.lean, of which the `Provider` versions are the case `f = none`.
-/
import OidcModel.Proofs.C04History
namespace C04
open Go Gen Hand Flow FlowObs

theorem sc_stepExchange_default (now : Int) (s : Flow.St) (rt : Router) (r : AccessTokenRequest) (ha : Bool) :
    FlowSC.stepExchange now s none rt r ha = Flow.step now s (.exchange rt r ha) := by
  unfold FlowSC.stepExchange; rw [sc_codeExchange_default]; rfl

theorem authAsSC_default {now p id secret ty t c} : AuthAsSC now p none id secret ty t c ↔ AuthAs now p id secret ty t c := Iff.rfl

/-- **whole judgement** (either router, EVERY subject check): in every state of the history invariant `Inv04` (storage and
    observer agree on requests, codes and their use; Proofs/C04History.lean), for a monitor that was told whether the provider's
    subject check is a custom one, `C04.judge` raises nothing against the answer with tokens of an exchange that
    `FlowSC.codeExchange` lets through. -/
theorem c04_sc_step {now : Int} {s : Flow.St} {o : ObsState} (hinv : Inv04 s o) (f : Option (Claims → Go.R Unit))
    (hsc : o.m04.subjectCheckCustom = f.isSome) (rt : Router) (req : AccessTokenRequest) (ha : Bool) {a : AuthReq} {c : OPClient} {k : String}
    (h : FlowSC.codeExchange now rt ⟨s.p, f⟩ req ha = .ok (.code a c k)) :
    ∀ nr, C04.judge o.m04 now (presentedCode req) (some (tokensOf a c nr)) = none :=
  sc_judge_ok hinv hsc.trans h

end C04

/-! ## Non-vacuity (kernel `decide`): two private_key_jwt clients, each with its own key; a code of `victim`; a provider whose subject
    check admits every non-empty `sub` -/
namespace SCDemo
open C04 FlowObs Flow

def keyP : JWK := { KeyID := "partner-k", Use := "sig", kty := .rsa, keyNo := 1 }
def keyV : JWK := { KeyID := "victim-k", Use := "sig", kty := .rsa, keyNo := 2 }
def partner : OPClient := { id := "partner", auth := Const.AuthMethodPrivateKeyJWT, grants := ["authorization_code"], keys := [keyP] }
def victim : OPClient := { id := "victim", auth := Const.AuthMethodPrivateKeyJWT, grants := ["authorization_code"], keys := [keyV] }
def arV : AuthReq := { id := "ar1", clientID := "victim", redirectURI := "https://rp/cb", scopes := ["openid"], subject := "user1", done := true }
def arP : AuthReq := { id := "ar2", clientID := "partner", redirectURI := "https://rp/cb", scopes := ["openid"], subject := "user2", done := true }
def prov : Provider :=
  { store := { clients := [partner, victim], authReqs := [arV, arP], codes := [("cV", "ar1"), ("cP", "ar2")] },
    issuer := "https://op", pkjwtSupported := true, jwtOffset := Go.second }
def admitAll : Option (Claims → Go.R Unit) := some fun c => if c.sub == "" then .error "sub missing" else .ok ()
def now : Int := 1010 * Go.second
/-- an assertion {iss, sub} signed with key number `keyNo` under key id `kid` -/
def tok (iss sub kid : String) (keyNo : Nat) : Token :=
  let p : Payload := { bytes := 7, claims := some { iss := iss, sub := sub, aud := ["https://op"], iat := 1000, exp := 1300 } }
  { segs := 3, middle := some p,
    jws := some { Signatures := [{ Header := { Algorithm := "RS256", KeyID := kid }, signer := some keyNo, signedBytes := 7,
                                   signedHdr := { Algorithm := "RS256", KeyID := kid }, signedAlg := "RS256" }], payload := p } }
def req (code : String) (t : Token) : AccessTokenRequest :=
  { Code := code, RedirectURI := "https://rp/cb", ClientAssertionType := Const.ClientAssertionTypeJWTAssertion, ClientAssertion := t }
def answer (r : Go.R IssueFor) : String :=
  match r with
  | .ok (.code a c _) => "tokens:" ++ c.id ++ ":" ++ a.id
  | .ok _ => "?"
  | .error e => e
def mon : C04.MonState :=
  { issuer := "https://op", clients := [partner, victim], issued := [{ code := "cV", req := arV }, { code := "cP", req := arP }],
    jwtMaxAgeIAT := prov.jwtMaxAgeIAT, jwtOffset := Go.second, subjectCheckCustom := true }

/-- `partner` signs {iss: partner, sub: victim} with its own key and presents the victim's code: refused on both routers -/
example : answer (FlowSC.codeExchange now .provider ⟨prov, admitAll⟩ (req "cV" (tok "partner" "victim" "partner-k" 1)) true) = "ErrInvalidGrant" := by decide +kernel
example : answer (FlowSC.codeExchange now .legacy ⟨prov, admitAll⟩ (req "cV" (tok "partner" "victim" "partner-k" 1)) true) = "ErrInvalidGrant" := by decide +kernel
/-- ... and the monitor objects to an answer with the victim's tokens to that request -/
example : C04.judge mon now (presentedCode (req "cV" (tok "partner" "victim" "partner-k" 1))) (some (tokensOf arV victim none))
    = some "caller-is-not-the-code's-client" := by decide +kernel
/-- naming the victim as issuer does not help: the signature is checked against the VICTIM's keys -/
example : (FlowSC.codeExchange now .provider ⟨prov, admitAll⟩ (req "cV" (tok "victim" "victim" "partner-k" 1)) true).toOption.isNone = true := by decide +kernel
example : (FlowSC.codeExchange now .legacy ⟨prov, admitAll⟩ (req "cV" (tok "victim" "partner" "victim-k" 1)) true).toOption.isNone = true := by decide +kernel
/-- the victim's own assertion - plain, or with a delegated subject - redeems its code; the monitor has nothing to object -/
example : answer (FlowSC.codeExchange now .provider ⟨prov, admitAll⟩ (req "cV" (tok "victim" "victim" "victim-k" 2)) true) = "tokens:victim:ar1" := by decide +kernel
example : answer (FlowSC.codeExchange now .legacy ⟨prov, admitAll⟩ (req "cV" (tok "victim" "user9" "victim-k" 2)) true) = "tokens:victim:ar1" := by decide +kernel
example : C04.judge mon now (presentedCode (req "cV" (tok "victim" "user9" "victim-k" 2))) (some (tokensOf arV victim none)) = none := by decide +kernel
/-- the partner's delegated assertion {iss: partner, sub: victim} authenticates the PARTNER: its own code is redeemed, the monitor agrees -/
example : answer (FlowSC.codeExchange now .provider ⟨prov, admitAll⟩ (req "cP" (tok "partner" "victim" "partner-k" 1)) true) = "tokens:partner:ar2" := by decide +kernel
example : C04.judge mon now (presentedCode (req "cP" (tok "partner" "victim" "partner-k" 1))) (some (tokensOf arP partner none)) = none := by decide +kernel
/-- the library's own provider (default check) refuses every delegated assertion outright -/
example : (FlowSC.codeExchange now .provider ⟨prov, none⟩ (req "cP" (tok "partner" "victim" "partner-k" 1)) true).toOption.isNone = true := by decide +kernel
/-- a monitor that was NOT told about the custom check (default reading: sub = iss) would object to the partner's legitimate exchange:
    the configuration flag is needed to judge what an onlooker can -/
example : C04.judge { mon with subjectCheckCustom := false } now (presentedCode (req "cP" (tok "partner" "victim" "partner-k" 1)))
    (some (tokensOf arP partner none)) = some "caller-is-not-the-code's-client" := by decide +kernel

end SCDemo
