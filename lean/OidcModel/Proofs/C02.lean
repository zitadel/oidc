/-
  C02 proofs: whatever a verifier accepts carries exactly one signature with an allowed algorithm by a trusted, fitting,
  consistently selected key over exactly the returned payload; ambiguity is never resolved by guessing.
  Key selection (`FindMatchingKey`: hand model = statement, regenerated `GenC02.*` = hand model), the key-set implementations,
  the regenerated `CheckSignature` and the four verifiers (`c02_rp`, `c02_accessToken`, `c02_idTokenHint`, `c02_assertion`),
  key-id consistency (`c02_kid_consistent*`), and witnesses: a payload smuggled past go-jose, a key id carried in the
  unprotected header.
-/
import OidcModel.Spec.C02
import OidcModel.Generated.RPVerifier
import OidcModel.Generated.KeySetC02
import OidcModel.Generated.Jwks
import OidcModel.GoTac
namespace C02
open Go Gen Hand

theorem notNil_eq_not_isNil {α : Type} [Go.Nilable α] (x : α) : Go.notNil x = !Go.isNil x := rfl

/-- characterisation lemmas of the form `Gen.f args = .ok x → <what that means>` (the regenerated `f` already unfolded in the
    goal): split every `if` / `match` of the term - whatever its shape -, take the equation as a hypothesis in each branch and close
    the branch (one that returns an error: by `cases`).  Like `go_leaf` (OidcModel/GoTac.lean) the script does not depend on the
    shape of the Go text. -/
syntax "go_paths" : tactic
macro_rules
  | `(tactic| go_paths) => `(tactic| (
      (try simp only [])
      (repeat' split)
      all_goals (intro h; first
        | (cases h; done)
        | (simp_all; done)
        | grind
        | (simp_all [notNil_eq_not_isNil]; done)
        | (simp only [Except.ok.injEq, reduceCtorEq] at h; subst_vars; first | (simp_all; done) | grind | (simp_all; grind)))))

theorem fold_some (kid use alg : String) (keys : List JWK) (k : JWK) (c : List JWK) :
    keys.foldl (fmkStep kid use alg) (some k, c) = (some k, c) := by
  induction keys with
  | nil => rfl
  | cons x xs ih => simp [List.foldl, fmkStep, ih]

def payloadIssuer (t : Token) : Option String := (t.middle.bind (·.claims)).map (·.iss)

def fitp (use alg : String) (k : JWK) : Bool := (k.Use == use || k.Use == "") && algFits k.kty alg
def exactp (kid : String) (k : JWK) : Bool := k.KeyID == kid && kid != ""
def candp (kid : String) (k : JWK) : Bool := k.KeyID == "" || kid == ""

theorem fmkStep_none (kid use alg : String) (c : List JWK) (x : JWK) :
    fmkStep kid use alg (none, c) x =
      if fitp use alg x then
        if exactp kid x then (some x, c) else if candp kid x then (none, c ++ [x]) else (none, c)
      else (none, c) := by
  simp only [fmkStep, fitp, exactp, candp, algToKeyType, bne, Bool.and_eq_true, Bool.or_eq_true, Bool.not_eq_true']
  cases x.Use == use <;> cases x.Use == "" <;> cases algFits x.kty alg <;> rfl

theorem fold_spec (kid use alg : String) (keys : List JWK) (cands : List JWK) :
    match (keys.filter (fitp use alg)).find? (exactp kid) with
    | some k => (keys.foldl (fmkStep kid use alg) (none, cands)).1 = some k
    | none => keys.foldl (fmkStep kid use alg) (none, cands) = (none, cands ++ (keys.filter (fitp use alg)).filter (candp kid)) := by
  induction keys generalizing cands with
  | nil => simp
  | cons x xs ih =>
    rw [List.foldl_cons, fmkStep_none, List.filter_cons]
    cases hfit : fitp use alg x
    · exact ih cands
    cases hex : exactp kid x
    · cases hc : candp kid x
      · simpa [hex, hc] using ih cands
      · simpa [hex, hc] using ih (cands ++ [x])
    · simp [hex, fold_some]

/-- the hand-written loop model computes exactly what the statement describes -/
theorem findMatchingKey_eq_spec (kid use alg : String) (keys : List JWK) :
    FindMatchingKey kid use alg keys = findSpec kid use alg keys := by
  have h := fold_spec kid use alg keys []
  unfold fitp exactp candp at h
  unfold FindMatchingKey findSpec
  simp only []
  split at h
  · rename_i k hf
    rcases hr : List.foldl (fmkStep kid use alg) (none, []) keys with ⟨a, b⟩
    rw [hr] at h
    cases h
    simp only [hf]
  · rename_i hf
    simp only [h, hf, List.nil_append]
    generalize List.filter _ (List.filter _ keys) = c
    rcases c with _ | ⟨a, _ | _⟩ <;> rfl

/-- the two ways a selection succeeds: the first fitting key with exactly the named id, or the only kid-less candidate -/
theorem findMatchingKey_cases {kid use alg : String} {keys : List JWK} {k : JWK}
    (h : FindMatchingKey kid use alg keys = .ok k) :
    k ∈ keys.filter (fitp use alg) ∧
      (exactp kid k = true ∨ (candp kid k = true ∧ (keys.filter (fitp use alg)).filter (candp kid) = [k])) := by
  rw [findMatchingKey_eq_spec] at h
  unfold findSpec at h
  simp only [] at h
  split at h
  · rename_i hf
    cases h
    exact ⟨List.mem_of_find?_eq_some hf, Or.inl (List.find?_some hf)⟩
  · split at h <;> cases h
    rename_i hc
    have hm := List.mem_filter.mp (hc ▸ List.mem_singleton_self k)
    exact ⟨hm.1, Or.inr ⟨hm.2, hc⟩⟩

/-- a key `FindMatchingKey` selects is one of the set, its use and key type fit, and its key id is the named one unless one of
    the two has none -/
theorem findMatchingKey_ok {kid use alg : String} {keys : List JWK} {k : JWK}
    (h : FindMatchingKey kid use alg keys = .ok k) :
    k ∈ keys ∧ (k.Use = use ∨ k.Use = "") ∧ algFits k.kty alg = true ∧ (k.KeyID = kid ∨ k.KeyID = "" ∨ kid = "") := by
  obtain ⟨hm, hk⟩ := findMatchingKey_cases h
  obtain ⟨hmem, hfit⟩ := List.mem_filter.mp hm
  simp only [fitp, exactp, candp, Bool.and_eq_true, Bool.or_eq_true, beq_iff_eq] at hfit hk
  exact ⟨hmem, hfit.1, hfit.2, hk.elim (fun h => Or.inl h.1) (fun h => Or.inr h.1)⟩

/-- what a successful selection guarantees about the KEY ID: the token names exactly this key's id, or one of the two
    has none and the key is the ONLY candidate that is left -/
theorem findMatchingKey_sel {kid use alg : String} {keys : List JWK} {k : JWK}
    (h : FindMatchingKey kid use alg keys = .ok k) :
    (k.KeyID = kid ∧ kid ≠ "") ∨
      ((k.KeyID = "" ∨ kid = "") ∧
        (keys.filter fun k => (k.Use == use || k.Use == "") && algFits k.kty alg).filter (fun k => k.KeyID == "" || kid == "") = [k]) := by
  have hk := (findMatchingKey_cases h).2
  simp only [exactp, candp, Bool.and_eq_true, Bool.or_eq_true, beq_iff_eq, bne_iff_ne] at hk
  exact hk

/-- ambiguity is reported, never resolved by guessing: without a key id and with two or more usable
    keys the selection fails with ErrKeyMultiple -/
theorem findMatchingKey_ambiguous {use alg : String} {keys : List JWK}
    (h : ((keys.filter fun k => (k.Use == use || k.Use == "") && algFits k.kty alg).length ≥ 2)) :
    FindMatchingKey "" use alg keys = .error "ErrKeyMultiple" := by
  rw [findMatchingKey_eq_spec]
  unfold findSpec
  simp only [bne_self_eq_false, Bool.and_false, beq_self_eq_true, Bool.or_true]
  have : List.find? (fun k : JWK => false) (List.filter (fun k => (k.Use == use || k.Use == "") && algFits k.kty alg) keys) = none := by
    simp
  simp only [this]
  match hl : List.filter (fun k => (k.Use == use || k.Use == "") && algFits k.kty alg) keys with
  | [] => simp [hl] at h
  | [_] => simp [hl] at h
  | _ :: _ :: _ => simp [hl]


/-! ### bridge: the REGENERATED key selection (Generated/KeySetC02.lean, from pkg/oidc/keyset.go, pkg/op/op.go,
    pkg/op/verifier_jwt_profile.go, pkg/client/rp/jwks.go) is the hand-written model the theorems below (and C13's) speak about.
    An edit of `GetKeyIDAndAlg`, `algToKeyType`, `FindMatchingKey` or of a `VerifySignature` changes a `GenC02.*` definition
    and one of these equations stops checking. -/

theorem getKeyIDAndAlg_bridge (now : Int) (j : JWS) : GenC02.GetKeyIDAndAlg now j = Hand.GetKeyIDAndAlg j := by
  unfold GenC02.GetKeyIDAndAlg Hand.GetKeyIDAndAlg
  cases hs : j.Signatures <;> first | rfl | (simp only [GoX.loopCtl]; done) | go_leaf [GoX.loopCtl, Go.len, Go.HasLen.len, Go.index]

theorem algToKeyType_bridge (now : Int) (k : JWK) (alg : String) : GenC02.algToKeyType now k.Key alg = Hand.algToKeyType k alg := by
  unfold GenC02.algToKeyType Hand.algToKeyType algFits JWK.Key c02AsRSA c02AsECDSA c02AsEd25519
  first | rfl | go_leaf [Const.EdDSA]

/-- the tail of `FindMatchingKey` (what it answers from the kid-less candidates once the loop is over), whatever its text:
    closes `<tail on c> = match c with | [k] => .ok k | [] => ErrKeyNone | _ => ErrKeyMultiple` for a candidate list of
    length 0, 1, ≥ 2 -/
syntax "fmk_tail" : tactic
macro_rules
  | `(tactic| fmk_tail) => `(tactic| first
      | rfl
      | ((try simp only []); (repeat' split)
         all_goals (first | rfl
                          | (simp_all [Go.len, Go.HasLen.len, Go.index]; done)
                          | (simp_all [Go.len, Go.HasLen.len, Go.index] <;> omega)
                          | (simp [Go.len, Go.HasLen.len, Go.index] at * <;> omega))))

/-- one round of `FindMatchingKey`'s loop as the Go text decides it: an exact match leaves the function, anything else goes on
    with the candidates it leaves.  The regenerated loop body is compared with this pointwise by the shape-independent `go_leaf`
    (`findMatchingKey_bridge`), so merged / reordered / inverted guards of the Go text that decide the same thing still pass. -/
def fmkCtl (kid use alg : String) (vk : List JWK) (k : JWK) : GoX.Ctl (List JWK) (Go.R JWK) :=
  if k.Use != use && k.Use != "" then .next vk
  else if !algToKeyType k alg then .next vk
  else if k.KeyID == kid && kid != "" then .ret (.ok k)
  else if k.KeyID == "" || kid == "" then .next (vk ++ [k])
  else .next vk

theorem fmkCtl_fit (kid use alg : String) (vk : List JWK) (k : JWK) :
    fmkCtl kid use alg vk k =
      if fitp use alg k then
        if exactp kid k then .ret (.ok k) else if candp kid k then .next (vk ++ [k]) else .next vk
      else .next vk := by
  simp only [fmkCtl, fitp, exactp, candp, algToKeyType, bne, Bool.and_eq_true, Bool.or_eq_true, Bool.not_eq_true']
  cases k.Use == use <;> cases k.Use == "" <;> cases algFits k.kty alg <;> rfl

/-- ANY loop body that does, per key, what `fmkCtl` says makes the loop the fold of the hand-written model -/
theorem fmk_loop (kid use alg : String) (keys cands : List JWK)
    (f : List JWK → JWK → GoX.Ctl (List JWK) (Go.R JWK)) (hf : ∀ vk k, f vk k = fmkCtl kid use alg vk k) :
    GoX.loopCtl (β := Go.R JWK) keys cands f =
    (match keys.foldl (fmkStep kid use alg) (none, cands) with
     | (some k, _) => .inl (.ok k)
     | (none, c) => .inr c) := by
  induction keys generalizing cands with
  | nil => rfl
  | cons x xs ih =>
    rw [GoX.loopCtl, hf, fmkCtl_fit, List.foldl_cons, fmkStep_none]
    cases fitp use alg x <;> cases exactp kid x <;> cases candp kid x <;> simp only [fold_some, ih, ↓reduceIte, Bool.false_eq_true]

theorem findMatchingKey_bridge (now : Int) (kid use alg : String) (keys : List JWK) :
    GenC02.FindMatchingKey now kid use alg keys = Hand.FindMatchingKey kid use alg keys := by
  unfold GenC02.FindMatchingKey Hand.FindMatchingKey
  simp only []
  rw [fmk_loop kid use alg keys [] _ (by
    intro vk k
    simp only [fmkCtl, algToKeyType_bridge, Go.append]
    go_leaf)]
  rcases hf : List.foldl (fmkStep kid use alg) (none, []) keys with ⟨o, c⟩
  cases o with
  | some k => rfl
  | none =>
    simp only []
    rcases c with _ | ⟨a, _ | ⟨b, t⟩⟩ <;> fmk_tail

/-- `op.OpenIDKeySet.VerifySignature` (regenerated) on a storage that hands out `keys` is the published-key-set model
    (error texts aside: `CheckSignature` maps every error of `VerifySignature` to ErrSignatureInvalid) -/
theorem openIDKeySet_bridge (now : Int) (keys : List JWK) (j : JWS) :
    (GenC02.OpenIDKeySetVerifySignature now { keySet := .ok keys } j).toOption =
      (KeySet.VerifySignature { kind := .published, keys := keys } j).toOption := by
  unfold GenC02.OpenIDKeySetVerifySignature KeySet.VerifySignature c02StorageKeySet c02JSONWebKeySet
  simp only [getKeyIDAndAlg_bridge, findMatchingKey_bridge]
  rcases GetKeyIDAndAlg j with ⟨kid, alg⟩
  simp only []
  cases FindMatchingKey kid Const.KeyUseSignature alg keys <;> rfl

theorem openIDKeySet_storage_error (now : Int) (e : String) (j : JWS) :
    (GenC02.OpenIDKeySetVerifySignature now { keySet := .error e } j).toOption = none := rfl

/-- `op.jwtProfileKeySet.VerifySignature` (regenerated) over the reference registry is the jwt-profile key-set model -/
theorem jwtProfileKeySet_bridge (now : Int) (storage : List (String × JWK)) (clientID : String) (j : JWS) :
    (GenC02.JwtProfileKeySetVerifySignature now { storage := storage, clientID := clientID } j).toOption =
      (KeySet.VerifySignature (Hand.jwtProfileKeySet storage clientID) j).toOption := by
  unfold GenC02.JwtProfileKeySetVerifySignature KeySet.VerifySignature c02GetKeyByIDAndClientID Hand.jwtProfileKeySet
  simp only [getKeyIDAndAlg_bridge]
  rcases GetKeyIDAndAlg j with ⟨kid, alg⟩
  simp only []
  cases List.find? (fun k => k.KeyID == kid) (List.map (fun x => x.2) (List.filter (fun x => x.1 == clientID) storage)) <;> rfl

/-- the sequential functions of `rp.remoteKeySet`, regenerated over the regenerated `GetKeyIDAndAlg` / `FindMatchingKey`,
    are the ones the C13 transition system is instantiated with (which uses the hand-written twins) -/
theorem remoteExactMatch_bridge : GenC02.remoteExactMatch = GenJwks.exactMatch := rfl

theorem c02Pair_bridge (now : Int) : Hand.c02Pair (GenC02.FindMatchingKey now) = Hand.jwksFind := by
  funext kid use alg keys
  unfold Hand.c02Pair Hand.jwksFind
  rw [findMatchingKey_bridge]
  cases FindMatchingKey kid use alg keys <;> rfl

theorem remoteVerifySignatureCached_bridge : GenC02.remoteVerifySignatureCached = GenJwks.verifySignatureCached := by
  funext now r cached j kid alg
  unfold GenC02.remoteVerifySignatureCached GenJwks.verifySignatureCached
  rw [c02Pair_bridge, remoteExactMatch_bridge]

theorem remoteVerifySignatureRemote_bridge : GenC02.remoteVerifySignatureRemote = GenJwks.verifySignatureRemote := by
  funext now r rem j kid alg
  unfold GenC02.remoteVerifySignatureRemote GenJwks.verifySignatureRemote
  rw [c02Pair_bridge]

theorem remoteVerifySignature_bridge : GenC02.remoteVerifySignature = GenJwks.VerifySignature := by
  funext now r cached remote j
  unfold GenC02.remoteVerifySignature GenJwks.VerifySignature
  rw [getKeyIDAndAlg_bridge, remoteVerifySignatureCached_bridge]


theorem jwsVerify_ok {j : JWS} {k : JWK} {p : Payload} (h : jwsVerify j k = .ok p) :
    ∃ s, j.Signatures = [s] ∧ p = j.payload ∧ genuine j s k = true := by
  unfold jwsVerify at h
  split at h
  · rename_i s hs
    split at h
    · rename_i hv
      simp at h
      exact ⟨s, hs, h.symm, by simpa [genuine, sigVerifies] using hv⟩
    · simp at h
  · simp at h

/-- `KeySet.VerifySignature` succeeds only through a key of the set that justifies the token, and
    never when the key choice is ambiguous -/
theorem verifySignature_sound {ks : KeySet} {j : JWS} {p : Payload} (h : ks.VerifySignature j = .ok p) :
    ∃ s k, j.Signatures = [s] ∧ p = j.payload ∧ justifies ks j s k = true ∧
      ¬ (ks.kind = .published ∧ s.Header.KeyID = "" ∧ (usable ks s.Header.Algorithm).length ≥ 2) := by
  unfold KeySet.VerifySignature at h
  simp only [] at h
  cases hk : ks.kind with
  | published =>
    simp only [hk] at h
    split at h
    · simp at h
    · rename_i k hf
      obtain ⟨s, hs, hp, hg⟩ := jwsVerify_ok h
      have hsel := findMatchingKey_ok hf
      simp only [GetKeyIDAndAlg, hs] at hsel hf
      have hkid := findMatchingKey_sel hf
      refine ⟨s, k, hs, hp, ?_, ?_⟩
      · simp only [justifies, selectedOK, hk, publishedOK, kidConsistent, looseCandidates, usable, Bool.and_eq_true, Bool.or_eq_true,
          beq_iff_eq, bne_iff_ne, ne_eq, List.contains_eq_mem, decide_eq_true_eq]
        refine ⟨⟨hsel.1, hg⟩, ?_, ?_⟩
        · simpa [Const.KeyUseSignature] using hsel.2.1
        · rcases hkid with ⟨h1, h2⟩ | ⟨h1, h2⟩
          · exact Or.inl ⟨h1, h2⟩
          · exact Or.inr ⟨h1, by simpa [Const.KeyUseSignature] using h2⟩
      · rintro ⟨_, hkid, hamb⟩
        rw [hkid] at hf
        have := findMatchingKey_ambiguous (use := Const.KeyUseSignature) (alg := s.Header.Algorithm) (keys := ks.keys)
          (by simpa [usable, Const.KeyUseSignature] using hamb)
        rw [this] at hf
        simp at hf
  | jwtProfile =>
    simp only [hk] at h
    split at h
    · simp at h
    · rename_i k hf
      obtain ⟨s, hs, hp, hg⟩ := jwsVerify_ok h
      have hm := List.mem_of_find?_eq_some hf
      have hkid := List.find?_some hf
      simp only [GetKeyIDAndAlg, hs] at hkid
      refine ⟨s, k, hs, hp, ?_, by simp⟩
      simp only [justifies, selectedOK, hk, Bool.and_eq_true, List.contains_eq_mem, decide_eq_true_eq]
      exact ⟨⟨hm, hg⟩, hkid⟩
  | nilSet => simp [hk] at h
  | static =>
    simp only [hk] at h
    split at h
    · simp at h
    · rename_i k hf
      have hm := List.mem_of_find?_eq_some hf
      have hv := List.find?_some hf
      simp at h
      cases hjv : jwsVerify j k with
      | error e => simp [hjv, Except.toBool] at hv
      | ok p' =>
        obtain ⟨s, hs, hp, hg⟩ := jwsVerify_ok hjv
        refine ⟨s, k, hs, h.symm, ?_, by simp⟩
        simp only [justifies, selectedOK, hk, Bool.and_eq_true, List.contains_eq_mem, decide_eq_true_eq]
        exact ⟨⟨hm, hg⟩, trivial⟩


/-- characterisation of the regenerated `oidc.CheckSignature` (in the vocabulary of the Go text): it succeeds only if go-jose
    parses the token under the allow-list in force, there is neither no signature nor more than one, the key set verifies it,
    the signed payload is the parsed one, and the claims come back with the signature's algorithm noted -/
theorem checkSignature_paths {now : Int} {t : Token} {p : Payload} {c c' : Claims} {algs : List String} {ks : KeySet} :
    CheckSignature now t p c algs ks = .ok c' →
    ∃ j, joseParseSigned t (toJoseSignatureAlgorithms algs) = .ok j ∧ Go.len j.Signatures ≠ 0 ∧ Go.len j.Signatures ≤ 1 ∧
      ∃ sp, ks.VerifySignature j = .ok sp ∧ Go.bytesEqual sp p = true ∧
        c' = c.SetSignatureAlgorithm (Go.index j.Signatures (0 : Int)).Header.Algorithm := by
  unfold CheckSignature
  go_paths

theorem single_of_len {l : List JSig} (h0 : Go.len l ≠ 0) (h1 : Go.len l ≤ 1) : l = [Go.index l (0 : Int)] := by
  match l with
  | [] => simp [Go.len, Go.HasLen.len] at h0
  | [s] => rfl
  | a :: b :: r => simp [Go.len, Go.HasLen.len] at h1; omega

theorem parseToken_ok {now : Int} {t : Token} {p : Payload} {c : Claims} (h : ParseToken now t = .ok (p, c)) :
    t.segs = 3 ∧ t.middle = some p ∧ p.claims = some c := by
  unfold ParseToken at h
  split at h; · cases h
  split at h; · cases h
  split at h <;> cases h
  exact ⟨by simpa using ‹¬(t.segs != 3) = true›, ‹_›, ‹_›⟩

theorem joseParseSigned_ok {t : Token} {algs : List String} {j : JWS} (h : joseParseSigned t algs = .ok j) :
    t.jws = some j ∧ (j.Signatures.all fun s => algs.contains s.Header.Algorithm) = true := by
  unfold joseParseSigned at h
  split at h; · cases h
  split at h <;> cases h
  exact ⟨‹_›, ‹_›⟩

/-- what `oidc.ParseToken` (hand model, Model/Token.lean) and the regenerated `oidc.CheckSignature` establish together -/
theorem parse_and_signature_sound {now : Int} {t : Token} {p : Payload} {c c' : Claims} {algs : List String} {ks : KeySet}
    (hp : ParseToken now t = .ok (p, c)) (hs : CheckSignature now t p c algs ks = .ok c') :
    acceptedOK algs ks t c' = none ∧ ambiguous ks t = false := by
  obtain ⟨hsegs, hmid, hc0⟩ := parseToken_ok hp
  obtain ⟨j, hj, hl0, hl1, sp, hv, hbytes, rfl⟩ := checkSignature_paths hs
  obtain ⟨hjws, hall⟩ := joseParseSigned_ok hj
  obtain ⟨s, k, hsig, rfl, hjust, hamb⟩ := verifySignature_sound hv
  have hk : k ∈ ks.keys ∧ genuine j s k = true := by
    simp only [justifies, Bool.and_eq_true, List.contains_eq_mem, decide_eq_true_eq] at hjust
    exact hjust.1
  constructor
  · have hallowed : s.Header.Algorithm ∈ allowed algs := by
      simpa [hsig, allowed, toJoseSignatureAlgorithms] using hall
    have hany : (ks.keys.any fun k => justifies ks j s k) = true := List.any_eq_true.mpr ⟨k, hk.1, hjust⟩
    have hgen : (ks.keys.any fun k => genuine j s k) = true := List.any_eq_true.mpr ⟨k, hk.1, hk.2⟩
    have hb : j.payload.bytes = p.bytes := by simpa [Go.bytesEqual] using hbytes
    simp [acceptedOK, hsegs, hjws, hsig, hmid, hc0, hallowed, hany, hgen, hb, Go.index, Claims.SetSignatureAlgorithm]
  · unfold ambiguous
    cases hkind : ks.kind <;> simp only [hjws, hsig]
    simp only [Bool.and_eq_false_iff, decide_eq_false_iff_not]
    by_cases hkid : s.Header.KeyID = ""
    · exact Or.inr fun hge => hamb ⟨hkind, hkid, hge⟩
    · exact Or.inl (by simpa using hkid)

theorem checkSignature_key {now : Int} {t : Token} {p : Payload} {c c' : Claims} {algs : List String} {ks : KeySet}
    (hs : CheckSignature now t p c algs ks = .ok c') :
    ∃ j s k, t.jws = some j ∧ j.Signatures = [s] ∧ justifies ks j s k = true := by
  obtain ⟨j, hj, _, _, sp, hv, _, _⟩ := checkSignature_paths hs
  obtain ⟨s, k, hsig, _, hjust, _⟩ := verifySignature_sound hv
  exact ⟨j, s, k, (joseParseSigned_ok hj).1, hsig, hjust⟩

/-- **key-id consistency.**  `KeyConsistent ks t`: the token carries exactly one signature, it is a genuine signature by a key
    `k` of the key set, and `k` was entitled to be selected — for a published set (remote JWKS, `op.OpenIDKeySet`): its declared
    use permits signatures and EITHER the token's header (`Header`: protected and unprotected part as go-jose merges them) names
    exactly `k`'s key id, OR one of the two has no key id and `k` is the only candidate left; for a per-client registry
    (`jwtProfileKeySet`): the header names exactly `k`'s key id. -/
def KeyConsistent (ks : KeySet) (t : Token) : Prop :=
  ∃ j s k, t.jws = some j ∧ j.Signatures = [s] ∧ k ∈ ks.keys ∧ genuine j s k = true ∧
    (ks.kind = .published →
      (k.Use = "sig" ∨ k.Use = "") ∧
      ((k.KeyID = s.Header.KeyID ∧ s.Header.KeyID ≠ "") ∨
       ((k.KeyID = "" ∨ s.Header.KeyID = "") ∧ looseCandidates ks s = [k]))) ∧
    (ks.kind = .jwtProfile → k.KeyID = s.Header.KeyID) ∧
    ks.kind ≠ .nilSet

theorem c02_kid_consistent {now : Int} {t : Token} {p : Payload} {c c' : Claims} {algs : List String} {ks : KeySet}
    (hs : CheckSignature now t p c algs ks = .ok c') : KeyConsistent ks t := by
  obtain ⟨j, s, k, hj, hsig, hjust⟩ := checkSignature_key hs
  simp only [justifies, Bool.and_eq_true, List.contains_eq_mem, decide_eq_true_eq] at hjust
  obtain ⟨⟨hm, hg⟩, hsel⟩ := hjust
  refine ⟨j, s, k, hj, hsig, hm, hg, ?_, ?_, ?_⟩
  · intro hk
    simp only [selectedOK, hk, publishedOK, kidConsistent, Bool.and_eq_true, Bool.or_eq_true, beq_iff_eq, bne_iff_ne, ne_eq] at hsel
    exact hsel
  · intro hk
    simpa [selectedOK, hk] using hsel
  · intro hk
    simp [selectedOK, hk] at hsel

/-- with the header views fitting together as go-jose builds them, the key id the token names is the protected one, and the
    unprotected one only where the protected header has none -/
theorem named_kid_of_merged {s : JSig} (h : headerMerged s = true) :
    s.Header.KeyID = (if s.Protected.KeyID != "" then s.Protected.KeyID else s.Unprotected.KeyID) ∧
    s.Header.Algorithm = (if s.Protected.Algorithm != "" then s.Protected.Algorithm else s.Unprotected.Algorithm) := by
  simp only [headerMerged, beq_iff_eq] at h
  rw [h]; exact ⟨rfl, rfl⟩

/-- `Checked now t algs ks c`: the token went through `ParseToken` and then through `CheckSignature` under allow-list `algs` and
    key set `ks`, and `c` are the claims `CheckSignature` handed back.  This is all the C02 theorems need to know of an accepting
    verifier. -/
def Checked (now : Int) (t : Token) (algs : List String) (ks : KeySet) (c : Claims) : Prop :=
  ∃ p c0, ParseToken now t = .ok (p, c0) ∧ CheckSignature now t p c0 algs ks = .ok c

theorem monitor_some {algs : List String} {ks : KeySet} {t : Token} {c : Claims} :
    monitor algs ks t (some c) = none ↔ acceptedOK algs ks t c = none ∧ ambiguous ks t = false := by
  simp only [monitor]
  cases acceptedOK algs ks t c <;> cases ambiguous ks t <;> simp

theorem acceptedOK_none {algs : List String} {ks : KeySet} {t : Token} {c : Claims} (h : acceptedOK algs ks t c = none) :
    t.segs = 3 ∧ ∃ j s p c0, t.jws = some j ∧ j.Signatures = [s] ∧ (allowed algs).contains s.Header.Algorithm = true ∧
      (∃ k ∈ ks.keys, justifies ks j s k = true) ∧ t.middle = some p ∧ p.bytes = j.payload.bytes ∧ p.claims = some c0 ∧
      { c with sigAlg := "" } = { c0 with sigAlg := "" } := by
  unfold acceptedOK at h
  obtain ⟨h3, h⟩ := Go.guard_none.mp h
  split at h; · cases h
  rename_i j hj
  split at h
  case h_2 => cases h
  rename_i s hs
  obtain ⟨ha, h⟩ := Go.guard_none.mp h
  obtain ⟨-, h⟩ := Go.guard_none.mp h
  obtain ⟨hany, h⟩ := Go.guard_none.mp h
  split at h; · cases h
  rename_i p hm
  obtain ⟨hb, h⟩ := Go.guard_none.mp h
  split at h; · cases h
  rename_i c0 hc
  obtain ⟨he, -⟩ := Go.guard_none.mp h
  refine ⟨by simpa using h3, j, s, p, c0, hj, hs, by simpa using ha, ?_, hm, by simpa using hb, hc, by simpa using he⟩
  simpa [List.any_eq_true] using hany

theorem acceptedOK_congr {algs : List String} {ks : KeySet} {t : Token} {c c' : Claims}
    (h : { c' with sigAlg := "" } = { c with sigAlg := "" }) : acceptedOK algs ks t c' = acceptedOK algs ks t c := by
  unfold acceptedOK
  simp only [h]

theorem Checked.monitor {now t algs ks c} (h : Checked now t algs ks c) : monitor algs ks t (some c) = none := by
  obtain ⟨p, c0, hp, hs⟩ := h
  exact monitor_some.mpr (parse_and_signature_sound hp hs)

theorem Checked.keyConsistent {now t algs ks c} (h : Checked now t algs ks c) : KeyConsistent ks t := by
  obtain ⟨p, c0, _, hs⟩ := h
  exact c02_kid_consistent hs

/-! Characterisation lemmas of the four regenerated verifier functions: an accepted
    token is `Checked` with the verifier's allow-list and key set.  The scripts do not depend on the shape of the Go text: every
    branch either returns an error or has the two equations of `Checked` among the equations of the `match`es it sits under. -/

theorem verifyIDToken_checked {now t v c} (h : VerifyIDToken now t v = .ok c) : Checked now t v.SupportedSignAlgs v.KeySet c := by
  revert h
  unfold VerifyIDToken DecryptToken
  simp only []
  repeat' split
  all_goals intro h; cases h
  all_goals exact ⟨_, _, ‹_›, ‹_›⟩

theorem opVerifyAccessToken_checked {now t v c} (h : OPVerifyAccessToken now t v = .ok c) :
    Checked now t v.SupportedSignAlgs v.KeySet c := by
  revert h
  unfold OPVerifyAccessToken DecryptToken
  simp only []
  repeat' split
  all_goals intro h; cases h
  all_goals exact ⟨_, _, ‹_›, ‹_›⟩

def _root_.HintOut.claims : HintOut → Claims
  | .valid c => c
  | .expired c _ => c

@[simp] theorem _root_.HintOut.claims_valid (c : Claims) : (HintOut.valid c).claims = c := rfl
@[simp] theorem _root_.HintOut.claims_expired (c : Claims) (e : String) : (HintOut.expired c e).claims = c := rfl

/-- an accepted hint (valid OR expired) also passed `CheckIssuer` against the verifier's issuer -/
theorem verifyIDTokenHint_paths {now t v o} (h : VerifyIDTokenHint now t v = .ok o) :
    ∃ p c0, ParseToken now t = .ok (p, c0) ∧ CheckIssuer now c0 v.Issuer = .ok () ∧
      CheckSignature now t p c0 v.SupportedSignAlgs v.KeySet = .ok o.claims := by
  revert h
  unfold VerifyIDTokenHint DecryptToken
  simp only []
  repeat' split
  all_goals intro h; cases h
  all_goals exact ⟨_, _, ‹_›, ‹_›, ‹_›⟩

theorem verifyIDTokenHint_checked {now t v o} (h : VerifyIDTokenHint now t v = .ok o) :
    Checked now t v.SupportedSignAlgs v.KeySet o.claims :=
  let ⟨p, c0, hp, _, hs⟩ := verifyIDTokenHint_paths h
  ⟨p, c0, hp, hs⟩

/-- the key set a JWT-profile verifier uses for an assertion with issuer `iss` -/
def assertionKeySet (v : JWTProfileVerifier) (iss : String) : KeySet :=
  if Go.isNil v.keySet then Hand.jwtProfileKeySet v.Storage iss else v.keySet

theorem parseToken_issuer {now t p c} (h : ParseToken now t = .ok (p, c)) : payloadIssuer t = some c.iss := by
  obtain ⟨_, hm, hc⟩ := parseToken_ok h
  simp [payloadIssuer, hm, hc]

theorem verifyJWTAssertion_checked {now t v c} (h : VerifyJWTAssertion now t v = .ok c) :
    ∃ iss, payloadIssuer t = some iss ∧ Checked now t [] (assertionKeySet v iss) c := by
  revert h
  unfold VerifyJWTAssertion
  simp only []
  repeat' split
  all_goals intro h; cases h
  all_goals refine ⟨_, parseToken_issuer ‹_›, _, _, ‹_›, ?_⟩
  -- the Go text may test the key set for nil before the call or inside its argument, in either polarity: both answers, here
  all_goals rcases Bool.eq_false_or_eq_true (Go.isNil v.keySet) with hn | hn <;>
    simp_all only [assertionKeySet, notNil_eq_not_isNil, Bool.not_true, Bool.not_false, Bool.false_eq_true, not_true_eq_false,
      not_false_eq_true, ↓reduceIte] <;>
    assumption

/-- C02 for the RP ID-token verifier -/
theorem c02_rp (now : Int) (t : Token) (v : Verifier) :
    monitor v.SupportedSignAlgs v.KeySet t (VerifyIDToken now t v).toOption = none := by
  cases h : VerifyIDToken now t v with
  | error e => rfl
  | ok c => exact (verifyIDToken_checked h).monitor

/-- C02 for the OP access-token verifier -/
theorem c02_accessToken (now : Int) (t : Token) (v : Verifier) :
    monitor v.SupportedSignAlgs v.KeySet t (OPVerifyAccessToken now t v).toOption = none := by
  cases h : OPVerifyAccessToken now t v with
  | error e => rfl
  | ok c => exact (opVerifyAccessToken_checked h).monitor

/-- C02 for the id_token_hint verifier (claims are handed back for valid AND for expired hints) -/
theorem c02_idTokenHint (now : Int) (t : Token) (v : Verifier) :
    monitor v.SupportedSignAlgs v.KeySet t ((VerifyIDTokenHint now t v).toOption.map HintOut.claims) = none := by
  cases h : VerifyIDTokenHint now t v with
  | error e => rfl
  | ok o => exact (verifyIDTokenHint_checked h).monitor

/-- C02 for JWT-profile assertions: default allow-list, keys of the client named as issuer -/
theorem c02_assertion (now : Int) (t : Token) (v : JWTProfileVerifier) :
    ∀ c, VerifyJWTAssertion now t v = .ok c →
      ∃ iss, payloadIssuer t = some iss ∧ monitor [] (assertionKeySet v iss) t (some c) = none := by
  intro c h
  obtain ⟨iss, hi, hc⟩ := verifyJWTAssertion_checked h
  exact ⟨iss, hi, hc.monitor⟩

/-- key-id consistency for the four verifiers (all tokens, key sets, allow-lists, serialisations) -/
theorem c02_kid_consistent_rp {now : Int} {t : Token} {v : Verifier} {c : Claims}
    (h : VerifyIDToken now t v = .ok c) : KeyConsistent v.KeySet t :=
  (verifyIDToken_checked h).keyConsistent

theorem c02_kid_consistent_accessToken {now : Int} {t : Token} {v : Verifier} {c : Claims}
    (h : OPVerifyAccessToken now t v = .ok c) : KeyConsistent v.KeySet t :=
  (opVerifyAccessToken_checked h).keyConsistent

theorem c02_kid_consistent_idTokenHint {now : Int} {t : Token} {v : Verifier} {o : HintOut}
    (h : VerifyIDTokenHint now t v = .ok o) : KeyConsistent v.KeySet t :=
  (verifyIDTokenHint_checked h).keyConsistent

theorem c02_kid_consistent_assertion {now : Int} {t : Token} {v : JWTProfileVerifier} {c : Claims}
    (h : VerifyJWTAssertion now t v = .ok c) : ∃ iss, payloadIssuer t = some iss ∧ KeyConsistent (assertionKeySet v iss) t := by
  obtain ⟨iss, hi, hc⟩ := verifyJWTAssertion_checked h
  exact ⟨iss, hi, hc.keyConsistent⟩

/-- an answer that agrees with the model key set's (error texts aside) is justified as the model's is -/
theorem sound_of_bridge {r : Go.R Payload} {ks : KeySet} {j : JWS} {p : Payload}
    (hb : r.toOption = (ks.VerifySignature j).toOption) (h : r = .ok p) :
    ∃ s k, j.Signatures = [s] ∧ p = j.payload ∧ justifies ks j s k = true := by
  subst h
  cases hv : ks.VerifySignature j with
  | error e => simp [hv, Except.toOption] at hb
  | ok p' =>
    simp only [hv, Except.toOption, Option.some.injEq] at hb
    subst hb
    obtain ⟨s, k, hs, hp, hj, _⟩ := verifySignature_sound hv
    exact ⟨s, k, hs, hp, hj⟩

/-- the published-key-set verifiers run the regenerated `OpenIDKeySet.VerifySignature`: what it accepts, the model accepts -/
theorem openIDKeySet_sound {now : Int} {keys : List JWK} {j : JWS} {p : Payload}
    (h : GenC02.OpenIDKeySetVerifySignature now { keySet := .ok keys } j = .ok p) :
    ∃ s k, j.Signatures = [s] ∧ p = j.payload ∧ justifies { kind := .published, keys := keys } j s k = true :=
  sound_of_bridge (openIDKeySet_bridge now keys j) h

theorem jwtProfileKeySet_sound {now : Int} {storage : List (String × JWK)} {clientID : String} {j : JWS} {p : Payload}
    (h : GenC02.JwtProfileKeySetVerifySignature now { storage := storage, clientID := clientID } j = .ok p) :
    ∃ s k, j.Signatures = [s] ∧ p = j.payload ∧ justifies (Hand.jwtProfileKeySet storage clientID) j s k = true :=
  sound_of_bridge (jwtProfileKeySet_bridge now storage clientID j) h

/-! ### non-vacuity and why the payload comparison is needed -/
section examples
def exKeyA : JWK := { KeyID := "a", Use := "sig", kty := .rsa, keyNo := 1 }
def exKeyB : JWK := { KeyID := "", Use := "", kty := .rsa, keyNo := 2 }
def exKeyEnc : JWK := { KeyID := "e", Use := "enc", kty := .rsa, keyNo := 3 }
def exC : Claims := { iss := "https://op", sub := "u", aud := ["rp"], exp := 2000000600, iat := 2000000000 }
def exP : Payload := { bytes := 1, claims := some exC }
def exEvil : Payload := { bytes := 2, claims := some { exC with sub := "admin" } }
def exH : JHeader := { Algorithm := "RS256", KeyID := "a" }
def exS : JSig := { Header := exH, signer := some 1, signedAlg := "RS256", signedBytes := 1, signedHdr := exH }
def exT : Token := { segs := 3, middle := some exP, jws := some { Signatures := [exS], payload := exP } }
/-- JSON-serialisation smuggling: go-jose sees the genuinely signed payload, `ParseToken` another one -/
def exSmuggled : Token := { exT with middle := some exEvil }
def exKS : KeySet := { kind := .published, keys := [exKeyEnc, exKeyA, exKeyB] }
def exVv : Verifier := { Issuer := "https://op", ClientID := "rp", KeySet := exKS }

example : (VerifyIDToken (2000000100 * Go.second) exT exVv).toOption = some (exC.SetSignatureAlgorithm "RS256") := by decide +kernel
example : acceptedOK [] exKS exT (exC.SetSignatureAlgorithm "RS256") = none := by decide +kernel
-- the signature of the smuggled token verifies; only the byte comparison stops it
example : (exKS.VerifySignature { Signatures := [exS], payload := exP }).toOption = some exP := by decide +kernel
example : (VerifyIDToken (2000000100 * Go.second) exSmuggled exVv).toOption = none := by decide +kernel
example : acceptedOK [] exKS exSmuggled { exC with sub := "admin" } = some "payload-not-the-signed-one" := by decide +kernel
-- alg=none / HS256 never fit a key type, whatever the allow-list says
example : ∀ kty, algFits kty "none" = false ∧ algFits kty "HS256" = false := by intro kty; cases kty <;> decide
-- an `enc` key is never selected, two kid-less candidates are reported as ambiguous
example : (FindMatchingKey "e" "sig" "RS256" [exKeyEnc, exKeyA]).toOption = none := by
  rw [findMatchingKey_eq_spec]; decide
example : FindMatchingKey "" "sig" "RS256" exKS.keys = .error "ErrKeyMultiple" :=
  findMatchingKey_ambiguous (by decide)

/-! a flattened JSON JWS whose key id travels in the UNPROTECTED header (the protected one carries only `alg`) -/
def exHP : JHeader := { Algorithm := "RS256", KeyID := "" }
def exFlatS (kid : String) : JSig :=
  { Header := { Algorithm := "RS256", KeyID := kid }, signer := some 1, signedAlg := "RS256", signedBytes := 1, signedHdr := exHP,
    Protected := exHP, Unprotected := { Algorithm := "", KeyID := kid } }
def exFlat (kid : String) : Token := { segs := 3, middle := some exP, jws := some { Signatures := [exFlatS kid], payload := exP } }
def exKS1 : KeySet := { kind := .published, keys := [exKeyA] }
def exV1 : Verifier := { Issuer := "https://op", ClientID := "rp", KeySet := exKS1 }
example : headerMerged (exFlatS "a") = true ∧ headerMerged (exFlatS "zz") = true := by decide +kernel
-- naming the key it was signed with: believed, and the key-id clause holds through the unprotected header
example : (VerifyIDToken (2000000100 * Go.second) (exFlat "a") exV1).toOption = some (exC.SetSignatureAlgorithm "RS256") := by decide +kernel
example : acceptedOK [] exKS1 (exFlat "a") (exC.SetSignatureAlgorithm "RS256") = none := by decide +kernel
-- naming ANOTHER key ("zz") while signed with the set's only key: the signature itself verifies under that key ...
example : (jwsVerify { Signatures := [exFlatS "zz"], payload := exP } exKeyA).toOption = some exP := by decide +kernel
-- ... but the token is rejected, in all three verifiers over a published set (reading only the protected header would accept it)
example : (VerifyIDToken (2000000100 * Go.second) (exFlat "zz") exV1).toOption = none := by decide +kernel
example : (OPVerifyAccessToken (2000000100 * Go.second) (exFlat "zz") exV1).toOption = none := by decide +kernel
example : (VerifyIDTokenHint (2000000100 * Go.second) (exFlat "zz") exV1).toOption.map HintOut.claims = none := by decide +kernel
example : acceptedOK [] exKS1 (exFlat "zz") (exC.SetSignatureAlgorithm "RS256") = some "key-not-consistent-with-header" := by decide +kernel
-- without any key id the only candidate is taken; with a second candidate it is not
example : (VerifyIDToken (2000000100 * Go.second) (exFlat "") exV1).toOption = some (exC.SetSignatureAlgorithm "RS256") := by decide +kernel
example : (VerifyIDToken (2000000100 * Go.second) (exFlat "") exVv).toOption = none := by decide +kernel
-- the regenerated functions on the same inputs
example : GenC02.GetKeyIDAndAlg 0 { Signatures := [exFlatS "zz"], payload := exP } = ("zz", "RS256") := by decide +kernel
example : (GenC02.OpenIDKeySetVerifySignature 0 { keySet := .ok [exKeyA] } { Signatures := [exFlatS "zz"], payload := exP }).toOption = none := by decide +kernel
example : (GenC02.OpenIDKeySetVerifySignature 0 { keySet := .ok [exKeyA] } { Signatures := [exFlatS "a"], payload := exP }).toOption = some exP := by decide +kernel
end examples

end C02
