/-
  C09 — slice / index expressions never run out of range (kind W).

  `entailsLe_sound`, `entailsNonneg_sound`, `safe_sound`: the syntactic check `BoundSite.safe` is sound — for ALL values
  of the opaque quantities (all lengths, all indices) that satisfy the recorded facts the access is in range;
  `unsafe_bound_sites_audited` (`decide`): on the sites regenerated from the source the check fails exactly for the
  audited ones; `c09_bound_sites_total`: no regenerated, non-audited site panics, whatever the lengths are.
  When a length guard is removed, weakened, or moved to another variable / another function, the regenerated site
  carries no (or a weaker) fact, `safe` is false for it and `unsafe_bound_sites_audited` stops checking.
  `c09_loop_sites_total`: the same with both bounds of loop-carried index variables; `*_pinned`: the text of the two audited
  functions and the list of files the scan skips; `c09_no_length_panics`: what the driver predicts for a parameter of length `n`.
-/
import OidcModel.Model.C09Tie

namespace C09


theorem holds_ge {g : BGuard} {env : BEnv} (h : g.holds env = true) (ho : g.op = .ge) : g.rhs.eval env ≤ env g.lhs := by
  simpa [BGuard.holds, ho] using h

theorem holds_eq {g : BGuard} {env : BEnv} (h : g.holds env = true) (ho : g.op = .eq) : env g.lhs = g.rhs.eval env := by
  simpa [BGuard.holds, ho] using h

theorem holds_lt {g : BGuard} {env : BEnv} (h : g.holds env = true) (ho : g.op = .lt) : env g.lhs < g.rhs.eval env := by
  simpa [BGuard.holds, ho] using h

/-- `ge` and `eq` facts both give a lower bound -/
theorem holds_lower {g : BGuard} {env : BEnv} (h : g.holds env = true) (ho : (g.op == .ge || g.op == .eq) = true) :
    g.rhs.eval env ≤ env g.lhs := by
  simp only [Bool.or_eq_true, beq_iff_eq] at ho
  rcases ho with ho | ho
  · exact holds_ge h ho
  · exact Int.le_of_eq (holds_eq h ho).symm

theorem eval_none {t : BTerm} {env : BEnv} (h : t.atom = none) : t.eval env = t.off := by simp [BTerm.eval, h]
theorem eval_some {t : BTerm} {env : BEnv} {a : BAtom} (h : t.atom = some a) : t.eval env = env a + t.off := by simp [BTerm.eval, h]

theorem lowerOf_sound {gs : List BGuard} {env : BEnv} (hok : BEnvOK env) (hg : ∀ g ∈ gs, g.holds env = true)
    {a : BAtom} {c : Int} (hc : c ∈ lowerOf gs a) : c ≤ env a := by
  unfold lowerOf at hc
  rcases List.mem_append.mp hc with h | h
  · cases a with
    | len v => simp at h; subst h; exact hok.len_nonneg v
    | var n =>
      cases hv : constVal n with
      | none => simp [hv] at h
      | some v => simp [hv] at h; rw [h]; exact Int.le_of_eq (hok.consts n v hv).symm
    | other t => simp at h
  · obtain ⟨g, hgm, hgc⟩ := List.mem_filterMap.mp h
    split at hgc
    · rename_i hcond
      simp only [Bool.and_eq_true, beq_iff_eq] at hcond
      obtain ⟨⟨⟨hl, _⟩, hn⟩, hop⟩ := hcond
      have hlow := holds_lower (hg g hgm) (by simpa using hop)
      have hn' : g.rhs.atom = none := by simpa using hn
      rw [eval_none hn', hl] at hlow
      cases hgc
      exact hlow
    · cases hgc

theorem entailsNonneg_sound {gs : List BGuard} {env : BEnv} (hok : BEnvOK env) (hg : ∀ g ∈ gs, g.holds env = true)
    {t : BTerm} (h : entailsNonneg gs t = true) : 0 ≤ t.eval env := by
  unfold entailsNonneg at h
  cases ha : t.atom with
  | none => simp only [ha, decide_eq_true_eq] at h; rw [eval_none ha]; exact h
  | some a =>
    simp only [ha, List.any_eq_true, decide_eq_true_eq] at h
    obtain ⟨c, hc, hle⟩ := h
    have := lowerOf_sound hok hg hc
    rw [eval_some ha]; omega

theorem entailsLe_sound {gs : List BGuard} {env : BEnv} (hok : BEnvOK env) (hg : ∀ g ∈ gs, g.holds env = true)
    {t1 t2 : BTerm} (h : entailsLe gs t1 t2 = true) : t1.eval env ≤ t2.eval env := by
  unfold entailsLe at h
  cases h1 : t1.atom with
  | none =>
    cases h2 : t2.atom with
    | none => simp only [h1, h2, decide_eq_true_eq] at h; rw [eval_none h1, eval_none h2]; exact h
    | some a =>
      simp only [h1, h2, List.any_eq_true, decide_eq_true_eq] at h
      obtain ⟨c, hc, hle⟩ := h
      have := lowerOf_sound hok hg hc
      rw [eval_none h1, eval_some h2]; omega
  | some i =>
    cases h2 : t2.atom with
    | none => simp [h1, h2] at h
    | some a =>
      rw [eval_some h1, eval_some h2]
      simp only [h1, h2, Bool.or_eq_true] at h
      rcases h with (((h | h) | h) | h) | h
      · -- R1
        simp only [Bool.and_eq_true, beq_iff_eq, decide_eq_true_eq] at h
        obtain ⟨⟨_, hia⟩, hle⟩ := h
        subst hia; omega
      · -- R3
        simp only [List.any_eq_true, Bool.and_eq_true, beq_iff_eq, decide_eq_true_eq] at h
        obtain ⟨g, hgm, ⟨⟨⟨⟨⟨hop, hl⟩, _⟩, hr⟩, _⟩, hle⟩⟩ := h
        have hlt := holds_lt (hg g hgm) hop
        rw [eval_some hr, hl] at hlt
        omega
      · -- R4
        simp only [List.any_eq_true, Bool.and_eq_true, beq_iff_eq, decide_eq_true_eq] at h
        obtain ⟨g, hgm, ⟨⟨⟨⟨hop, hl⟩, hr⟩, _⟩, hle⟩⟩ := h
        have hlow := holds_lower (hg g hgm) (by simpa using hop)
        rw [eval_some hr, hl] at hlow
        omega
      · -- R5
        simp only [List.any_eq_true, Bool.and_eq_true, beq_iff_eq] at h
        obtain ⟨g1, hg1m, ⟨⟨⟨hop1, hl1⟩, _⟩, hrest⟩⟩ := h
        cases hb : g1.rhs.atom with
        | none => simp [hb] at hrest
        | some b =>
          simp only [hb, Bool.and_eq_true, List.any_eq_true, beq_iff_eq, decide_eq_true_eq] at hrest
          obtain ⟨_, g2, hg2m, ⟨⟨⟨hop2, hl2⟩, hr2⟩, hle⟩⟩ := hrest
          have hlt := holds_lt (hg g1 hg1m) hop1
          have hlow := holds_lower (hg g2 hg2m) (by simpa using hop2)
          rw [eval_some hb, hl1] at hlt
          rw [eval_some hr2, hl2] at hlow
          omega
      · -- R6
        simp only [List.any_eq_true, Bool.and_eq_true, beq_iff_eq, decide_eq_true_eq, Option.isNone_iff_eq_none] at h
        obtain ⟨g1, hg1m, ⟨⟨⟨⟨hop1, hl1⟩, _⟩, hn⟩, c, hc, hle⟩⟩ := h
        have hlt := holds_lt (hg g1 hg1m) hop1
        have hlow := lowerOf_sound hok hg hc
        rw [eval_none hn, hl1] at hlt
        omega

/-- **soundness of the check**: a site that passes `safe` is in range for every assignment of lengths, indices and
    constants that satisfies the facts recorded for it -/
theorem safe_sound {s : BoundSite} (hs : s.safe = true) {env : BEnv} (hok : BEnvOK env)
    (hg : ∀ g ∈ s.guards, g.holds env = true) : s.inRange env = true := by
  simp only [BoundSite.safe, Bool.and_eq_true] at hs
  obtain ⟨⟨h0, h1⟩, h2⟩ := hs
  have a := entailsNonneg_sound hok hg h0
  have b := entailsLe_sound hok hg h1
  have c := entailsLe_sound hok hg h2
  have hc : (⟨some (.len s.base), 0⟩ : BTerm).eval env = env (.len s.base) := by simp [BTerm.eval]
  rw [hc] at c
  simp [BoundSite.inRange, a, b, c]

theorem safe_no_panic {s : BoundSite} (hs : s.safe = true) {env : BEnv} (hok : BEnvOK env) : sitePanics s env = false := by
  unfold sitePanics
  cases hall : s.guards.all (·.holds env)
  · simp
  · have := safe_sound hs hok (fun g hg => by simpa using List.all_eq_true.mp hall g hg)
    simp [this]


/-! the audited sites: `auditedBoundSites` (Model/C09Bounds.lean) -/

/-- on the slice / index expressions regenerated from the source the check fails exactly for the audited ones -/
theorem unsafe_bound_sites_audited :
    ((GenC09.boundSites.filter fun s => !s.safe).map fun s => (s.fn, s.expr)) = auditedBoundSites := by decide +kernel

theorem bound_sites_safe_or_audited :
    ∀ s ∈ GenC09.boundSites, (s.fn, s.expr) ∉ auditedBoundSites → s.safe = true := by
  intro s hs hna
  cases hsafe : s.safe
  · exfalso
    apply hna
    rw [← unsafe_bound_sites_audited]
    exact List.mem_map.mpr ⟨s, List.mem_filter.mpr ⟨hs, by simp [hsafe]⟩, rfl⟩
  · rfl

/-- **C09 (slice / index expressions)**: no slice expression `x[a:b]` / `x[:n]` / `x[n:]` and no index expression `x[i]`
    of pkg/oidc, pkg/op, pkg/http, pkg/crypto, pkg/client (operand not a map; the audited two excepted) runs out of
    range — for every length of every operand and every value of every index that reaches it -/
theorem c09_bound_sites_total :
    ∀ s ∈ GenC09.boundSites, (s.fn, s.expr) ∉ auditedBoundSites → ∀ env : BEnv, BEnvOK env → sitePanics s env = false :=
  fun s hs hna _ hok => safe_no_panic (bound_sites_safe_or_audited s hs hna) hok

/-! ### index variables that a loop carries (`for !p(b[i]) { i-- }`, `for i := n; …; i-- { b[i] }`) -/

/-- on the regenerated sites: every loop-carried index variable has a lower-bound AND an upper-bound fact that
    dominates the access (no site is exempt - the audited two have opaque indices) -/
theorem loop_carried_sites_guarded :
    ((GenC09.boundSites.filter fun s => !s.loopGuarded).map fun s => (s.fn, s.expr)) = [] := by decide +kernel

/-- **C09 (slice / index expressions inside loops)**: for every regenerated slice / index expression (audited ones
    excepted): `loopGuarded` holds (the translator's record that both bounds of every index variable carried around a loop
    are guarded by a fact that holds on every path to the access in EVERY iteration), and the access is in range for all
    lengths and all values of the index that satisfy the recorded facts -/
theorem c09_loop_sites_total :
    ∀ s ∈ GenC09.boundSites, (s.fn, s.expr) ∉ auditedBoundSites →
      s.loopGuarded = true ∧ ∀ env : BEnv, BEnvOK env → sitePanics s env = false := by
  intro s hs hna
  refine ⟨?_, c09_bound_sites_total s hs hna⟩
  cases hg : s.loopGuarded
  · exfalso
    have : (s.fn, s.expr) ∈ ((GenC09.boundSites.filter fun s => !s.loopGuarded).map fun s => (s.fn, s.expr)) :=
      List.mem_map.mpr ⟨s, List.mem_filter.mpr ⟨hs, by simp [hg]⟩, rfl⟩
    rw [loop_carried_sites_guarded] at this
    cases this
  · rfl

/-- only generated code (enumer) is exempt from the scan; a hand-written file cannot hide behind the header unnoticed -/
theorem bounds_skipped_files_pinned : GenC09.boundsSkippedFiles = ["pkg/op/applicationtype_enumer.go"] := rfl

theorem hashString_pinned : GenC09.HashString_skeleton = [
    "if hash == nil {",
    "return s",
    "}",
    "hash.Write([]byte(s))",
    "size := hash.Size()",
    "if firstHalf {",
    "size = size / 2",
    "}",
    "sum := hash.Sum(nil)[:size]",
    "return base64.RawURLEncoding.EncodeToString(sum)"] := rfl

theorem newUserCode_pinned : GenC09.NewUserCode_skeleton = [
    "var buf strings.Builder",
    "if dashInterval > 0 {",
    "buf.Grow(charAmount + charAmount/dashInterval - 1)",
    "} else {",
    "buf.Grow(charAmount)",
    "}",
    "max := big.NewInt(int64(len(charSet)))",
    "for i := 0; i < charAmount; i++ { if dashInterval != 0 && i != 0 && i%dashInterval == 0 { buf.WriteByte('-') } bi, err := rand.Int(rand.Reader, max) if err != nil { return \"\", fmt.Errorf(\"%w getting entropy for user code\", err) } buf.WriteRune(charSet[int(bi.Int64())]) }",
    "return buf.String(), nil"] := rfl

/-! ### what the driver predicts for the length-boundary cases: a parameter of length `n` -/

theorem constEnv_ok (base : String) (n : Nat) : BEnvOK (constEnv base n) where
  len_nonneg v := by
    simp only [constEnv]
    split
    · exact Int.natCast_nonneg n
    · exact Int.le_refl 0
  consts n' v h := by simp [constEnv, h]

/-- no function of the library (the two with an audited site aside) panics on a slice / index expression over one of
    its parameters, whatever the parameter's length -/
theorem c09_no_length_panics (fn base : String) (n : Nat) (hfn : fn ∉ auditedBoundSites.map (·.1)) :
    fnPanicsAt GenC09.boundSites fn base n = false := by
  unfold fnPanicsAt
  rw [List.any_eq_false]
  intro s hs
  by_cases hf : s.fn = fn
  · have hna : (s.fn, s.expr) ∉ auditedBoundSites := fun h => hfn (hf ▸ List.mem_map.mpr ⟨_, h, rfl⟩)
    have := c09_bound_sites_total s hs hna (constEnv base n) (constEnv_ok base n)
    simp [this]
  · have : (s.fn == fn) = false := by simpa using hf
    simp [this]


/-- the decrypt helper's slice expressions are among the sites, under a length guard on the SAME variable -/
example : (GenC09.boundSites.any fun s => s.fn == "crypto.DecryptBytesAES" && s.base == "cipherText" && s.kind == "slice" && !s.guards.isEmpty && s.safe) = true := by decide +kernel
example : ((GenC09.boundSites.filter fun s => s.fn == "crypto.DecryptBytesAES").all fun s => s.safe) = true := by decide +kernel

/-- the same expression without a fact about `cipherText` (the guard measures another variable, in another function:
    seeded C09-F) is rejected, and the model panics for a 12-byte operand … -/
def siteGuardMoved : BoundSite :=
  { fn := "crypto.DecryptBytesAES", expr := "cipherText[:aes.BlockSize]", base := "cipherText", kind := "slice",
    lo := ⟨none, 0⟩, hi := ⟨some (.var "aes.BlockSize"), 0⟩, guards := [] }
example : siteGuardMoved.safe = false := by decide +kernel
example : fnPanicsAt [siteGuardMoved] "crypto.DecryptBytesAES" "cipherText" 12 = true := by decide +kernel
example : fnPanicsAt [siteGuardMoved] "crypto.DecryptBytesAES" "cipherText" 16 = false := by decide +kernel
/-- … a guard on the text instead of the bytes does not help … -/
example : ({ siteGuardMoved with guards := [⟨.ge, .len "data", ⟨some (.var "aes.BlockSize"), 0⟩, "!(len(data) < aes.BlockSize)"⟩] } : BoundSite).safe = false := by decide +kernel
/-- … nor does an off-by-one guard (`len(cipherText) < aes.BlockSize - 1`) -/
example : ({ siteGuardMoved with guards := [⟨.ge, .len "cipherText", ⟨some (.var "aes.BlockSize"), -1⟩, ""⟩] } : BoundSite).safe = false := by decide +kernel
example : ({ siteGuardMoved with guards := [⟨.ge, .len "cipherText", ⟨some (.var "aes.BlockSize"), 0⟩, ""⟩] } : BoundSite).safe = true := by decide +kernel
set_option maxRecDepth 8000 in
/-- on the regenerated sites the real function is fine at every boundary length -/
example : ([0, 1, 15, 16, 17].map fun n => fnPanicsAt GenC09.boundSites "crypto.DecryptBytesAES" "cipherText" n) = [false, false, false, false, false] := by decide +kernel

/-! ### non-vacuity, loop-carried indices (walking back from byte 1024 to a rune start) -/

/-- `for !utf8.RuneStart(body[end]) { end-- }` after `end := 1024` under `len(body) > 1024`: the upper bound is carried
    into the loop (end only moves down), nothing bounds `end` from below -/
def siteWalkBack : BoundSite :=
  { fn := "http.bodyExcerpt", expr := "body[end]", base := "body", kind := "index", lo := ⟨some (.var "end"), 0⟩, hi := ⟨some (.var "end"), 1⟩,
    guards := [⟨.ge, .len "body", ⟨none, 1025⟩, ""⟩, ⟨.lt, .var "end", ⟨none, 1025⟩, ""⟩], carried := [("end", "dec")] }
example : siteWalkBack.loopGuarded = false := by decide +kernel
example : siteWalkBack.safe = false := by decide +kernel
/-- … and the model panics: a 2000-byte body, the index has reached -1 -/
example : sitePanics siteWalkBack (fun a => match a with | .len _ => 2000 | .var _ => -1 | .other _ => 0) = true := by decide +kernel
/-- with `end > 0 &&` in front of the access (the loop condition) both bounds are there and the access is safe -/
example : ({ siteWalkBack with guards := siteWalkBack.guards ++ [⟨.ge, .var "end", ⟨none, 1⟩, "end > 0"⟩] } : BoundSite).loopGuarded = true := by decide +kernel
example : ({ siteWalkBack with guards := siteWalkBack.guards ++ [⟨.ge, .var "end", ⟨none, 1⟩, "end > 0"⟩] } : BoundSite).safe = true := by decide +kernel
/-- a lower bound alone (the fact about the start value was lost: `end` is assigned some other way) is not enough -/
example : ({ siteWalkBack with guards := [⟨.ge, .var "end", ⟨none, 1⟩, "end > 0"⟩], carried := [("end", "other")] } : BoundSite).loopGuarded = false := by decide +kernel
/-- the regenerated list has loop-carried sites (so the theorem is not about the empty set) -/
example : (GenC09.boundSites.any fun s => !s.carried.isEmpty && !s.indexVars.isEmpty) = true := by decide +kernel

end C09
