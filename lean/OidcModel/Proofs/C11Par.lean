/-
  C11, error responses under interleaving.  AuthRequestError / TryErrorRedirect complete and encode an object ALLOCATED IN THE
  CALL (`errCopy := *e; e = &errCopy`; read from the source on every run: `GenErr.authRequestErrorProgram`,
  `GenErr.tryErrorRedirectProgram`, `c11_error_answer_object_is_own`).  Hence, whatever error values the handlers were handed —
  also one and the same `*oidc.Error` for all of them, a sentinel error of the storage — under EVERY schedule each response
  carries the state / session_state of its own request, and no handed-in error object is ever written.
  (`ErrPar.handedProgram`, a statement list that writes into the handed-in object, is the witness that the condition on the
  statement list is what the theorem needs: `c11_handed_write_crosstalk`.)
-/
import OidcModel.Model.ErrPar
import OidcModel.Proofs.C11

namespace C11
open ErrPar

/-- **regenerated fact: the object that AuthRequestError / TryErrorRedirect write to and encode is allocated in the call** —
    every `e.<field> = …` and the `AuthResponseURL(…, e, …)` of both functions address the call's own copy, never the object found
    in the error that was handed in, and State and SessionState are both assigned before the object is encoded.
    FALSE when the copy is removed (the statement lists then are `ErrPar.handedProgram`). -/
theorem c11_error_answer_object_is_own :
    progOK GenErr.authRequestErrorProgram = true ∧ progOK GenErr.tryErrorRedirectProgram = true := by decide

/-- what holds for one response, whatever the others do and whatever object it was handed; `a` / `b` / `e` are the flags of
    `ErrPar.okFrom` (State assigned / SessionState assigned / answer encoded) -/
def ThreadOK (t : Thread) (st ss : Bytes) : Prop :=
  t.state = st ∧ t.session = ss ∧
  ∃ a b e, okFrom a b e t.prog = true
    ∧ (a = true → t.own.1 = st) ∧ (b = true → t.own.2 = ss) ∧ (e = true → t.sent = some (st, ss))

theorem setField_eq (f : String) (o : Obj) (st ss : Bytes) :
    setField f o st ss = (if f = "State" then st else o.1, if f = "SessionState" then ss else o.2) := by
  unfold setField
  by_cases h1 : f = "State"
  · subst h1; simp
  · by_cases h2 : f = "SessionState" <;> simp [h1, h2]

/-- one step of a handler whose remaining statements address only its own object: the handed-in objects are untouched and the
    handler's invariant is kept -/
theorem stepT_own (h : Heap) (t : Thread) (st ss : Bytes) (hok : ThreadOK t st ss) :
    (stepT h t).1 = h ∧ ThreadOK (stepT h t).2 st ss := by
  obtain ⟨cell, state, session, prog, own, sent⟩ := t
  obtain ⟨rfl, rfl, a, b, e, hprog, ha, hb, he⟩ := hok
  simp only at hprog ha hb he
  unfold stepT ThreadOK
  -- by the next statement; those that `okFrom` rejects (handed-in object, unsupported) contradict `hprog`
  rcases prog with _ | ⟨_ | _ | ⟨_ | _, f⟩ | ⟨_ | _⟩ | _, rest⟩ <;> simp only [okFrom, Bool.and_eq_true, Bool.false_eq_true] at hprog
  · exact ⟨rfl, rfl, rfl, a, b, e, by simpa [okFrom] using hprog, ha, hb, he⟩
  · exact ⟨rfl, rfl, rfl, false, false, e, hprog, by simp, by simp, he⟩
  · exact ⟨rfl, rfl, rfl, false, false, e, hprog, by simp, by simp, he⟩
  · refine ⟨rfl, rfl, rfl, _, _, e, hprog, fun hh => ?_, fun hh => ?_, he⟩
    · simp only [setField_eq]; split
      · rfl
      · rename_i hf; exact ha (by simpa [hf] using hh)
    · simp only [setField_eq]; split
      · rfl
      · rename_i hf; exact hb (by simpa [hf] using hh)
  · exact ⟨rfl, rfl, rfl, a, b, true, hprog.2, ha, hb, fun _ => by simp [← ha hprog.1.1, ← hb hprog.1.2]⟩

/-- a step of ANY handler keeps every handler's invariant and leaves the handed-in objects as they were — no hypothesis on which
    objects the handlers were handed (they may all be the same one) -/
theorem step_preserves (h : Heap) (ts : Nat → Thread) (st ss : Nat → Bytes)
    (hok : ∀ j, ThreadOK (ts j) (st j) (ss j)) (i : Nat) :
    (step h ts i).1 = h ∧ ∀ j, ThreadOK ((step h ts i).2 j) (st j) (ss j) := by
  have hi := stepT_own h (ts i) (st i) (ss i) (hok i)
  refine ⟨hi.1, ?_⟩
  intro j
  by_cases hj : j = i
  · subst hj; simpa [step] using hi.2
  · simpa [step, hj] using hok j

theorem run_preserves (sched : List Nat) (h : Heap) (ts : Nat → Thread) (st ss : Nat → Bytes)
    (hok : ∀ j, ThreadOK (ts j) (st j) (ss j)) :
    (ErrPar.run sched h ts).1 = h ∧ ∀ j, ThreadOK ((ErrPar.run sched h ts).2 j) (st j) (ss j) := by
  induction sched generalizing h ts with
  | nil => exact ⟨rfl, hok⟩
  | cons i is ih =>
    obtain ⟨hh, hok'⟩ := step_preserves h ts st ss hok i
    have := ih (step h ts i).1 (step h ts i).2 hok'
    simp only [ErrPar.run]
    rw [hh] at this ⊢
    exact this

/-- handlers that start with a statement list `progOK` accepts: the invariant holds at the start, hence after every schedule -/
theorem run_progOK (sched : List Nat) (h : Heap) (ts : Nat → Thread) (hprog : ∀ j, progOK (ts j).prog = true) :
    (ErrPar.run sched h ts).1 = h ∧ ∀ j, ThreadOK ((ErrPar.run sched h ts).2 j) (ts j).state (ts j).session :=
  run_preserves sched h ts _ _ fun j => ⟨rfl, rfl, false, false, false, hprog j, by simp, by simp, by simp⟩

/-- **C11, error responses under interleaving (every schedule, every assignment of handed-in error objects)**: any number of
    error responses in flight, each completing and encoding an object of its own (`progOK`), handed ANY error objects — also one
    shared by all of them: whatever the order in which the handlers take their steps, a response that has been sent carries the
    state and the session_state of ITS OWN request — a function of that request alone. -/
theorem c11_error_interleaving (sched : List Nat) (h : Heap) (ts : Nat → Thread)
    (hprog : ∀ j, progOK (ts j).prog = true) :
    ∀ j, ((ErrPar.run sched h ts).2 j).prog = [] →
      ((ErrPar.run sched h ts).2 j).sent = some ((ts j).state, (ts j).session) := by
  intro j hdone
  obtain ⟨_, _, a, b, e, hk, _, _, he⟩ := (run_progOK sched h ts hprog).2 j
  -- nothing left to execute: the flag "answer encoded" is what `okFrom` returns
  exact he (by simpa [hdone, okFrom] using hk)

/-- **no handed-in error object is ever written**: after any schedule of any number of error responses every `*oidc.Error` the
    handlers were handed has the State / SessionState it had before (the sentinel error of a storage stays what it was) -/
theorem c11_handed_errors_never_written (sched : List Nat) (h : Heap) (ts : Nat → Thread)
    (hprog : ∀ j, progOK (ts j).prog = true) : (ErrPar.run sched h ts).1 = h :=
  (run_progOK sched h ts hprog).1

/-- the same two statements for the handlers as they are in the source: every response is an `AuthRequestError` or a
    `TryErrorRedirect` (regenerated statement lists): the only hypothesis left -/
theorem c11_error_interleaving_source (sched : List Nat) (h : Heap) (ts : Nat → Thread)
    (hsrc : ∀ j, (ts j).prog = GenErr.authRequestErrorProgram ∨ (ts j).prog = GenErr.tryErrorRedirectProgram) :
    (ErrPar.run sched h ts).1 = h ∧
    ∀ j, ((ErrPar.run sched h ts).2 j).prog = [] →
      ((ErrPar.run sched h ts).2 j).sent = some ((ts j).state, (ts j).session) := by
  have hprog : ∀ j, progOK (ts j).prog = true := by
    intro j
    rcases hsrc j with e | e <;> rw [e]
    · exact c11_error_answer_object_is_own.1
    · exact c11_error_answer_object_is_own.2
  exact ⟨c11_handed_errors_never_written sched h ts hprog, c11_error_interleaving sched h ts hprog⟩

/-! ### a statement list that writes into the handed-in object (not what the source has) -/

/-- two responses that were handed ONE error object (a sentinel error of the storage, a package-level error value), first one
    parked between filling in and encoding while the second is answered completely -/
def sharedThreads (prog : List Op) : Nat → Thread := fun j =>
  if j = 0 then { cell := 7, state := [0x41], session := [0x61], prog := prog }
  else { cell := 7, state := [0x42], session := [0x62], prog := prog }

/-- **a statement list that writes into the handed-in object, with the first response parked between filling in and encoding: the first
    client receives the SECOND client's state and session_state, and the shared object keeps them** — `progOK` is what
    `c11_error_interleaving` needs -/
theorem c11_handed_write_crosstalk :
    progOK handedProgram = false
    ∧ ((ErrPar.run (schedOf true [handedProgram, handedProgram]) (fun _ => ([], [])) (sharedThreads handedProgram)).2 0).sent = some ([0x42], [0x62])
    ∧ (ErrPar.run (schedOf true [handedProgram, handedProgram]) (fun _ => ([], [])) (sharedThreads handedProgram)).1 7 = ([0x42], [0x62]) := by decide

/-- the same two requests, the same shared object, the same schedule on the statement list of the source: each gets its own values
    back and the shared object is untouched (instance of the theorems, evaluated) -/
example :
    let r := ErrPar.run (schedOf true [GenErr.authRequestErrorProgram, GenErr.authRequestErrorProgram]) (fun _ => ([], []))
      (sharedThreads GenErr.authRequestErrorProgram)
    (r.2 0).sent = some ([0x41], [0x61]) ∧ (r.2 1).sent = some ([0x42], [0x62]) ∧ r.1 7 = ([], []) ∧ (r.2 0).prog = [] ∧ (r.2 1).prog = [] := by decide

/-- a rewrite that keeps the copy but completes a separate local value (`c := *e; c.State = …; AuthResponseURL(…, &c, …)`) or assigns the
    two fields in the other order is accepted by the same condition -/
example : progOK [.copy, .set .own "SessionState", .set .own "State", .encode .own] = true := by decide
/-- encoding before both fields are assigned, or encoding the handed-in object after completing a copy, is not -/
example : progOK [.copy, .set .own "State", .encode .own] = false ∧ progOK [.copy, .set .own "State", .set .own "SessionState", .encode .handed] = false := by decide

end C11
