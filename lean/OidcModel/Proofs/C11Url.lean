/-
  C11, part 1: net/url.  Byte-level round trips (induction over the byte list):
  the user agent's form-urlencoded decoder inverts url.QueryEscape / url.Values.Encode for ALL byte strings,
  and what that means for the Location value built by mergeQueryParams / setFragment as regenerated from the source.
-/
import OidcModel.Spec.C11
import OidcModel.Generated.AuthResponse

namespace C11
open UA

-- the model's own copies of the primitives agree with the specification's

theorem unhex_eq (c : UInt8) : AR.unhex c = hexVal c := rfl

theorem cut_eq (sep : UInt8) (s : Bytes) : AR.cut sep s = cut sep s := by
  induction s with
  | nil => rfl
  | cons c s ih => simp [AR.cut, cut, ih]

theorem splitOn_eq (sep : UInt8) (s : Bytes) : AR.splitOn sep s = splitOn sep s := by
  induction s with
  | nil => rfl
  | cons c s ih =>
    by_cases h : c = sep
    · simp [AR.splitOn, splitOn, ih, h]
    · simp only [AR.splitOn, splitOn, ih]
      cases splitOn sep s <;> simp [h]

theorem unescapeS_eq (st : AR.Pct) (s : Bytes) :
    AR.unescapeS true st s = formDecodeS (match st with | .none => .none | .pct => .pct | .pct1 a => .pct1 a) s := by
  induction s generalizing st with
  | nil => cases st <;> rfl
  | cons c s ih =>
    cases st with
    | none => simp [AR.unescapeS, formDecodeS, ih]
    | pct => simp [AR.unescapeS, formDecodeS, ih, unhex_eq]
    | pct1 a =>
      simp only [AR.unescapeS, formDecodeS, ih, unhex_eq]
      cases hexVal a <;> cases hexVal c <;> rfl

theorem unescape_true_eq (s : Bytes) : AR.unescape true s = formDecode s := unescapeS_eq .none s

/-- one output unit of an escaper: a byte other than `%`, or `%` and two hexadecimal digits -/
def unitShape (e : Bytes) : Bool :=
  match e with
  | [b] => b != 0x25
  | [p, a, b] => p == 0x25 && (hexVal a).isSome && (hexVal b).isSome
  | _ => false

/-- the byte a unit stands for (`plus`: in a query component, where `+` is a space) -/
def unitVal (plus : Bool) : Bytes → UInt8
  | [_, a, b] => UInt8.ofNat ((hexVal a).getD 0 * 16 + (hexVal b).getD 0)
  | [b] => if b == 0x2B && plus then 0x20 else b
  | _ => 0

/-- both unescapers (query component and fragment) read a unit in one go, whatever follows -/
theorem unescape_unit (plus : Bool) (e : Bytes) (h : unitShape e = true) (r : Bytes) :
    AR.unescape plus (e ++ r) = (AR.unescape plus r).map (unitVal plus e :: ·) := by
  match e, h with
  | [b], h =>
    have h25 : (b == 0x25) = false := by simpa [unitShape] using h
    simp only [AR.unescape, List.singleton_append, AR.unescapeS, h25, unitVal, Bool.false_eq_true, if_false]
    split <;> simp [*]
  | [p, a, b], h =>
    simp only [unitShape, Bool.and_eq_true, beq_iff_eq, Option.isSome_iff_exists] at h
    obtain ⟨⟨rfl, x, ha⟩, y, hb⟩ := h
    simp [AR.unescape, AR.unescapeS, unhex_eq, ha, hb, unitVal]

/-- the bytes `url.QueryEscape` writes: `%`, `+` and the bytes it leaves alone -/
def escOut (b : UInt8) : Bool := b == 0x25 || b == 0x2B || !AR.shouldEscapeQuery b

/-- the sixteen digits of `%XX`: read back as their value, and themselves bytes that are left alone -/
theorem upperhex_digit : ∀ n, n < 16 → hexVal (AR.upperhex n) = some n ∧ AR.shouldEscapeQuery (AR.upperhex n) = false := by
  decide

theorem nibble_hi (c : UInt8) : c.toNat / 16 < 16 := Nat.div_lt_of_lt_mul c.toNat_lt
theorem nibble_lo (c : UInt8) : c.toNat % 16 < 16 := Nat.mod_lt _ (by decide)
theorem nibbles (c : UInt8) : UInt8.ofNat (c.toNat / 16 * 16 + c.toNat % 16) = c := by
  rw [Nat.div_add_mod', UInt8.ofNat_toNat]

/-- space ↦ `+`, a byte that needs no escape ↦ itself (it is neither `%` nor `+`), any other ↦ `%XX` with its two nibbles:
    a unit that a query component's unescaper reads as the byte -/
theorem queryEscapeByte_unit (c : UInt8) :
    unitShape (AR.queryEscapeByte c) = true ∧ unitVal true (AR.queryEscapeByte c) = c := by
  unfold AR.queryEscapeByte
  split
  · rename_i h; rw [beq_iff_eq.mp h]; decide
  · split
    · simp only [unitShape, unitVal, AR.pctUpper, (upperhex_digit _ (nibble_hi c)).1, (upperhex_digit _ (nibble_lo c)).1, nibbles,
        Option.isSome_some, Option.getD_some, beq_self_eq_true, Bool.and_self, and_self]
    · rename_i hq
      have h25 : c ≠ 0x25 := by rintro rfl; exact hq (by decide)
      have h2B : c ≠ 0x2B := by rintro rfl; exact hq (by decide)
      simp [unitShape, unitVal, h25, h2B]

theorem queryEscapeByte_out (c : UInt8) : ∀ b ∈ AR.queryEscapeByte c, escOut b = true := by
  unfold AR.queryEscapeByte
  split
  · decide
  · split
    · simp [AR.pctUpper, escOut, (upperhex_digit _ (nibble_hi c)).2, (upperhex_digit _ (nibble_lo c)).2]
    · rename_i hq; simpa [escOut] using Or.inr hq

theorem QueryEscape_cons (c : UInt8) (s : Bytes) : AR.QueryEscape (c :: s) = AR.queryEscapeByte c ++ AR.QueryEscape s := by
  simp [AR.QueryEscape]

/-- **queryUnescape ∘ queryEscape = id**, for every byte string -/
theorem formDecode_QueryEscape (s : Bytes) : formDecode (AR.QueryEscape s) = some s := by
  induction s with
  | nil => simp [AR.QueryEscape, formDecode, formDecodeS]
  | cons c s ih =>
    rw [QueryEscape_cons, ← unescape_true_eq, unescape_unit true _ (queryEscapeByte_unit c).1, (queryEscapeByte_unit c).2,
      unescape_true_eq, ih]
    rfl

theorem QueryEscape_out (s : Bytes) : ∀ b ∈ AR.QueryEscape s, escOut b = true := by
  intro b hb
  obtain ⟨c, _, hc⟩ := List.mem_flatMap.mp hb
  exact queryEscapeByte_out c b hc

/-- QueryEscape never outputs `& = ; # ?`: each of them needs an escape -/
theorem escOut_ne {b : UInt8} (h : escOut b = true) : b ≠ 0x26 ∧ b ≠ 0x3D ∧ b ≠ 0x3B ∧ b ≠ 0x23 ∧ b ≠ 0x3F := by
  refine ⟨?_, ?_, ?_, ?_, ?_⟩ <;> (rintro rfl; exact absurd h (by decide))

theorem cut_append (sep : UInt8) (a r : Bytes) (h : ∀ b ∈ a, b ≠ sep) :
    cut sep (a ++ r) = (a ++ (cut sep r).1, (cut sep r).2) := by
  induction a with
  | nil => rfl
  | cons x a ih => simp [cut, h x (by simp), ih (fun b hb => h b (by simp [hb]))]

theorem splitOn_ne_nil (sep : UInt8) (a : Bytes) : splitOn sep a ≠ [] := by
  cases a with
  | nil => simp [splitOn]
  | cons x a =>
    simp only [splitOn]
    split
    · simp
    · split <;> simp

theorem splitOn_nosep (sep : UInt8) (a : Bytes) (h : ∀ b ∈ a, b ≠ sep) : splitOn sep a = [a] := by
  induction a with
  | nil => simp [splitOn]
  | cons x a ih => simp [splitOn, h x (by simp), ih (fun b hb => h b (by simp [hb]))]

theorem splitOn_append_any (sep : UInt8) (a r : Bytes) : splitOn sep (a ++ sep :: r) = splitOn sep a ++ splitOn sep r := by
  induction a with
  | nil => simp [splitOn]
  | cons x a ih =>
    by_cases hx : x = sep
    · subst hx; simp [splitOn, ih]
    · simp only [List.cons_append, splitOn, ih]
      cases hs : splitOn sep a with
      | nil => exact absurd hs (splitOn_ne_nil sep a)
      | cons s ss => simp [hx]

theorem joinAmp_cons_cons (x y : Bytes) (xs : List Bytes) :
    AR.Values.joinAmp (x :: y :: xs) = x ++ 0x26 :: AR.Values.joinAmp (y :: xs) := rfl

theorem mem_joinAmp {b : UInt8} {xs : List Bytes} (h : b ∈ AR.Values.joinAmp xs) : b = 0x26 ∨ ∃ x ∈ xs, b ∈ x := by
  induction xs using AR.Values.joinAmp.induct with
  | case1 => simp [AR.Values.joinAmp] at h
  | case2 x => exact Or.inr ⟨x, by simp, h⟩
  | case3 x y ys ih =>
    rw [joinAmp_cons_cons, List.mem_append, List.mem_cons] at h
    rcases h with h | h | h
    · exact Or.inr ⟨x, by simp, h⟩
    · exact Or.inl h
    · exact (ih h).imp_right fun ⟨z, hz, hb⟩ => ⟨z, List.mem_cons_of_mem _ hz, hb⟩

theorem splitOn_joinAmp (xs : List Bytes) (hne : xs ≠ []) (h : ∀ x ∈ xs, ∀ b ∈ x, b ≠ 0x26) :
    splitOn 0x26 (AR.Values.joinAmp xs) = xs := by
  induction xs using AR.Values.joinAmp.induct with
  | case1 => exact absurd rfl hne
  | case2 x => exact splitOn_nosep _ _ (h x (by simp))
  | case3 x y ys ih =>
    rw [joinAmp_cons_cons, splitOn_append_any, splitOn_nosep _ _ (h x (by simp)),
      ih (by simp) (fun z hz => h z (List.mem_cons_of_mem _ hz))]
    rfl

/-- one `key=value` setting as url.Values.Encode writes it -/
def encPair (p : Bytes × Bytes) : Bytes := AR.QueryEscape p.1 ++ 0x3D :: AR.QueryEscape p.2

theorem encPair_out (p : Bytes × Bytes) : ∀ b ∈ encPair p, b = 0x3D ∨ escOut b = true := by
  intro b hb
  simp only [encPair, List.mem_append, List.mem_cons] at hb
  rcases hb with hb | hb | hb
  · exact Or.inr (QueryEscape_out _ b hb)
  · exact Or.inl hb
  · exact Or.inr (QueryEscape_out _ b hb)

theorem encPair_nodelim (p : Bytes × Bytes) : ∀ b ∈ encPair p, b ≠ 0x26 ∧ b ≠ 0x3B := by
  intro b hb
  rcases encPair_out p b hb with rfl | h
  · decide
  · exact ⟨(escOut_ne h).1, (escOut_ne h).2.2.1⟩

theorem parsePair_encPair (p : Bytes × Bytes) : parsePair (encPair p) = some p := by
  have hne : (encPair p).isEmpty = false := by simp [encPair]
  have hsemi : (0x3B : UInt8) ∉ encPair p := fun hc => (encPair_nodelim p _ hc).2 rfl
  have hcut : cut 0x3D (encPair p) = (AR.QueryEscape p.1, some (AR.QueryEscape p.2)) := by
    simp [encPair, cut_append _ _ _ (fun b hb => (escOut_ne (QueryEscape_out _ b hb)).2.1), cut]
  simp [parsePair, hne, hsemi, hcut, formDecode_QueryEscape]

theorem splitOn_joinAmp_encPair (p : Bytes × Bytes) (ps : List (Bytes × Bytes)) :
    splitOn 0x26 (AR.Values.joinAmp ((p :: ps).map encPair)) = (p :: ps).map encPair :=
  splitOn_joinAmp _ (by simp) (fun x hx b hb => by
    obtain ⟨q, _, rfl⟩ := List.mem_map.mp hx
    exact (encPair_nodelim q b hb).1)

/-- **the form-urlencoded decoder inverts `key=value&…` as Encode writes it** (any list of pairs, any bytes) -/
theorem parseQuery_joinAmp (ps : List (Bytes × Bytes)) : parseQuery (AR.Values.joinAmp (ps.map encPair)) = ps := by
  cases ps with
  | nil => simp [parseQuery, AR.Values.joinAmp, splitOn, parsePair]
  | cons p ps =>
    rw [parseQuery, splitOn_joinAmp_encPair, List.filterMap_map]
    simp [Function.comp_def, parsePair_encPair]

abbrev Entries := List (Bytes × List Bytes)

def flatten (es : Entries) : List (Bytes × Bytes) := es.flatMap fun e => e.2.map (e.1, ·)

def DistinctKeys (es : Entries) : Prop := (es.map (·.1)).Nodup
instance (es : Entries) : Decidable (DistinctKeys es) := by unfold DistinctKeys; infer_instance

theorem flatten_cons (e : Bytes × List Bytes) (es : Entries) : flatten (e :: es) = e.2.map (e.1, ·) ++ flatten es := by
  simp [flatten]

theorem valuesOf_append (k : Bytes) (a b : List (Bytes × Bytes)) : valuesOf k (a ++ b) = valuesOf k a ++ valuesOf k b := by
  simp [valuesOf]

theorem valuesOf_entry (k k' : Bytes) (vs : List Bytes) :
    valuesOf k (vs.map (k', ·)) = if k' == k then vs else [] := by
  by_cases h : k' == k <;> simp [valuesOf, List.filter_map, Function.comp_def, h]

theorem valuesOf_flatten_cons (k : Bytes) (e : Bytes × List Bytes) (es : Entries) :
    valuesOf k (flatten (e :: es)) = (if e.1 == k then e.2 else []) ++ valuesOf k (flatten es) := by
  rw [flatten_cons, valuesOf_append, valuesOf_entry]

theorem bytesLt_irrefl (a : Bytes) : AR.bytesLt a a = false := by
  induction a with
  | nil => rfl
  | cons x a ih => simp [AR.bytesLt, ih]

theorem valuesOf_insertSorted (k : Bytes) (e : Bytes × List Bytes) (xs : Entries) :
    valuesOf k (flatten (AR.Values.insertSorted e xs)) = (if e.1 == k then e.2 else []) ++ valuesOf k (flatten xs) := by
  induction xs with
  | nil => simp [AR.Values.insertSorted, valuesOf_flatten_cons]
  | cons x xs ih =>
    simp only [AR.Values.insertSorted]
    split
    · rename_i hlt
      rw [valuesOf_flatten_cons, ih, valuesOf_flatten_cons]
      have hne : x.1 ≠ e.1 := by
        intro heq; rw [heq, bytesLt_irrefl] at hlt; exact absurd hlt (by decide)
      by_cases h1 : x.1 == k <;> by_cases h2 : e.1 == k <;> simp [h1, h2]
      exact (hne ((beq_iff_eq.mp h1).trans (beq_iff_eq.mp h2).symm)).elim
    · rw [valuesOf_flatten_cons]

/-- sorting the keys (as Encode does) changes no key's values -/
theorem valuesOf_sortEntries (k : Bytes) (es : Entries) :
    valuesOf k (flatten (AR.Values.sortEntries es)) = valuesOf k (flatten es) := by
  induction es with
  | nil => rfl
  | cons e es ih => rw [AR.Values.sortEntries, valuesOf_insertSorted, ih, valuesOf_flatten_cons]

theorem get_cons (e : Bytes × List Bytes) (es : Entries) (k : Bytes) :
    AR.Values.get ⟨e :: es⟩ k = if e.1 == k then e.2 else AR.Values.get ⟨es⟩ k := by
  simp only [AR.Values.get, List.find?_cons]
  by_cases h : e.1 == k <;> simp [h]

theorem valuesOf_flatten_not_mem (k : Bytes) (es : Entries) (h : k ∉ es.map (·.1)) : valuesOf k (flatten es) = [] := by
  induction es with
  | nil => rfl
  | cons e es ih =>
    simp only [List.map_cons, List.mem_cons, not_or] at h
    simp [valuesOf_flatten_cons, ih h.2, Ne.symm h.1]

/-- with distinct keys (a Go map) the pairs under a key are that key's value list -/
theorem valuesOf_flatten_get (k : Bytes) (es : Entries) (h : DistinctKeys es) :
    valuesOf k (flatten es) = AR.Values.get ⟨es⟩ k := by
  induction es with
  | nil => rfl
  | cons e es ih =>
    simp only [DistinctKeys, List.map_cons, List.nodup_cons] at h
    rw [valuesOf_flatten_cons, get_cons]
    by_cases hk : e.1 == k
    · simp [hk, valuesOf_flatten_not_mem k es (beq_iff_eq.mp hk ▸ h.1)]
    · simp [hk, ih h.2]

theorem encode_eq (m : AR.Values) :
    m.Encode = AR.Values.joinAmp ((flatten (AR.Values.sortEntries m.entries)).map encPair) := by
  simp only [AR.Values.Encode, flatten, List.map_flatMap, List.map_map]
  rfl

/-- **decoding what `Values.Encode` wrote yields, under every key, exactly that key's values** -/
theorem valuesOf_parseQuery_Encode (m : AR.Values) (h : DistinctKeys m.entries) (k : Bytes) :
    valuesOf k (parseQuery m.Encode) = m.get k := by
  rw [encode_eq, parseQuery_joinAmp, valuesOf_sortEntries, valuesOf_flatten_get k _ h]

theorem Encode_out (m : AR.Values) : ∀ b ∈ m.Encode, b = 0x26 ∨ b = 0x3D ∨ escOut b = true := by
  intro b hb
  rw [encode_eq] at hb
  rcases mem_joinAmp hb with h | ⟨x, hx, hbx⟩
  · exact Or.inl h
  · obtain ⟨p, _, rfl⟩ := List.mem_map.mp hx
    exact Or.inr (encPair_out p b hbx)

theorem Encode_nohash (m : AR.Values) : ∀ b ∈ m.Encode, b ≠ 0x23 := by
  intro b hb
  rcases Encode_out m b hb with rfl | rfl | h
  · decide
  · decide
  · exact (escOut_ne h).2.2.2.1

theorem parseQuery_nil : parseQuery [] = [] := by
  simp [parseQuery, splitOn, parsePair]

/-- **a query string followed by `&` and more settings decodes to its own parameters followed by the new ones**
    (every existing query text, including settings the decoder rejects) -/
theorem parseQuery_append_amp (a e : Bytes) : parseQuery (a ++ 0x26 :: e) = parseQuery a ++ parseQuery e := by
  simp [parseQuery, splitOn_append_any]

/-- how `mergeQueryParams` joins the redirect URI's query text `a` and the encoded response `e` -/
def joinQuery (a e : Bytes) : Bytes := if a = [] then e else if e = [] then a else a ++ 0x26 :: e

/-- whatever reads the settings one by one and makes nothing of an empty one reads a joined query as its two parts -/
theorem splitOn_joinQuery {α : Type} (f : List Bytes → List α) (hf : ∀ x y, f (x ++ y) = f x ++ f y) (h0 : f [[]] = [])
    (a e : Bytes) : f (splitOn 0x26 (joinQuery a e)) = f (splitOn 0x26 a) ++ f (splitOn 0x26 e) := by
  unfold joinQuery
  split
  · rename_i h; subst h; simp [splitOn, h0]
  · split
    · rename_i h; subst h; simp [splitOn, h0]
    · rw [splitOn_append_any, hf]

theorem parseQuery_joinQuery (a e : Bytes) : parseQuery (joinQuery a e) = parseQuery a ++ parseQuery e :=
  splitOn_joinQuery (List.filterMap parsePair) (fun _ _ => List.filterMap_append) (by simp [parsePair]) a e

theorem unread_nil : unread [] = [] := by simp [unread, splitOn]

theorem unread_joinQuery (a e : Bytes) : unread (joinQuery a e) = unread a ++ unread e :=
  splitOn_joinQuery (List.filter _) (fun _ _ => List.filter_append ..) (by simp) a e

/-- every setting `Values.Encode` writes is read as a parameter -/
theorem unread_joinAmp (ps : List (Bytes × Bytes)) : unread (AR.Values.joinAmp (ps.map encPair)) = [] := by
  cases ps with
  | nil => simp [AR.Values.joinAmp, unread_nil]
  | cons p ps =>
    rw [unread, splitOn_joinAmp_encPair, List.filter_eq_nil_iff]
    intro seg hseg
    obtain ⟨q, _, rfl⟩ := List.mem_map.mp hseg
    simp [parsePair_encPair]

theorem cut_fst_nosep (sep : UInt8) (x : Bytes) : ∀ b ∈ (cut sep x).1, b ≠ sep := by
  induction x with
  | nil => simp [cut]
  | cons c x ih =>
    by_cases hc : c = sep
    · simp [cut, hc]
    · simpa [cut, hc] using ih

theorem cut_snd_mem (sep : UInt8) (x : Bytes) : ∀ b ∈ (cut sep x).2.getD [], b ∈ x := by
  induction x with
  | nil => simp [cut]
  | cons c x ih =>
    by_cases hc : c = sep
    · simpa [cut, hc] using fun b hb => Or.inr hb
    · simpa [cut, hc] using fun b hb => Or.inr (ih b hb)

theorem locationQuery_nohash (loc : Bytes) : ∀ b ∈ locationQuery loc, b ≠ 0x23 := by
  intro b hb
  unfold locationQuery at hb
  exact cut_fst_nosep 0x23 loc b (cut_snd_mem 0x3F _ b hb)

/-- what the theorems assume about `url.Parse`'s answer: the rendered part in front of the query contains neither `?` nor `#` -/
def BaseOK (u : AR.URL) : Prop := ∀ b ∈ u.base, b ≠ 0x23 ∧ b ≠ 0x3F
instance (u : AR.URL) : Decidable (BaseOK u) := by unfold BaseOK; infer_instance

def queryPart (u : AR.URL) : Bytes := if u.ForceQuery || !u.RawQuery.isEmpty then 0x3F :: u.RawQuery else []
def fragmentPart (u : AR.URL) : Bytes := if !u.Fragment.isEmpty then 0x23 :: u.EscapedFragment else []

theorem String_eq (u : AR.URL) : u.String = (u.base ++ queryPart u) ++ fragmentPart u := rfl

theorem queryPart_nohash (u : AR.URL) (hq : ∀ b ∈ u.RawQuery, b ≠ 0x23) : ∀ b ∈ queryPart u, b ≠ 0x23 := by
  unfold queryPart
  split
  · simpa using hq
  · simp

theorem beforeHash_String (u : AR.URL) (hb : BaseOK u) (hq : ∀ b ∈ u.RawQuery, b ≠ 0x23) :
    cut 0x23 u.String = (u.base ++ queryPart u, if !u.Fragment.isEmpty then some u.EscapedFragment else none) := by
  have hpre : ∀ b ∈ u.base ++ queryPart u, b ≠ 0x23 := fun b hb' =>
    (List.mem_append.mp hb').elim (fun h => (hb b h).1) (queryPart_nohash u hq b)
  rw [String_eq, cut_append _ _ _ hpre]
  unfold fragmentPart
  split <;> simp [cut]

theorem cutQuery_base (u : AR.URL) (hb : BaseOK u) :
    cut 0x3F (u.base ++ queryPart u) = (u.base, if u.ForceQuery || !u.RawQuery.isEmpty then some u.RawQuery else none) := by
  have hbase : ∀ b ∈ u.base, b ≠ 0x3F := fun b h => (hb b h).2
  rw [cut_append _ _ _ hbase]
  unfold queryPart
  split <;> simp [cut]

theorem locationQuery_String (u : AR.URL) (hb : BaseOK u) (hq : ∀ b ∈ u.RawQuery, b ≠ 0x23) :
    locationQuery u.String = u.RawQuery := by
  unfold locationQuery
  rw [beforeHash_String u hb hq, cutQuery_base u hb]
  split
  · rfl
  · rename_i h
    simp only [Bool.or_eq_true, Bool.not_eq_true', not_or, Bool.not_eq_true, Bool.not_eq_false] at h
    simp only [Option.getD_none]
    exact (List.isEmpty_iff.mp h.2).symm

theorem locationBase_String (u : AR.URL) (hb : BaseOK u) (hq : ∀ b ∈ u.RawQuery, b ≠ 0x23) :
    locationBase u.String = u.base := by
  unfold locationBase
  rw [beforeHash_String u hb hq, cutQuery_base u hb]

theorem locationFragment_String (u : AR.URL) (hb : BaseOK u) (hq : ∀ b ∈ u.RawQuery, b ≠ 0x23) :
    locationFragment u.String = if !u.Fragment.isEmpty then some u.EscapedFragment else none := by
  unfold locationFragment
  rw [beforeHash_String u hb hq]

theorem coe_empty : ((↑("" : String)) : AR.Bytes) = [] := by decide
theorem coe_amp : ((↑("&" : String)) : AR.Bytes) = [0x26] := by decide

/-- the regenerated `mergeQueryParams`: the redirect URI's query text is kept as it is, the encoded response follows it -/
theorem mergeQueryParams_eq (now : Int) (u : AR.URL) (params : AR.Values) :
    GenWire.mergeQueryParams now u params = ({ u with RawQuery := joinQuery u.RawQuery params.Encode } : AR.URL).String := by
  unfold GenWire.mergeQueryParams joinQuery
  simp only [coe_empty, coe_amp, beq_iff_eq, bne_iff_ne, ne_eq, ite_not]
  by_cases h1 : u.RawQuery = []
  · simp [h1]
  · by_cases h2 : params.Encode = []
    · simp [h1, h2]
    · simp only [h1, h2, if_false]
      show ({ u with RawQuery := (u.RawQuery ++ [0x26]) ++ params.Encode } : AR.URL).String = _
      simp

theorem joinQuery_nohash (a : Bytes) (m : AR.Values) (ha : ∀ b ∈ a, b ≠ 0x23) : ∀ b ∈ joinQuery a m.Encode, b ≠ 0x23 := by
  unfold joinQuery
  split
  · exact Encode_nohash m
  · split
    · exact ha
    · simpa [or_imp, forall_and] using ⟨ha, Encode_nohash m⟩

theorem locationQuery_merge (now : Int) (u : AR.URL) (params : AR.Values) (hb : BaseOK u) (hq : ∀ b ∈ u.RawQuery, b ≠ 0x23) :
    locationQuery (GenWire.mergeQueryParams now u params) = joinQuery u.RawQuery params.Encode := by
  rw [mergeQueryParams_eq]
  exact locationQuery_String ({ u with RawQuery := joinQuery u.RawQuery params.Encode } : AR.URL) hb
    (joinQuery_nohash _ _ hq)

/-- **C11, query mode, all inputs.**  For every parsed redirect URI, every response (any keys, any byte strings as
    values) and every name `k`: decoding the query of the Location value that the regenerated `mergeQueryParams`
    builds yields the values the redirect URI's own query had under `k`, followed by the response's values —
    response parameters arrive unchanged and pre-existing query parameters are preserved. -/
theorem c11_query_roundtrip (now : Int) (u : AR.URL) (params : AR.Values) (hb : BaseOK u)
    (hq : ∀ b ∈ u.RawQuery, b ≠ 0x23) (hp : DistinctKeys params.entries) (k : Bytes) :
    valuesOf k (parseQuery (locationQuery (GenWire.mergeQueryParams now u params)))
      = valuesOf k (parseQuery u.RawQuery) ++ params.get k := by
  rw [locationQuery_merge now u params hb hq, parseQuery_joinQuery, valuesOf_append, valuesOf_parseQuery_Encode _ hp]

/-- **the redirect URI's own query text is still there, byte for byte**: the query of the Location value starts
    with it (also the parts of it no decoder accepts) -/
theorem c11_query_text_kept (now : Int) (u : AR.URL) (params : AR.Values) (hb : BaseOK u) (hq : ∀ b ∈ u.RawQuery, b ≠ 0x23) :
    ∃ rest, locationQuery (GenWire.mergeQueryParams now u params) = u.RawQuery ++ rest := by
  rw [locationQuery_merge now u params hb hq]
  unfold joinQuery
  split
  · rename_i h; exact ⟨params.Encode, by simp [h]⟩
  · split
    · exact ⟨[], by simp⟩
    · exact ⟨0x26 :: params.Encode, rfl⟩

/-- … and the settings of it that `parseQuery` does not read (`a;b=1`, `%zz=1`) are exactly those the Location's query has -/
theorem c11_query_unread_kept (now : Int) (u : AR.URL) (params : AR.Values) (hb : BaseOK u) (hq : ∀ b ∈ u.RawQuery, b ≠ 0x23) :
    unread (locationQuery (GenWire.mergeQueryParams now u params)) = unread u.RawQuery := by
  rw [locationQuery_merge now u params hb hq, unread_joinQuery, encode_eq, unread_joinAmp, List.append_nil]

/-- the redirect target in front of the query is untouched -/
theorem c11_query_base (now : Int) (u : AR.URL) (params : AR.Values) (hb : BaseOK u) (hq : ∀ b ∈ u.RawQuery, b ≠ 0x23) :
    locationBase (GenWire.mergeQueryParams now u params) = u.base := by
  rw [mergeQueryParams_eq]
  exact locationBase_String ({ u with RawQuery := joinQuery u.RawQuery params.Encode } : AR.URL) hb
    (joinQuery_nohash _ _ hq)

/-- `s` is a run of complete escape units for `unescape(…, encodeFragment)`: in front of any text it decodes to
    some bytes `d` (not none when `s` is not empty) and leaves the rest to be decoded on its own -/
def Unit (s : Bytes) : Prop :=
  ∃ d, (s ≠ [] → d ≠ []) ∧ ∀ r, AR.unescape false (s ++ r) = (AR.unescape false r).map (d ++ ·)

theorem Unit.nil : Unit [] := ⟨[], by simp, fun r => by simp⟩

theorem Unit.append {a b : Bytes} (ha : Unit a) (hb : Unit b) : Unit (a ++ b) := by
  obtain ⟨da, hna, ha⟩ := ha
  obtain ⟨db, hnb, hb⟩ := hb
  refine ⟨da ++ db, ?_, fun r => ?_⟩
  · intro h
    simp only [ne_eq, List.append_eq_nil_iff, Classical.not_and_iff_not_or_not] at h ⊢
    exact h.imp hna hnb
  · rw [List.append_assoc, ha, hb]
    cases AR.unescape false r <;> simp

theorem Unit.of_shape (e : Bytes) (h : unitShape e = true) : Unit e :=
  ⟨[unitVal false e], by simp, unescape_unit false e h⟩

theorem QueryEscape_unit (s : Bytes) : Unit (AR.QueryEscape s) := by
  induction s with
  | nil => exact Unit.nil
  | cons c s ih =>
    rw [QueryEscape_cons]
    exact Unit.append (Unit.of_shape _ (queryEscapeByte_unit c).1) ih

theorem encPair_unit (p : Bytes × Bytes) : Unit (encPair p) :=
  Unit.append (QueryEscape_unit _) (Unit.append (Unit.of_shape [0x3D] (by decide)) (QueryEscape_unit _))

theorem joinAmp_unit (xs : List Bytes) (h : ∀ x ∈ xs, Unit x) : Unit (AR.Values.joinAmp xs) := by
  induction xs using AR.Values.joinAmp.induct with
  | case1 => exact Unit.nil
  | case2 x => exact h x (by simp)
  | case3 x y ys ih =>
    exact Unit.append (h x (by simp)) (Unit.append (Unit.of_shape [0x26] (by decide)) (ih fun z hz => h z (List.mem_cons_of_mem _ hz)))

/-- **what `url.Values.Encode` writes is well-formed percent-encoding**: `unescape(…, encodeFragment)` (and
    `url.PathUnescape`) accepts it, with a non-empty result unless it is empty -/
theorem unescape_Encode (m : AR.Values) : ∃ d, AR.unescape false m.Encode = some d ∧ (m.Encode ≠ [] → d ≠ []) := by
  obtain ⟨d, hne, hd⟩ : Unit m.Encode := encode_eq m ▸ joinAmp_unit _ fun x hx => by
    obtain ⟨p, _, rfl⟩ := List.mem_map.mp hx
    exact encPair_unit p
  refine ⟨d, ?_, hne⟩
  have := hd []
  simpa [AR.unescape, AR.unescapeS] using this

/-- a byte QueryEscape writes is `%` or may stand in a raw fragment: what needs no escape in a query component needs none there -/
theorem escOut_frag {b : UInt8} (h : escOut b = true) : b = 0x25 ∨ AR.shouldEscapeFragment b = false := by
  simp only [escOut, Bool.or_eq_true, beq_iff_eq, Bool.not_eq_true'] at h
  rcases h with (rfl | rfl) | h
  · exact Or.inl rfl
  · exact Or.inr (by decide)
  · right
    simp only [AR.shouldEscapeQuery, Bool.not_eq_false'] at h
    simp only [AR.shouldEscapeFragment, h, Bool.true_or, Bool.not_true]

/-- what `url.Values.Encode` writes consists only of bytes a raw fragment may contain (`validEncoded(…, encodeFragment)`) -/
theorem validEncodedFragment_Encode (m : AR.Values) : AR.validEncodedFragment m.Encode = true := by
  unfold AR.validEncodedFragment
  rw [List.all_eq_true]
  intro b hb
  rcases Encode_out m b hb with rfl | rfl | h
  · decide
  · decide
  · rcases escOut_frag h with rfl | h
    · decide
    · simp [h]

/-- the regenerated `setFragment`: the encoded response becomes the RAW fragment, `Fragment` its unescaped form -/
theorem setFragment_eq (now : Int) (u : AR.URL) (params : AR.Values) :
    GenWire.setFragment now u params
      = ({ u with Fragment := (AR.PathUnescape params.Encode).1, RawFragment := params.Encode } : AR.URL).String := rfl

/-- `URL.String()` then emits the raw fragment as it is: nothing is escaped a second time -/
theorem escapedFragment_setFragment (u : AR.URL) (params : AR.Values) (hne : params.Encode ≠ []) :
    ({ u with Fragment := (AR.PathUnescape params.Encode).1, RawFragment := params.Encode } : AR.URL).EscapedFragment = params.Encode
    ∧ (AR.PathUnescape params.Encode).1.isEmpty = false := by
  obtain ⟨d, hd, hdne⟩ := unescape_Encode params
  have hpu : (AR.PathUnescape params.Encode).1 = d := by simp [AR.PathUnescape, hd]
  refine ⟨?_, by simpa [hpu] using hdne hne⟩
  simp [AR.URL.EscapedFragment, hpu, hd, hne, validEncodedFragment_Encode]

/-- **what fragment mode puts on the wire, all inputs**: the raw fragment of the Location value IS the form-encoded
    response (`Values.Encode`), escaped once; the redirect URI's own query and target stay (a fragment the redirect
    URI had is replaced). -/
theorem c11_fragment_wire (now : Int) (u : AR.URL) (params : AR.Values) (hb : BaseOK u)
    (hq : ∀ b ∈ u.RawQuery, b ≠ 0x23) :
    locationFragment (GenWire.setFragment now u params) = (if params.Encode = [] then none else some params.Encode)
    ∧ locationQuery (GenWire.setFragment now u params) = u.RawQuery
    ∧ locationBase (GenWire.setFragment now u params) = u.base := by
  rw [setFragment_eq]
  refine ⟨Eq.trans (locationFragment_String _ hb hq) ?_, locationQuery_String _ hb hq, locationBase_String _ hb hq⟩
  by_cases hne : params.Encode = []
  · simp [hne, AR.PathUnescape, AR.unescape, AR.unescapeS]
  · obtain ⟨h1, h2⟩ := escapedFragment_setFragment u params hne
    simp only [h2, Bool.not_false, if_true, hne, if_false, h1]

/-- **C11, fragment mode, ALL byte strings**: whatever the response contains (`+ / = & % # ?`, spaces, quotes, any
    bytes), the raw fragment a user agent sees is the encoded response, and decoding it ONCE yields every
    parameter unchanged. -/
theorem c11_fragment_roundtrip (now : Int) (u : AR.URL) (params : AR.Values) (hb : BaseOK u)
    (hq : ∀ b ∈ u.RawQuery, b ≠ 0x23) (hne : params.Encode ≠ []) (hp : DistinctKeys params.entries) :
    ∃ f, locationFragment (GenWire.setFragment now u params) = some f ∧ ∀ k, valuesOf k (parseQuery f) = params.get k := by
  refine ⟨params.Encode, ?_, fun k => valuesOf_parseQuery_Encode params hp k⟩
  rw [(c11_fragment_wire now u params hb hq).1]
  simp [hne]

theorem Encode_nil_flatten (m : AR.Values) (hd : DistinctKeys m.entries) (h : m.Encode = []) : flatten m.entries = [] := by
  cases hf : flatten m.entries with
  | nil => rfl
  | cons p ps =>
    exfalso
    have h1 := valuesOf_parseQuery_Encode m hd p.1
    rw [h, parseQuery_nil, ← valuesOf_flatten_get p.1 _ hd, hf] at h1
    simp [valuesOf] at h1

end C11
