/-
  C07: everything the check builds and audits for the property - the wire-level histories (Proofs/C07Wire.lean, which pulls in
  C07History / C07), histories with storage faults, the literal-answer clauses, concurrent refreshes (Proofs/C07Fault.lean),
  the function-level statement about the regenerated `CreateTokenResponse` for a refresh (Proofs/C07Issue.lean) and the
  provider not writing into the slices of the request getters (Proofs/C07Alias.lean).
-/
import OidcModel.Proofs.C07Wire
import OidcModel.Proofs.C07Fault
import OidcModel.Proofs.C07Issue
import OidcModel.Proofs.C07Alias
