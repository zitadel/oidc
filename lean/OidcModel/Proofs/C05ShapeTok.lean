/-
  C05, layer 1 of the proofs (part 1: the token-endpoint functions shared with C04 / C07 / C14, namespace `Gen`).

  `SpecTok.f` is a hand-maintained, FROZEN, readable normal form of the translated Go function `Gen.f` (Generated/TokenEndpoint.lean;
  the callees stay the REGENERATED ones, so every lemma of the slice is still stated about `Gen.*`), and
  `SpecTok.f_eq : Gen.f args = SpecTok.f args` is the characterisation lemma of that function for the C05 slice.  It is where the
  text of the Go function matters, and it is proved by `ep_shape` (= `rfl` when the regenerated term is the frozen one, otherwise
  `go_eq` / `go_leaf` of GoTac*.lean: split both sides on their scrutinees in whatever nesting / order / polarity the Go text has,
  close the leaves by `simp_all` / `grind`).  A semantically neutral rewrite of the Go function regenerates another term and the
  same script closes the goal; a rewrite that changes what the function computes leaves an unprovable leaf, the module does not
  build and `./check C05` (and every check importing Proofs/C05.lean) reports the violation.  The theorems of Proofs/C05*.lean
  rewrite with `f_eq` and work on the frozen text.  (Proofs/C04.lean characterises the same `Gen.*` functions for its own slice.)

  THIS FILE IS NOT GENERATED.  When a Go function changes its meaning on purpose (a `fix:` commit), the frozen text here is edited
  by hand together with the theorems that depend on it.
-/
import OidcModel.Generated.TokenEndpoint
import OidcModel.GoTacEq
set_option linter.unusedVariables false

/-- close `Gen.f args = SpecTok.f args` (likewise `SpecEP.f`, `SpecDev.f` of Proofs/C05Shape.lean) after both sides are unfolded -/
syntax "ep_shape" : tactic
macro_rules
  | `(tactic| ep_shape) => `(tactic| first
      | rfl
      | go_eq []
      | go_leaf)

namespace SpecTok
open Go
open Hand
open Const
open Gen

/-- frozen normal form of `Gen.AuthorizeClientIDSecret` (pkg/op/token_request.go:121 `AuthorizeClientIDSecret`) -/
def AuthorizeClientIDSecret (now : Int) (clientID clientSecret : String) (storage : Store) : Go.R Unit :=
  (match ((storage).AuthorizeClientIDSecret clientID clientSecret) with
  | .error err => (.error "ErrInvalidClient")
  | .ok _ =>
  Go.ok)

theorem AuthorizeClientIDSecret_eq (now : Int) (clientID clientSecret : String) (storage : Store) : Gen.AuthorizeClientIDSecret now clientID clientSecret storage = SpecTok.AuthorizeClientIDSecret now clientID clientSecret storage := by
  unfold Gen.AuthorizeClientIDSecret SpecTok.AuthorizeClientIDSecret; ep_shape

/-- frozen normal form of `Gen.AuthorizePrivateJWTKey` (pkg/op/token_request.go:146 `AuthorizePrivateJWTKey`) -/
def AuthorizePrivateJWTKey (now : Int) (clientAssertion : Token) (exchanger : Provider) : Go.R OPClient :=
  (match (VerifyJWTAssertion now clientAssertion ((exchanger).JWTProfileVerifier )) with
  | .error err => (.error err)
  | .ok jwtReq =>
  (match ((((exchanger).Storage)).GetClientByClientID (jwtReq).Issuer) with
  | .error err => (.error err)
  | .ok client =>
  (if (((client).AuthMethod) != Const.AuthMethodPrivateKeyJWT) then
    (.error "ErrInvalidClient")
  else
  (.ok client))))

theorem AuthorizePrivateJWTKey_eq (now : Int) (clientAssertion : Token) (exchanger : Provider) : Gen.AuthorizePrivateJWTKey now clientAssertion exchanger = SpecTok.AuthorizePrivateJWTKey now clientAssertion exchanger := by
  unfold Gen.AuthorizePrivateJWTKey SpecTok.AuthorizePrivateJWTKey; ep_shape

/-- frozen normal form of `Gen.AuthorizeTokenExchangeClient` (pkg/op/token_exchange.go:359 `AuthorizeTokenExchangeClient`) -/
def AuthorizeTokenExchangeClient (now : Int) (clientID clientSecret : String) (exchanger : Provider) : Go.R OPClient :=
  (match (Gen.AuthorizeClientIDSecret now clientID clientSecret ((exchanger).Storage)) with
  | .error err => (.error err)
  | .ok _ =>
  (match ((((exchanger).Storage)).GetClientByClientID clientID) with
    | .error err => (.error "ErrInvalidClient")
    | .ok client =>
    (if ((((client).AuthMethod) == Const.AuthMethodPost) && (!((exchanger).AuthMethodPostSupported))) then
      (.error "ErrInvalidClient")
    else
    (.ok client))))

theorem AuthorizeTokenExchangeClient_eq (now : Int) (clientID clientSecret : String) (exchanger : Provider) : Gen.AuthorizeTokenExchangeClient now clientID clientSecret exchanger = SpecTok.AuthorizeTokenExchangeClient now clientID clientSecret exchanger := by
  unfold Gen.AuthorizeTokenExchangeClient SpecTok.AuthorizeTokenExchangeClient; ep_shape

/-- frozen normal form of `Gen.AuthorizeClientCredentialsClient` (pkg/op/token_client_credentials.go:95 `AuthorizeClientCredentialsClient`) -/
def AuthorizeClientCredentialsClient (now : Int) (request : ClientCredentials) (storage : Store) : Go.R OPClient :=
  (match ((storage).ClientCredentials (request).ClientID (request).ClientSecret) with
  | .error err => (.error "ErrInvalidClient")
  | .ok client =>
  (if (!(Gen.ValidateGrantType now client Const.GrantTypeClientCredentials)) then
    (.error "ErrUnauthorizedClient")
  else
  (.ok client)))

theorem AuthorizeClientCredentialsClient_eq (now : Int) (request : ClientCredentials) (storage : Store) : Gen.AuthorizeClientCredentialsClient now request storage = SpecTok.AuthorizeClientCredentialsClient now request storage := by
  unfold Gen.AuthorizeClientCredentialsClient SpecTok.AuthorizeClientCredentialsClient; ep_shape

/-- frozen normal form of `Gen.LegacyVerifyClient` (pkg/op/server_legacy.go:183 `LegacyServer.VerifyClient`) -/
def LegacyVerifyClient (now : Int) (s : LegacyServer) (r : Request ClientCredentials) : Go.R OPClient :=
  (if ((((r).Form).Get "grant_type") == Const.GrantTypeClientCredentials) then
    let storage := (((s).provider).Storage);
    let ok := ((((s).provider).Storage)).is_ClientCredentialsStorage;
    (if (!ok) then
      (.error "ErrUnsupportedGrantType")
    else
    ((storage).ClientCredentials ((r).Data).ClientID ((r).Data).ClientSecret))
  else
  (if (((r).Data).ClientAssertionType == Const.ClientAssertionTypeJWTAssertion) then
      let jwtExchanger := (s).provider;
      let ok := ((s).provider).is_JWTAuthorizationGrantExchanger;
      (if ((!ok) || (!(((s).provider).AuthMethodPrivateKeyJWTSupported))) then
        (.error "ErrInvalidClient")
      else
      (Gen.AuthorizePrivateJWTKey now ((r).Data).ClientAssertion jwtExchanger))
    else
    (match (((((s).provider).Storage)).GetClientByClientID ((r).Data).ClientID) with
      | .error err => (.error "ErrInvalidClient")
      | .ok client =>
      (if (((client).AuthMethod) == Const.AuthMethodNone) then
        (.ok client)
      else if (((client).AuthMethod) == Const.AuthMethodPrivateKeyJWT) then
        (.error "ErrInvalidClient")
      else if (((client).AuthMethod) == Const.AuthMethodPost) then
        (if (!(((s).provider).AuthMethodPostSupported)) then
          (.error "ErrInvalidClient")
        else
        (match (Gen.AuthorizeClientIDSecret now ((r).Data).ClientID ((r).Data).ClientSecret (((s).provider).Storage)) with
          | .error err => (.error err)
          | .ok _ =>
          (.ok client)))
      else (match (Gen.AuthorizeClientIDSecret now ((r).Data).ClientID ((r).Data).ClientSecret (((s).provider).Storage)) with
          | .error err => (.error err)
          | .ok _ =>
          (.ok client))))))

theorem LegacyVerifyClient_eq (now : Int) (s : LegacyServer) (r : Request ClientCredentials) : Gen.LegacyVerifyClient now s r = SpecTok.LegacyVerifyClient now s r := by
  unfold Gen.LegacyVerifyClient SpecTok.LegacyVerifyClient; ep_shape

/-- frozen normal form of `Gen.AuthorizeRefreshClient` (pkg/op/token_refresh.go:99 `AuthorizeRefreshClient`) -/
def AuthorizeRefreshClient (now : Int) (tokenReq : RefreshTokenRequest) (exchanger : Provider) : Go.R (RefreshReq × OPClient) :=
  (if ((tokenReq).ClientAssertionType == Const.ClientAssertionTypeJWTAssertion) then
    let jwtExchanger := exchanger;
    let ok := (exchanger).is_JWTAuthorizationGrantExchanger;
    (if ((!ok) || (!((exchanger).AuthMethodPrivateKeyJWTSupported))) then
      (.error "error:auth_method private_key_jwt not supported")
    else
    (match (Gen.AuthorizePrivateJWTKey now (tokenReq).ClientAssertion jwtExchanger) with
      | .error err => (.error err)
      | .ok client =>
      (if (!(Gen.ValidateGrantType now client Const.GrantTypeRefreshToken)) then
        (.error "ErrUnauthorizedClient")
      else
      (match (Gen.RefreshTokenRequestByRefreshToken now ((exchanger).Storage) (tokenReq).RefreshToken) with
        | .error err => (.error err)
        | .ok request =>
        (.ok (request, client))))))
  else
  (match ((((exchanger).Storage)).GetClientByClientID (tokenReq).ClientID) with
    | .error err => (.error err)
    | .ok client =>
    (if (!(Gen.ValidateGrantType now client Const.GrantTypeRefreshToken)) then
      (.error "ErrUnauthorizedClient")
    else
    (if (((client).AuthMethod) == Const.AuthMethodPrivateKeyJWT) then
        (.error "ErrInvalidClient")
      else
      (if (((client).AuthMethod) == Const.AuthMethodNone) then
          (match (Gen.RefreshTokenRequestByRefreshToken now ((exchanger).Storage) (tokenReq).RefreshToken) with
          | .error err => (.error err)
          | .ok request =>
          (.ok (request, client)))
        else
        (if ((((client).AuthMethod) == Const.AuthMethodPost) && (!((exchanger).AuthMethodPostSupported))) then
            (.error "ErrInvalidClient")
          else
          (match (Gen.AuthorizeClientIDSecret now (tokenReq).ClientID (tokenReq).ClientSecret ((exchanger).Storage)) with
            | .error err => (.error err)
            | .ok _ =>
            (match (Gen.RefreshTokenRequestByRefreshToken now ((exchanger).Storage) (tokenReq).RefreshToken) with
              | .error err => (.error err)
              | .ok request =>
              (.ok (request, client))))))))))

theorem AuthorizeRefreshClient_eq (now : Int) (tokenReq : RefreshTokenRequest) (exchanger : Provider) : Gen.AuthorizeRefreshClient now tokenReq exchanger = SpecTok.AuthorizeRefreshClient now tokenReq exchanger := by
  unfold Gen.AuthorizeRefreshClient SpecTok.AuthorizeRefreshClient; ep_shape

/-- frozen normal form of `Gen.ValidateRefreshTokenRequest` (pkg/op/token_refresh.go:61 `ValidateRefreshTokenRequest`) -/
def ValidateRefreshTokenRequest (now : Int) (tokenReq : RefreshTokenRequest) (exchanger : Provider) : Go.R (RefreshReq × OPClient) :=
  (if ((tokenReq).RefreshToken == "") then
    (.error "ErrInvalidRequest")
  else
  (match (Gen.AuthorizeRefreshClient now tokenReq exchanger) with
    | .error err => (.error err)
    | .ok (request, client) =>
    (if (((client).GetID) != ((request).GetClientID)) then
      (.error "ErrInvalidGrant")
    else
    (match (Gen.ValidateRefreshTokenScopes now (tokenReq).Scopes request) with
      | .error err => (.error err)
      | .ok request =>
      (.ok (request, client))))))

theorem ValidateRefreshTokenRequest_eq (now : Int) (tokenReq : RefreshTokenRequest) (exchanger : Provider) : Gen.ValidateRefreshTokenRequest now tokenReq exchanger = SpecTok.ValidateRefreshTokenRequest now tokenReq exchanger := by
  unfold Gen.ValidateRefreshTokenRequest SpecTok.ValidateRefreshTokenRequest; ep_shape

/-- frozen normal form of `Gen.LegacyRefreshToken` (pkg/op/server_legacy.go:252 `LegacyServer.RefreshToken`) -/
def LegacyRefreshToken (now : Int) (s : LegacyServer) (r : ClientRequest RefreshTokenRequest) : Go.R IssueFor :=
  (if (!(((s).provider).GrantTypeRefreshTokenSupported)) then
    (.error (Hand.unimplementedGrantError Const.GrantTypeRefreshToken))
  else
  (match (Gen.RefreshTokenRequestByRefreshToken now (((s).provider).Storage) ((r).Data).RefreshToken) with
    | .error err => (.error err)
    | .ok request =>
    (if ((((r).Client).GetID) != ((request).GetClientID)) then
      (.error "ErrInvalidGrant")
    else
    (match (Gen.ValidateRefreshTokenScopes now ((r).Data).Scopes request) with
      | .error err => (.error err)
      | .ok request =>
      (match (Hand.issueForRefresh now request (r).Client (s).provider true "" ((r).Data).RefreshToken) with
        | .error err => (.error err)
        | .ok resp =>
        (.ok (NewResponse now resp)))))))

theorem LegacyRefreshToken_eq (now : Int) (s : LegacyServer) (r : ClientRequest RefreshTokenRequest) : Gen.LegacyRefreshToken now s r = SpecTok.LegacyRefreshToken now s r := by
  unfold Gen.LegacyRefreshToken SpecTok.LegacyRefreshToken; ep_shape

end SpecTok
