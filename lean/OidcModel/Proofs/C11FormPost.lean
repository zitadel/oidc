/-
  C11, sequences of form_post responses with write faults, on the statement list regenerated from `AuthResponseFormPost`
  (`GenWire.formPostProgram`, run by the program model `FP` of Model/FormPost.lean): the buffer handling leaves nothing behind
  (`formPost_no_leftover`), and the body every user agent receives is a prefix of the page of its own request, whatever the
  earlier calls and the package-level state were (`c11_formpost_history`, `c11_formpost_state_independent`).
-/
import OidcModel.Proofs.C11
import OidcModel.Model.FormPost

namespace C11
open UA

theorem formPostProgram_supported : GenWire.formPostProgram.all FP.supported = true := by decide

/-- the page of a call is rendered from that call's own redirect URI and from what the encoder wrote for that call's own response
    (regenerated data flow of `AuthResponseFormPost`: the `Req.page` of the program model IS `AR.render … uri params`) -/
theorem formPostTemplateData_ok : GenWire.formPostTemplateData.ok = true := by decide

theorem accepted_take (f : FP.WFault) (b : Bytes) : ∃ k, FP.accepted f b = b.take k := by
  cases f with
  | none => exact ⟨b.length, by simp [FP.accepted]⟩
  | err k | short k => exact ⟨k, rfl⟩

/-- `WriteTo` on a connection that has received nothing yet -/
theorem bufWriteTo_fresh (b : Bytes) (w : FP.RW) (hb : w.body = []) (hd : w.dead = false) :
    (FP.bufWriteTo b w).2.1.body = FP.accepted w.fault b := by
  obtain ⟨header, status, body, dead, fault⟩ := w
  simp only at hb hd
  subst hb hd
  unfold FP.bufWriteTo
  by_cases he : b = []
  · subst he; cases fault <;> simp [FP.accepted]
  · have : b.isEmpty = false := by simpa using he
    simp only [this, Bool.false_eq_true, if_false]
    cases fault with
    | none => simp [FP.RW.Write, FP.RW.room, FP.accepted]
    | err k | short k =>
      simp only [FP.RW.Write, FP.RW.room, FP.accepted, List.length_nil, Nat.sub_zero, Bool.false_eq_true, if_false]
      by_cases hk : b.length ≤ k
      · simp [hk, List.take_of_length_le hk]
      · simp [hk]; split <;> simp

/-- **characterisation lemma of the regenerated program** (one call): whatever package-level state the call finds, the body the
    user agent receives is `FP.delivered` of this request.  (Symbolic execution by `simp`, then case splits; independent of
    the order / spelling of the statements as long as the statement holds.) -/
theorem formPost_body_eq (pkg : List (String × FP.PkgVal)) (r : FP.Req) :
    (FP.run GenWire.formPostProgram r pkg).rw.body = FP.delivered r := by
  cases henc : r.encFail <;> cases htf : r.tmplFail <;>
    simp [FP.run, GenWire.formPostProgram, FP.exec, FP.step1, FP.St.setBuf, FP.St.getBuf, FP.delivered, henc, htf, List.lookup]
  all_goals ((repeat' split) <;> simp_all [bufWriteTo_fresh, FP.step1, FP.St.setBuf, FP.St.getBuf, List.lookup])

/-- a function that touches no package-level buffer or pool leaves the package-level state as it found it -/
theorem formPost_no_leftover (hlocal : GenWire.formPostPkg = []) (pkg : List (String × FP.PkgVal)) (r : FP.Req) :
    (FP.run GenWire.formPostProgram r pkg).pkg = pkg := by
  first
    | exact absurd hlocal (by decide)
    | (cases henc : r.encFail <;> cases htf : r.tmplFail <;>
        simp [FP.run, GenWire.formPostProgram, FP.exec, FP.step1, FP.St.setBuf, FP.St.getBuf, henc, htf, List.lookup]
       all_goals ((repeat' split) <;> simp_all [FP.step1, FP.St.setBuf, FP.St.getBuf, List.lookup]))

/-- whatever the connection does, what arrives is a prefix of this request's own page -/
theorem delivered_prefix (r : FP.Req) : ∃ k, FP.delivered r = r.page.take k := by
  unfold FP.delivered
  split
  · exact ⟨0, by simp⟩
  · exact accepted_take r.fault r.page

/-- … and the whole page when nothing failed -/
theorem delivered_complete (r : FP.Req) (h : FP.complete r = true) : FP.delivered r = r.page := by
  simp only [FP.complete, Bool.and_eq_true, Bool.not_eq_true', Option.isNone_iff_eq_none] at h
  obtain ⟨⟨h1, h2⟩, h3⟩ := h
  simp only [FP.delivered, h1, h2, Option.isSome_none, Bool.or_self, Bool.false_eq_true, if_false]
  cases hf : r.fault with
  | none => rfl
  | err k | short k => rw [hf] at h3; simp only [decide_eq_true_eq] at h3; exact List.take_of_length_le h3

/-- **C11, sequences of form_post responses with arbitrary faults (history level).**  For EVERY sequence of calls of the
    regenerated `AuthResponseFormPost` on the same package-level state — whatever state the first call finds, whichever
    connections break at whichever byte (error or short write), whichever encoder / template executions fail, whatever
    `sync.Pool` would hand out — the body every user agent receives is `FP.delivered` of ITS OWN request: a function
    of that request alone, independent of all earlier (and later) requests and of their faults. -/
theorem c11_formpost_history (reqs : List FP.Req) (pkg : List (String × FP.PkgVal)) :
    (FP.history GenWire.formPostProgram reqs pkg).map (·.body) = reqs.map FP.delivered := by
  induction reqs generalizing pkg with
  | nil => rfl
  | cons r rs ih =>
    simp only [FP.history, List.map_cons, formPost_body_eq pkg r, ih]

/-- the body a user agent receives does not depend on the package-level state the call finds: nothing an earlier call left
    behind (in a pooled or package-level buffer) can reach it -/
theorem c11_formpost_state_independent (r : FP.Req) (pkg₁ pkg₂ : List (String × FP.PkgVal)) :
    (FP.run GenWire.formPostProgram r pkg₁).rw.body = (FP.run GenWire.formPostProgram r pkg₂).rw.body := by
  rw [formPost_body_eq, formPost_body_eq]

theorem history_getElem (reqs : List FP.Req) (pkg : List (String × FP.PkgVal)) (n : Nat) (r : FP.Req) (hr : reqs[n]? = some r) :
    ((FP.history GenWire.formPostProgram reqs pkg).map (·.body))[n]? = some (FP.delivered r) := by
  rw [c11_formpost_history, List.getElem?_map, hr]; rfl

-- non-vacuity: a two-step history, the first connection breaks after 40 bytes, the second page arrives whole
set_option maxRecDepth 1000000 in
example :
    let alice : FP.Req := { page := wPage wPlain ⟨[(s "code", [s "alice-code"])]⟩, fault := .err 40 }
    let bob : FP.Req := { page := wPage wPlain ⟨[(s "code", [s "bob-code"])]⟩ }
    (FP.history GenWire.formPostProgram [alice, bob] GenWire.formPostPkg).map (·.body)
      = [(wPage wPlain ⟨[(s "code", [s "alice-code"])]⟩).take 40, wPage wPlain ⟨[(s "code", [s "bob-code"])]⟩] := by
  decide +kernel

/-- a program that keeps its buffer in a pool WITHOUT resetting it (the defect this theorem family excludes): the second
    user agent receives the rest of the first page in front of its own -/
def leakyProgram : List FP.Stmt :=
  [ .poolGet "buf" "pool", .deferred (.poolPut "pool" (.loc "buf")), .execute (.loc "buf"), .ifErrReturn,
    .writeHeader 200, .writeTo (.loc "buf"), .ifErrReturn, .returnNil ]

example :
    (FP.history leakyProgram [{ page := s "ALICE", fault := .err 2 }, { page := s "BOB" }] [("pool", .pool [])]).map (·.body)
      = [s "AL", s "ICEBOB"] := by decide +kernel

set_option maxRecDepth 1000000 in
/-- … and the monitor rejects such a body: two documents, the first one somebody else's (concrete rejected case) -/
example :
    let alice := wPage wPlain ⟨[(s "code", [s "alice-code"])]⟩
    let bob := wPage wPlain ⟨[(s "code", [s "bob-code"])]⟩
    monitor { uri := wPlain, uriOK := true, mode := "form_post", rtype := "code", isError := false, params := [(s "code", s "bob-code")] }
      (.form (alice ++ bob) ((tokenize (alice ++ bob)).map decodeTag)) = some "unexpected-element-or-attribute:html" := by decide +kernel

set_option maxRecDepth 1000000 in
/-- a page that was cut off is accepted as such (concrete accepted case) … -/
example :
    monitor { uri := wPlain, uriOK := true, mode := "form_post", rtype := "code", isError := false, params := [(s "code", s "bob-code")] }
      (.cutOff ((wPage wPlain ⟨[(s "code", [s "bob-code"])]⟩).take 230) []) = none := by decide +kernel

set_option maxRecDepth 1000000 in
/-- … unless what did arrive carries somebody else's parameters (concrete rejected case) -/
example :
    let alice := wPage wPlain ⟨[(s "code", [s "alice-code"])]⟩
    let bob := wPage wPlain ⟨[(s "code", [s "bob-code"])]⟩
    monitor { uri := wPlain, uriOK := true, mode := "form_post", rtype := "code", isError := false, params := [(s "code", s "bob-code")] }
      (.cutOff ((alice.drop 167 ++ bob).take 400) []) = some "partial-input-not-of-this-response:code" := by decide +kernel

set_option maxRecDepth 1000000 in
/-- … or begins with the rest of somebody else's page as text (a leftover that starts inside a tag) -/
example :
    let alice := wPage wPlain ⟨[(s "code", [s "alice-code"])]⟩
    let bob := wPage wPlain ⟨[(s "code", [s "bob-code"])]⟩
    monitor { uri := wPlain, uriOK := true, mode := "form_post", rtype := "code", isError := false, params := [(s "code", s "bob-code")] }
      (.form (alice.drop 200 ++ bob) ((tokenize (alice.drop 200 ++ bob)).map decodeTag)) = some "text-outside-the-form" := by decide +kernel

end C11
