/-
  The reference storage's client lookup and secret check (Model/OP.lean: `Store.GetClientByClientID`,
  `Store.AuthorizeClientIDSecret`, twins of refstore's) read as statements about the registration list.
-/
import OidcModel.Model.OP

namespace Store

theorem find_id {cs : List OPClient} {id : String} {c : OPClient} (h : cs.find? (·.id == id) = some c) : c.id = id := by
  simpa using List.find?_some h

theorem getClient_ok_iff {s : Store} {id : String} {c : OPClient} :
    s.GetClientByClientID id = .ok c ↔ s.clients.find? (·.id == id) = some c := by
  unfold Store.GetClientByClientID
  split
  · rename_i c' hc; simp [hc]
  · rename_i hn; simp [hn]

theorem authSecret_ok_iff {s : Store} {id sec : String} :
    s.AuthorizeClientIDSecret id sec = .ok () ↔
      ∃ c, s.clients.find? (·.id == id) = some c ∧ (c.auth = Const.AuthMethodBasic ∨ c.auth = Const.AuthMethodPost) ∧ c.secret = sec := by
  unfold Store.AuthorizeClientIDSecret
  split
  · rename_i c hc
    constructor
    · intro h
      split at h
      · rename_i hcond
        simp at hcond
        exact ⟨c, hc, hcond.1, hcond.2⟩
      · simp at h
    · rintro ⟨c', hc', ha, hs⟩
      rw [hc] at hc'; cases hc'
      rcases ha with ha | ha <;> simp [ha, hs]
  · rename_i hn
    simp [hn]

end Store
