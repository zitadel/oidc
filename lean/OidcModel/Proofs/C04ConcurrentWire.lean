/-
  C04: the tie between the concurrent model (Proofs/C04Concurrent.lean) and the REGENERATED token-endpoint handlers
  (Generated/Endpoint.lean; Proofs/C04Parse.lean).

  `c04_concurrent_each_validated` says: a handler of a concurrent pair answers with tokens only if `Flow.codeExchange` let ITS OWN
  request through.  `Flow.codeExchange` is the lookup step of the model's handler (`hstep_idle_decision`), and by the bridges of
  Proofs/C04Parse.lean that step IS the regenerated handler - `op.CodeExchange` on the Provider router,
  `webServer.tokensHandler` → `withClient` → `codeExchangeHandler` → `LegacyServer.CodeExchange` on the Server router - applied to
  that handler's own raw HTTP request and the storage as it is at that moment (`c04_concurrent_lookup_is_handler`).  The
  regenerated handler is a FUNCTION of (its request, the provider with its storage): there is no other input through which the
  answer to one request could depend on another request in flight.  A wrapper around the exchange that hands one caller another
  caller's result (an in-flight group keyed by the code, a response cache, validated values parked in package-level variables)
  is not expressible as such a function: the translator then either changes the regenerated definition (the bridges stop
  checking) or emits `UNSUPPORTED_…` (closure, channel, unknown package-level state) and the build breaks.
-/
import OidcModel.Proofs.C04Concurrent
import OidcModel.Proofs.C04Parse

namespace C04
open Go Gen Hand Flow FlowObs FlowX

def lookupDecision : H → Go.R IssueFor
  | .fin (.error e) => .error e
  | .fin (.issued i _) => .ok i
  | .run i _ _ => .ok i
  | _ => .error "ErrServerError"

/-- the lookup step of the concurrent model's handler is `Flow.codeExchange` on the handler's own request and the storage as it is
    at that step - under either storage contract -/
theorem hstep_idle_decision (now : Int) (rt : Router) (strict : Bool) (s : Flow.St) (req : AccessTokenRequest) (ha : Bool) :
    lookupDecision (hstep now rt strict s (.idle req ha)).2 = codeExchange now rt s.p req ha ∧
    (hstep now rt strict s (.idle req ha)).1 = s := by
  simp only [hstep]
  cases codeExchange now rt s.p req ha with
  | error e => exact ⟨rfl, rfl⟩
  | ok i => refine ⟨?_, rfl⟩; simp only []; split <;> rfl

/-- **The lookup step IS the regenerated handler on the handler's own raw request.**  For a raw token request `r` that parses to
    `f`, and a model state whose provider is the endpoint model's provider: what the Provider router's regenerated `op.CodeExchange`
    / the Server router's regenerated `tokensHandler` answers to `r` is the response written for the decision of the model handler's
    lookup step on the request read off `r` - nothing but `r` and the storage enters. -/
theorem c04_concurrent_lookup_is_handler (now : Int) (o : EPOracles) (r : EPRequest) (x : EPProvider) (f : EPForm) (strict : Bool)
    (s : Flow.St) (hs : s.p = x.asProvider now) (hp : parseSpec o r = .ok f) :
    (∀ ha, GenEP.CodeExchange now o r x =
      respProvider now r x (lookupDecision (hstep now .provider strict s (.idle (Hand.epAccessTokenRequest o f) ha)).2)) ∧
    (r.Form.Get "grant_type" = Const.GrantTypeCode →
      GenEP.tokensHandler now o (EP.webServer x) r =
        respLegacy now r x (lookupDecision (hstep now .legacy strict s (.idle (Hand.epAccessTokenRequest o f) (f.ClientAssertion != ""))).2)) := by
  constructor
  · intro ha
    rw [(hstep_idle_decision now .provider strict s _ ha).1, hs, codeExchange_provider_bridge now o r x ha, hp]
  · intro hg
    rw [(hstep_idle_decision now .legacy strict s _ _).1, hs, codeExchange_legacy_bridge now o r x hg, hp]

end C04
