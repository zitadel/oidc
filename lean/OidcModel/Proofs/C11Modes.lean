/-
  C11: all response modes × response types in ONE statement.  The answer to a success response as `successAnswer` of this file
  puts it together (standing for the handlers `AuthResponseCode` / `AuthResponseToken`) — the auto-submitting form for `response_mode=form_post`, the Location value of the regenerated
  `AuthResponseURL` for EVERY other mode string (`query`, `fragment`, none, anything else: the response type's default) — is
  accepted by the monitor.
-/
import OidcModel.Proofs.C11CutOff

namespace C11
open UA

/-- **every mode string other than form_post** (also unknown ones, which fall back to the response type's default channel):
    the Location value of the regenerated `AuthResponseURL` is accepted, for all redirect URIs (with query, with fragment, custom
    scheme), all responses (any names — `error_description`, `session_state`, … —, any byte strings) -/
theorem c11_holds_url_any_mode (now : Int) (parse : AR.Bytes → Go.R AR.URL) (i : Input) (u : AR.URL) (resp : AR.Values)
    (hu : parse i.uri = .ok u) (hpar : ParseOK i.uri u) (hresp : i.params = flatten resp.entries) (hd : DistinctKeys resp.entries)
    (hnf : i.mode ≠ "form_post") (hsrc : SourceOK i) :
    ∃ loc, GenWire.AuthResponseURL now parse i.uri i.rtype i.mode resp () = .ok loc ∧ monitor i (.redirect loc) = none :=
  c11_holds_url now parse i u resp hu hpar hresp hd (Or.inl hnf) hsrc

/-- what the user agent gets for a success response: the form for `form_post`, the redirect of `AuthResponseURL` otherwise -/
def successAnswer (now : Int) (parse : AR.Bytes → Go.R AR.URL) (i : Input) (resp : AR.Values) : Option Observed :=
  if i.mode == "form_post" then
    some (.form (AR.render GenWire.formPostAutoescape GenWire.formPostTemplate i.uri resp)
      ((tokenize (AR.render GenWire.formPostAutoescape GenWire.formPostTemplate i.uri resp)).map decodeTag))
  else match GenWire.AuthResponseURL now parse i.uri i.rtype i.mode resp () with
    | .ok loc => some (.redirect loc)
    | .error _ => none

/-- **C11 for a success response in EVERY response mode and response type** (partial only through F-C11b: in form_post mode the
    redirect URI's scheme has to pass html/template's URL filter and the response consists of template-listed parameters
    without NUL / CR) -/
theorem c11_holds_all_modes_partial (now : Int) (parse : AR.Bytes → Go.R AR.URL) (i : Input) (u : AR.URL) (resp : AR.Values)
    (hu : parse i.uri = .ok u) (hpar : ParseOK i.uri u) (hresp : i.params = flatten resp.entries) (hd : DistinctKeys resp.entries)
    (herr : i.isError = false) (hsrc : SourceOK i)
    (hform : i.mode = "form_post" → AR.isSafeURL i.uri = true ∧ (∀ name, ∀ v ∈ resp.get name, ∀ c ∈ v, c ≠ 0x0D ∧ c ≠ 0)
      ∧ (∀ e ∈ resp.entries, e.1 ∈ nodeNames (GenWire.formPostTemplate.drop 3) ∧ e.2.length ≤ 1)) :
    ∃ o, successAnswer now parse i resp = some o ∧ monitor i o = none := by
  unfold successAnswer
  by_cases hm : i.mode = "form_post"
  · obtain ⟨hsafe, hv, hlisted⟩ := hform hm
    refine ⟨.form (AR.render GenWire.formPostAutoescape GenWire.formPostTemplate i.uri resp)
      ((tokenize (AR.render GenWire.formPostAutoescape GenWire.formPostTemplate i.uri resp)).map decodeTag), by simp [hm], ?_⟩
    exact c11_holds_form_partial i resp hsafe hresp hd hv hlisted (by simp [channels, hm, herr]) hsrc
  · obtain ⟨loc, hloc, hmon⟩ := c11_holds_url_any_mode now parse i u resp hu hpar hresp hd hm hsrc
    exact ⟨.redirect loc, by simp [hm, hloc], hmon⟩

end C11
