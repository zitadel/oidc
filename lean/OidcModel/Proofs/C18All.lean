/-
  C18: the proof module of the slice.  Layer 1 (`C18Char`: one characterisation lemma per regenerated function of Generated/Session.lean; the key-set wiring of
  Generated/SessionKeys.lean is characterised in `C18`), the
  per-request theorems (`C18`), histories with storage faults (`C18History`), the byte-level state round trip composed
  with C11, the key-set shapes composed with C02, unusual registrations (`C18Deep`).
-/
import OidcModel.Proofs.C18Char
import OidcModel.Proofs.C18
import OidcModel.Proofs.C18History
import OidcModel.Proofs.C18Deep
