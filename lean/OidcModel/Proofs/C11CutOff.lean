/-
  C11, form_post pages that were CUT OFF by the connection (a write fault at byte k): whatever prefix of the page rendered
  from the regenerated template reaches the user agent, the monitor accepts it as a cut-off page of THIS response
  (`c11_cutoff_holds`), and therefore the monitor accepts the body at EVERY position of EVERY history of form_post
  responses with arbitrary faults (`c11_formpost_history_all`).
-/
import OidcModel.Proofs.C11FormPost

namespace C11
open UA

theorem run_out_suffix (st : TState) (x : Bytes) : ∃ o, (run st x).out = o ++ st.out :=
  ⟨(run { st with out := [] } x).out, congrArg TState.out (run_addOut { st with out := [] } x st.out)⟩

/-- **the start tags of a prefix of a page are a prefix of the start tags of the page** (pages without CR) -/
theorem tokenize_take (page : Bytes) (hcr : ∀ b ∈ page, b ≠ 0x0D) (k : Nat) :
    ∃ rest, tokenize page = tokenize (page.take k) ++ rest := by
  have h1 := normalizeNL_id page hcr
  have h2 := normalizeNL_id (page.take k) (fun b hb => hcr b (List.mem_of_mem_take hb))
  unfold tokenize normalizeNewlines
  rw [h1, h2]
  obtain ⟨o, ho⟩ := run_out_suffix (run {} (page.take k)) (page.drop k)
  have hsplit : run {} page = run (run {} (page.take k)) (page.drop k) := by
    rw [← run_append, List.take_append_drop]
  show ∃ rest, (run {} page).out.reverse = (run {} (page.take k)).out.reverse ++ rest
  rw [hsplit, ho, List.reverse_append]
  exact ⟨_, rfl⟩

theorem render_noCR (uri : Bytes) (params : AR.Values) (hv : ∀ name, ∀ v ∈ params.get name, ∀ c ∈ v, c ≠ 0x0D) :
    ∀ b ∈ AR.render GenWire.formPostAutoescape GenWire.formPostTemplate uri params, b ≠ 0x0D := by
  rw [formPostAutoescape_on]
  exact noCR_render _ formPostTemplate_ok uri params hv

theorem isForm_formTag (a : Bytes) : isForm (formTag a) = some a := by simp [isForm, formTag]
theorem isForm_inputTag (n v : Bytes) : isForm (inputTag n v) = none := by simp [isForm, inputTag]
theorem pageFrame_no_form : pageFrame.filter (fun t => (isForm t).isSome) = [] := by decide
theorem pageFrame_not_formTag (a : Bytes) : pageFrame.contains (formTag a) = false := by
  simp [pageFrame, formTag, C11.s]
theorem pageFrame_not_inputTag (n v : Bytes) : pageFrame.contains (inputTag n v) = false := by
  simp [pageFrame, inputTag, C11.s]

theorem forms_of_page (a : Bytes) (params : AR.Values) (nodes : List AR.Node) :
    (pageFrame ++ formTag a :: restTags id params nodes).filter (fun t => (isForm t).isSome) = [formTag a] := by
  have hrest : (restTags id params nodes).filter (fun t => (isForm t).isSome) = [] := by
    rw [List.filter_eq_nil_iff]
    intro t ht
    obtain ⟨p, _, rfl⟩ := List.mem_map.mp ht
    simp [isForm_inputTag]
  rw [List.filter_append, pageFrame_no_form, List.filter_cons, isForm_formTag, hrest]
  simp

theorem pageText_take (page : Bytes) (hcr : ∀ b ∈ page, b ≠ 0x0D) (h : pageText page = []) (k : Nat) :
    pageText (page.take k) = [] := by
  unfold pageText normalizeNewlines at *
  rw [normalizeNL_id page hcr] at h
  rw [normalizeNL_id (page.take k) (fun b hb => hcr b (List.mem_of_mem_take hb))]
  have hsplit : strayText {} page = strayText {} (page.take k) ++ strayText (run {} (page.take k)) (page.drop k) := by
    rw [← strayText_append, List.take_append_drop]
  rw [hsplit] at h
  exact (List.append_eq_nil_iff.mp h).1

/-- **C11, a form_post page cut off at ANY byte.**  For every redirect URI whose scheme html/template's URL filter lets
    through, every response with distinct keys and no NUL / CR in its values (listed in the template or not), every `k` and
    every list `ua` of user-agent tags without stray text: the monitor accepts the first `k`
    bytes of the page rendered from the regenerated template as a cut-off page of this response — whatever start tags
    are complete in it are the frame, the one form addressing the redirect URI, and hidden inputs carrying this
    response's own parameters. -/
theorem c11_cutoff_holds (i : Input) (resp : AR.Values) (k : Nat) (ua : List Tag) (hua : ua.any isStrayText = false)
    (hsafe : AR.isSafeURL i.uri = true)
    (hresp : i.params = flatten resp.entries) (hd : DistinctKeys resp.entries)
    (hv : ∀ name, ∀ v ∈ resp.get name, ∀ c ∈ v, c ≠ 0x0D ∧ c ≠ 0)
    (hch : (channels i).contains Channel.form = true) :
    monitor i (.cutOff ((AR.render GenWire.formPostAutoescape GenWire.formPostTemplate i.uri resp).take k) ua) = none := by
  have hcr := render_noCR i.uri resp (fun n v hm c hc => (hv n v hm c hc).1)
  have hnt := pageText_take _ hcr (c11_form_no_text i.uri resp (fun n v hm c hc => (hv n v hm c hc).1)) k
  simp only [monitor, hch, if_true, checkPartial, hua, hnt, List.isEmpty_nil, Bool.not_true, Bool.or_self, Bool.false_eq_true, if_false]
  obtain ⟨rest, hrest⟩ := tokenize_take _ hcr k
  have hfull := decoded_tags i.uri resp hv
  rw [hrest, List.map_append] at hfull
  generalize (tokenize ((AR.render GenWire.formPostAutoescape GenWire.formPostTemplate i.uri resp).take k)).map decodeTag = T at hfull
  -- at most one form
  have hnot : ¬ (T.filter fun t => (isForm t).isSome).length > 1 := by
    have h := forms_of_page (AR.urlNormalize (AR.urlFilter i.uri)) resp (GenWire.formPostTemplate.drop 3)
    rw [← hfull, List.filter_append] at h
    have := congrArg List.length h
    simp only [List.length_append, List.length_singleton] at this
    omega
  simp only [hnot, if_false]
  -- every tag is one of this response
  unfold firstSome
  rw [List.findSome?_eq_none_iff]
  intro t ht
  have hmem : t ∈ pageFrame ++ formTag (AR.urlNormalize (AR.urlFilter i.uri)) :: restTags id resp (GenWire.formPostTemplate.drop 3) := by
    rw [← hfull]; exact List.mem_append_left _ ht
  rw [List.mem_append, List.mem_cons] at hmem
  rcases hmem with hm | hm | hm
  · have : pageFrame.contains t = true := by simpa using hm
    simp only [this, if_true]
  · subst hm
    simp only [pageFrame_not_formTag, Bool.false_eq_true, if_false, isForm_formTag, c11_form_action_target i.uri hsafe, if_true]
  · obtain ⟨p, hp, rfl⟩ := List.mem_map.mp hm
    have hval : (valuesOf p.1 i.params).contains p.2 = true := by
      rw [hresp, valuesOf_flatten_get p.1 _ hd]; simpa using (mem_restFields hp).2
    simp only [id, pageFrame_not_inputTag, Bool.false_eq_true, if_false, isForm_inputTag, isInput_inputTag, hval, if_true]

/-- what the monitor is shown for the request at one position: the whole page when it arrived completely, a cut-off page otherwise -/
def observedOf (r : FP.Req) (body : Bytes) : Observed :=
  if FP.complete r then .form body ((tokenize body).map decodeTag) else .cutOff body []

/-- **C11 for sequences of form_post responses with write faults, monitor level, EVERY position.**  For every sequence of
    calls of the regenerated `AuthResponseFormPost` (any length, any package-level state to begin with, connections
    that break at any byte with an error or a short write, failing encoders / template executions, any `sync.Pool`
    behaviour) and every position `n`: the monitor, given ONLY the request of position `n`, accepts the body that user
    agent received — as a whole document (exactly one form, this response's parameters and redirect URI, nothing else)
    when it arrived completely, as a cut-off page of this response otherwise.  (Hypotheses on the request as in
    `c11_holds_form_partial`: F-C11b.) -/
theorem c11_formpost_history_all (reqs : List FP.Req) (pkg : List (String × FP.PkgVal)) (n : Nat) (r : FP.Req)
    (hr : reqs[n]? = some r)
    (i : Input) (resp : AR.Values)
    (hpage : r.page = AR.render GenWire.formPostAutoescape GenWire.formPostTemplate i.uri resp)
    (hsafe : AR.isSafeURL i.uri = true)
    (hresp : i.params = flatten resp.entries) (hd : DistinctKeys resp.entries)
    (hv : ∀ name, ∀ v ∈ resp.get name, ∀ c ∈ v, c ≠ 0x0D ∧ c ≠ 0)
    (hlisted : ∀ e ∈ resp.entries, e.1 ∈ nodeNames (GenWire.formPostTemplate.drop 3) ∧ e.2.length ≤ 1)
    (hch : (channels i).contains Channel.form = true) (hsrc : SourceOK i) :
    ∃ body, ((FP.history GenWire.formPostProgram reqs pkg).map (·.body))[n]? = some body
      ∧ monitor i (observedOf r body) = none := by
  refine ⟨FP.delivered r, history_getElem reqs pkg n r hr, ?_⟩
  unfold observedOf
  by_cases hc : FP.complete r = true
  · rw [if_pos hc, delivered_complete r hc, hpage]
    exact c11_holds_form_partial i resp hsafe hresp hd hv hlisted hch hsrc
  · rw [if_neg hc]
    obtain ⟨k, hk⟩ := delivered_prefix r
    rw [hk, hpage]
    exact c11_cutoff_holds i resp k [] rfl hsafe hresp hd hv hch

/-- the case of a position whose page was delivered completely: the monitor accepts the body that user agent received as
    a WHOLE document — exactly one form, this response's parameters and redirect URI, no other element -/
theorem c11_formpost_history_holds (reqs : List FP.Req) (pkg : List (String × FP.PkgVal)) (n : Nat) (r : FP.Req)
    (hr : reqs[n]? = some r) (hc : FP.complete r = true)
    (i : Input) (resp : AR.Values)
    (hpage : r.page = AR.render GenWire.formPostAutoescape GenWire.formPostTemplate i.uri resp)
    (hsafe : AR.isSafeURL i.uri = true)
    (hresp : i.params = flatten resp.entries) (hd : DistinctKeys resp.entries)
    (hv : ∀ name, ∀ v ∈ resp.get name, ∀ c ∈ v, c ≠ 0x0D ∧ c ≠ 0)
    (hlisted : ∀ e ∈ resp.entries, e.1 ∈ nodeNames (GenWire.formPostTemplate.drop 3) ∧ e.2.length ≤ 1)
    (hch : (channels i).contains Channel.form = true) (hsrc : SourceOK i) :
    ∃ body, ((FP.history GenWire.formPostProgram reqs pkg).map (·.body))[n]? = some body
      ∧ monitor i (.form body ((tokenize body).map decodeTag)) = none := by
  obtain ⟨body, hb, hm⟩ := c11_formpost_history_all reqs pkg n r hr i resp hpage hsafe hresp hd hv hlisted hch hsrc
  exact ⟨body, hb, by rwa [observedOf, if_pos hc] at hm⟩

end C11
