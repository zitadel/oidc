/-
  C04: the token endpoint's REQUEST PARSING for the code grant, on both routers, tied to the history model.

  The history model (Model/Flow.lean) starts from a parsed `AccessTokenRequest` and a hand-written handler skeleton
  (`Flow.codeExchange`: "code missing", `ValidateAccessTokenRequest` / `withClient` + `LegacyServer.CodeExchange`).  The C05 slice
  regenerates the handlers themselves over raw HTTP requests (Generated/Endpoint.lean, namespace GenEP: `CodeExchange`,
  `ParseAccessTokenRequest`, `ParseAuthenticatedTokenRequest`, `tokensHandler`, `withClient`, `parseClientCredentials`,
  `codeExchangeHandler`, `decodeRequest`; Model/EndpointReq.lean: `EPRequest` = Basic header, merged form = body pairs then URL
  query pairs, `EPDecoder.Decode` = every field takes the LAST value of its key).  This file proves that the two coincide:

    * `parseAccessTokenRequest_eq`, `parseClientCredentials_eq` - what is read off the wire, as a readable function `parseSpec`
      (characterisation lemmas of the regenerated parsers);
    * `codeExchange_provider_bridge`, `codeExchange_legacy_bridge` - the regenerated handler on a raw request answers exactly what
      `Flow.codeExchange` decides for the parsed request: the hand-written skeleton of the history model is a THEOREM about the
      regenerated handlers, not an assumption;
    * `wire_tokens_provider`, `wire_tokens_legacy` - tokens on the wire mean that `Flow.codeExchange` let the parsed request through;
    * `c04_wire` - tokens on the wire imply everything `FlowObs.codeExchange_ok` states, for the values `parseSpec` reads: the LAST `code` / `redirect_uri` / `code_verifier` of body-then-query (a query parameter overrides
      the body's), credentials from the Basic header when there is one (percent-decoded), else the form's.
-/
import OidcModel.Proofs.C04History
import OidcModel.Model.EndpointFlow
import OidcModel.GoTacEq
set_option linter.unusedSimpArgs false
namespace C04
open Go Gen Hand Flow FlowObs

/-- what the schema decoder makes of the merged form (body pairs first, then the URL query): every field takes the LAST value of
    its key - a parameter repeated in the body is overridden by its last occurrence, one sent in body AND query by the query's -/
def decoded (v : EPValues) : EPForm :=
  match ({} : EPDecoder).Decode { v with bad := false } with
  | .ok f => f
  | .error _ => {}

/-- `ParseAccessTokenRequest` (Provider router), as a readable function: the decoded form; an `Authorization: Basic` header -
    percent-decoded - REPLACES client_id and client_secret of the form -/
def parseSpec (o : EPOracles) (r : EPRequest) : Go.R EPForm :=
  if r.parseErr then .error "ErrInvalidRequest"
  else if r.Form.bad then .error "ErrInvalidRequest"
  else match r.basic with
    | none => .ok (decoded r.Form)
    | some (u, p) =>
      match o.unescape u with
      | .error _ => .error "ErrInvalidClient"
      | .ok id =>
        match o.unescape p with
        | .error _ => .error "ErrInvalidClient"
        | .ok sec => .ok { decoded r.Form with ClientID := id, ClientSecret := sec }

theorem parseSpec_fields {o : EPOracles} {r : EPRequest} {f : EPForm} (h : parseSpec o r = .ok f) :
    f.Code = r.Form.last "code" ∧ f.RedirectURI = r.Form.last "redirect_uri" ∧ f.CodeVerifier = r.Form.last "code_verifier" ∧
    f.ClientAssertion = r.Form.last "client_assertion" ∧ f.ClientAssertionType = r.Form.last "client_assertion_type" ∧
    (r.basic = none → f.ClientID = r.Form.last "client_id" ∧ f.ClientSecret = r.Form.last "client_secret") ∧
    (∀ u p, r.basic = some (u, p) → o.unescape u = .ok f.ClientID ∧ o.unescape p = .ok f.ClientSecret) ∧
    r.parseErr = false ∧ r.Form.bad = false := by
  unfold parseSpec at h
  split at h; · cases h
  split at h; · cases h
  rename_i hpe hbad
  simp only [Bool.not_eq_true] at hpe hbad
  split at h
  · rename_i hb
    cases h
    exact ⟨rfl, rfl, rfl, rfl, rfl, fun _ => ⟨rfl, rfl⟩, fun u p hup => (by rw [hb] at hup; cases hup), hpe, hbad⟩
  · rename_i u p hb
    split at h; · cases h
    rename_i id hid
    split at h; · cases h
    rename_i sec hsec
    cases h
    refine ⟨rfl, rfl, rfl, rfl, rfl, fun hn => ?_, fun u' p' hup => ?_, hpe, hbad⟩
    · rw [hb] at hn; cases hn
    · rw [hb] at hup; cases hup; exact ⟨hid, hsec⟩

theorem parseAccessTokenRequest_eq (now : Int) (o : EPOracles) (r : EPRequest) (d : EPDecoder) :
    GenEP.ParseAccessTokenRequest now o r d = parseSpec o r := by
  unfold GenEP.ParseAccessTokenRequest GenEP.ParseAuthenticatedTokenRequest parseSpec decoded
  simp only [EPRequest.ParseForm, EPDecoder.Decode, EPRequest.BasicAuth, EPForm.SetClientID, EPForm.SetClientSecret, EPValues.last]
  obtain ⟨basic, form, post, pe⟩ := r
  rcases basic with _ | ⟨u, p⟩ <;> cases pe <;> cases hb : form.bad <;>
    simp only [hb, if_true, if_false, Bool.false_eq_true, Bool.not_true, Bool.not_false] <;> (try rfl) <;> go_eq []

/-- what the Provider router's token endpoint writes for the outcome of the code-grant decision: an OAuth error document
    (`RequestError`), or - when token creation succeeds (storage + signing: the oracle of the endpoint model) - the token response -/
def respProvider (now : Int) (r : EPRequest) (x : EPProvider) : Go.R IssueFor → EPResp
  | .error e => GenEP.RequestError now r e
  | .ok (.code _ c _) | .ok (.refresh _ c _) =>
    match Hand.epIssue x Const.GrantTypeCode c.id with
    | .error e => GenEP.RequestError now r e
    | .ok d => .ok d

/-- **The Provider router's code-exchange handler IS the hand-written skeleton of the history model.**  The REGENERATED handler
    `op.CodeExchange` (Generated/Endpoint.lean: parse, `code missing`, `ValidateAccessTokenRequest`, `CreateTokenResponse`), on a
    raw HTTP request, answers exactly what `Flow.codeExchange .provider` decides for the request `parseSpec` reads off the wire. -/
theorem codeExchange_provider_bridge (now : Int) (o : EPOracles) (r : EPRequest) (x : EPProvider) (ha : Bool) :
    GenEP.CodeExchange now o r x =
      match parseSpec o r with
      | .error e => GenEP.RequestError now r e
      | .ok f => respProvider now r x (Flow.codeExchange now .provider (x.asProvider now) (Hand.epAccessTokenRequest o f) ha) := by
  unfold GenEP.CodeExchange
  rw [parseAccessTokenRequest_eq]
  cases hp : parseSpec o r with
  | error e => rfl
  | ok f =>
    simp only [Flow.codeExchange, Hand.epValidateAccessTokenRequest, Hand.epCreateTokenResponse, Hand.issueForCode, respProvider]
    have hc : (Hand.epAccessTokenRequest o f).Code = f.Code := rfl
    rw [hc]
    go_eq []

/-- `webServer.parseClientCredentials` (Server router), as a readable function: the same reading of the wire as the Provider
    router's (`parseSpec`), then: some client identification must be present, and an assertion needs the JWT assertion type -/
def parseCCSpec (o : EPOracles) (r : EPRequest) : Go.R EPForm :=
  match parseSpec o r with
  | .error e => .error e
  | .ok cc =>
    if cc.ClientID = "" ∧ cc.ClientAssertion = "" then .error "ErrInvalidRequest"
    else if cc.ClientAssertion ≠ "" ∧ cc.ClientAssertionType ≠ Const.ClientAssertionTypeJWTAssertion then .error "ErrInvalidRequest"
    else .ok cc

theorem parseClientCredentials_eq (now : Int) (o : EPOracles) (s : EPWebServer) (r : EPRequest) :
    GenEP.parseClientCredentials now o s r = parseCCSpec o r := by
  unfold GenEP.parseClientCredentials parseCCSpec parseSpec decoded
  simp only [EPRequest.ParseForm, EPDecoder.Decode, EPRequest.BasicAuth, EPValues.last]
  obtain ⟨basic, form, post, pe⟩ := r
  rcases basic with _ | ⟨u, p⟩ <;> cases pe <;> cases hb : form.bad <;>
    simp only [hb, if_true, if_false, Bool.false_eq_true, Bool.not_true, Bool.not_false] <;> (try rfl) <;> go_eq []

/-- what the Server router's token endpoint writes for the outcome of the code-grant decision (`WriteError`: 400 / 401 / 500) -/
def respLegacy (now : Int) (r : EPRequest) (x : EPProvider) : Go.R IssueFor → EPResp
  | .error e => GenEP.WriteError now r e
  | .ok (.code _ c _) | .ok (.refresh _ c _) =>
    match Hand.epIssue x Const.GrantTypeCode c.id with
    | .error e => GenEP.WriteError now r e
    | .ok d => .ok d

theorem getGrant_kv (v : EPValues) : ({ kv := v.kv } : FormVals).Get "grant_type" = v.Get "grant_type" := rfl

/-- **The Server router's token endpoint for `grant_type=authorization_code` IS the hand-written skeleton of the history model.**
    The REGENERATED `webServer.tokensHandler` → `withClient` (→ `parseClientCredentials`, `LegacyServer.VerifyClient`, registered-grant
    check) → `codeExchangeHandler` (→ second decode, `code` / `redirect_uri` present, `LegacyServer.CodeExchange`), on a raw HTTP
    request, answers exactly what `Flow.codeExchange .legacy` decides for the request `parseSpec` reads off the wire. -/
theorem codeExchange_legacy_bridge (now : Int) (o : EPOracles) (r : EPRequest) (x : EPProvider)
    (hg : r.Form.Get "grant_type" = Const.GrantTypeCode) :
    GenEP.tokensHandler now o (EP.webServer x) r =
      match parseSpec o r with
      | .error e => GenEP.WriteError now r e
      | .ok f => respLegacy now r x (Flow.codeExchange now .legacy (x.asProvider now) (Hand.epAccessTokenRequest o f) (f.ClientAssertion != "")) := by
  unfold GenEP.tokensHandler
  simp only [hg, Const.GrantTypeCode, beq_self_eq_true, if_true]
  unfold GenEP.withClient GenEP.verifyRequestClient
  rw [parseClientCredentials_eq]
  unfold parseCCSpec
  have hpe : r.parseErr = true → parseSpec o r = .error "ErrInvalidRequest" := by
    intro h; unfold parseSpec; simp [h]
  cases hp : parseSpec o r with
  | error e =>
    cases hpar : r.parseErr with
    | true => rw [hpe hpar] at hp; cases hp; simp [EPRequest.ParseForm, hpar]
    | false => simp [EPRequest.ParseForm, hpar]
  | ok f =>
    obtain ⟨hc, hr, hv, _, _, _, _, hpar, hb⟩ := parseSpec_fields hp
    -- the second decode of the handler reads the same form: code, redirect_uri and code_verifier are those of `f`
    have hdec : GenEP.decodeRequest now (EP.webServer x).decoder r false = .ok (decoded r.Form) := by
      unfold GenEP.decodeRequest decoded
      simp [EPRequest.ParseForm, hpar, EPDecoder.Decode, hb, EPValues.last]
    have hf : f.Code = (decoded r.Form).Code ∧ f.RedirectURI = (decoded r.Form).RedirectURI ∧ f.CodeVerifier = (decoded r.Form).CodeVerifier :=
      ⟨hc, hr, hv⟩
    simp only [EPRequest.ParseForm, hpar, Bool.false_eq_true, if_false]
    simp only [Flow.codeExchange, Flow.withClient, Flow.parseCC, respLegacy, Hand.epVerifyClient, Hand.epClientCredentials, Hand.epAccessTokenRequest,
      legacyVerifyClient_eq', getGrant_kv, hg, FlowObs.formGet_grant, GenEP.codeExchangeHandler, hdec, Hand.epLegacyCodeExchange, Hand.epNewClientRequest,
      C04.legacyCodeExchange_eq, EP.webServer, C04.ccAsReq, C04.validateGrantType_eq, hf.1, hf.2.1, hf.2.2]
    have hne : ¬ (Const.GrantTypeCode = Const.GrantTypeClientCredentials) := by decide
    have hne2 : ¬ (Const.GrantTypeCode = "") := by decide
    simp only [hne, hne2, if_false, false_and, not_false_eq_true, true_and, bne_iff_ne, ne_eq, Bool.not_eq_true', decide_eq_false_iff_not,
      Bool.not_eq_eq_eq_not, Bool.not_true, decide_eq_true_eq]
    by_cases hc1 : f.ClientID = "" ∧ f.ClientAssertion = ""
    · simp [hc1]
    by_cases hc2 : ¬f.ClientAssertion = "" ∧ ¬f.ClientAssertionType = Const.ClientAssertionTypeJWTAssertion
    · simp [hc1, hc2]
    simp only [hc1, hc2, if_false]
    generalize hA : authClientSpec now ({ ClientID := f.ClientID, ClientSecret := f.ClientSecret, ClientAssertionType := f.ClientAssertionType, ClientAssertion := o.tokenOf f.ClientAssertion } : AccessTokenRequest) (x.asProvider now) true = A
    cases A with
    | error e => simp [hne, hc1, hc2]
    | ok client =>
      by_cases hgr : Const.GrantTypeCode ∈ client.grants
      · simp only [hgr, not_true_eq_false, if_false, if_true]
        simp [hc1, hc2, hgr, hne2]
        -- both sides now ask the one `legacyCodeExchangeSpec` of client, code, redirect_uri and verifier
        cases hL : legacyCodeExchangeSpec now (x.asProvider now).store client (decoded r.Form).Code (decoded r.Form).RedirectURI
            (decoded r.Form).CodeVerifier with
        | error e => go_eq []
        | ok i =>
          obtain ⟨a, rfl, _⟩ := legacyCodeExchangeSpec_ok hL
          go_eq []
      · simp [hgr, hc1, hc2, hne2]

/-! ## Tokens on the wire -/

theorem requestError_not_ok (now : Int) (r : EPRequest) (e : String) (d : EPDone) : GenEP.RequestError now r e ≠ .ok d := by
  unfold GenEP.RequestError; simp

theorem writeError_not_ok (now : Int) (r : EPRequest) (e : String) (d : EPDone) : GenEP.WriteError now r e ≠ .ok d := by
  unfold GenEP.WriteError GenEP.writeError; split <;> simp

/-- Provider router: a token response on the wire means the history model's decision let the PARSED request through -/
theorem wire_tokens_provider {now : Int} {o : EPOracles} {r : EPRequest} {x : EPProvider} {d : EPDone} (ha : Bool)
    (h : GenEP.CodeExchange now o r x = .ok d) :
    ∃ f i, parseSpec o r = .ok f ∧ Flow.codeExchange now .provider (x.asProvider now) (Hand.epAccessTokenRequest o f) ha = .ok i := by
  rw [codeExchange_provider_bridge now o r x ha] at h
  cases hp : parseSpec o r with
  | error e => simp only [hp] at h; exact absurd h (requestError_not_ok _ _ _ _)
  | ok f =>
    simp only [hp] at h
    cases hc : Flow.codeExchange now .provider (x.asProvider now) (Hand.epAccessTokenRequest o f) ha with
    | error e => simp only [hc, respProvider] at h; exact absurd h (requestError_not_ok _ _ _ _)
    | ok i => exact ⟨f, i, rfl, hc⟩

/-- Server router: likewise -/
theorem wire_tokens_legacy {now : Int} {o : EPOracles} {r : EPRequest} {x : EPProvider} {d : EPDone}
    (hg : r.Form.Get "grant_type" = Const.GrantTypeCode) (h : GenEP.tokensHandler now o (EP.webServer x) r = .ok d) :
    ∃ f i, parseSpec o r = .ok f ∧
      Flow.codeExchange now .legacy (x.asProvider now) (Hand.epAccessTokenRequest o f) (f.ClientAssertion != "") = .ok i := by
  rw [codeExchange_legacy_bridge now o r x hg] at h
  cases hp : parseSpec o r with
  | error e => simp only [hp] at h; exact absurd h (writeError_not_ok _ _ _ _)
  | ok f =>
    simp only [hp] at h
    cases hc : Flow.codeExchange now .legacy (x.asProvider now) (Hand.epAccessTokenRequest o f) (f.ClientAssertion != "") with
    | error e => simp only [hc, respLegacy] at h; exact absurd h (writeError_not_ok _ _ _ _)
    | ok i => exact ⟨f, i, rfl, hc⟩

/-- **Tokens on the wire, both routers**: whatever is sent - parameters in the body, in the URL query or both, repeated
    parameters, credentials in a Basic header or in the form - a token response means: the LAST `code` resolves to a stored
    request `a`; the caller authenticated as (public client: identified as) `a`'s client with the credentials that count (Basic
    over form); the LAST `redirect_uri` equals `a`'s byte for byte; if `a` carried a challenge the LAST `code_verifier` is
    non-empty and verifies, and a public client cannot redeem a request without challenge. -/
theorem c04_wire (now : Int) (rt : Router) (o : EPOracles) (r : EPRequest) (x : EPProvider) (d : EPDone)
    (hg : r.Form.Get "grant_type" = Const.GrantTypeCode)
    (h : (match rt with | .provider => GenEP.CodeExchange now o r x | .legacy => GenEP.tokensHandler now o (EP.webServer x) r) = .ok d) :
    ∃ f a c, parseSpec o r = .ok f ∧ (x.asProvider now).store.AuthRequestByCode (r.Form.last "code") = .ok a ∧ c.id = a.clientID ∧
      Const.GrantTypeCode ∈ c.grants ∧ r.Form.last "redirect_uri" = a.redirectURI ∧
      (a.challenge ≠ none → r.Form.last "code_verifier" ≠ "" ∧ VerifyCodeChallenge now a.challenge (r.Form.last "code_verifier") = true) ∧
      (c.auth = Const.AuthMethodNone → a.challenge ≠ none) ∧
      AuthAs now (x.asProvider now) f.ClientID f.ClientSecret f.ClientAssertionType (o.tokenOf f.ClientAssertion) c := by
  have key : ∃ f i ha, parseSpec o r = .ok f ∧ Flow.codeExchange now rt (x.asProvider now) (Hand.epAccessTokenRequest o f) ha = .ok i := by
    cases rt with
    | provider => obtain ⟨f, i, h1, h2⟩ := wire_tokens_provider false h; exact ⟨f, i, _, h1, h2⟩
    | legacy => obtain ⟨f, i, h1, h2⟩ := wire_tokens_legacy hg h; exact ⟨f, i, _, h1, h2⟩
  obtain ⟨f, i, ha, hp, hce⟩ := key
  obtain ⟨a, c, _, hl, hcid, hgrant, hred, hpk1, hpk2, hauth⟩ := codeExchange_ok hce
  obtain ⟨f1, f2, f3, _⟩ := parseSpec_fields hp
  simp only [Hand.epAccessTokenRequest] at hl hred hpk1 hauth
  rw [f1] at hl; rw [f2] at hred; rw [f3] at hpk1
  exact ⟨f, a, c, hp, hl, hcid, hgrant, hred, hpk1, hpk2, hauth⟩

/-! Non-vacuity and the parameter-placement cases, on concrete raw requests (both routers). -/
def demoX : EPProvider :=
  { config := { AuthMethodPost := true, GrantTypeRefreshToken := true },
    storage := { base := (Flow.run 0 demoState [demoAuthorize, .login "ar1" "user1" 1000, .callback "ar1" "c1"]).1.store }, issuer := "https://op.example" }
def demoBody : List (String × String) :=
  [("grant_type", "authorization_code"), ("code", "c1"), ("redirect_uri", "https://rp.example/cb"), ("client_id", "web"), ("client_secret", "s3cret")]
def wireAnswer (rt : Router) (r : EPRequest) : String :=
  match (match rt with | .provider => GenEP.CodeExchange 0 {} r demoX | .legacy => GenEP.tokensHandler 0 {} (EP.webServer demoX) r) with
  | .ok (.tokens g c) => "tokens:" ++ g ++ ":" ++ c
  | .ok _ => "ok"
  | .json e _ => "error:" ++ Hand.epErrorType e
  | .text _ _ => "text"

/-- everything in the body: tokens; the same with the credentials in a Basic header; a query `code` overrides the body's; a repeated
    `redirect_uri` counts with its LAST value; a Basic header overrides the form's credentials -/
example : ∀ rt : Router,
    wireAnswer rt { Form := { kv := demoBody }, PostForm := { kv := demoBody } } = "tokens:authorization_code:web" ∧
    wireAnswer rt { basic := some ("web", "s3cret"), Form := { kv := demoBody.take 3 } } = "tokens:authorization_code:web" ∧
    wireAnswer rt { Form := { kv := demoBody ++ [("code", "other")] } } = "error:invalid_grant" ∧
    wireAnswer rt { Form := { kv := [("code", "other")] ++ demoBody } } = "tokens:authorization_code:web" ∧
    wireAnswer rt { Form := { kv := demoBody ++ [("redirect_uri", "https://rp.example/cb/")] } } = "error:invalid_grant" ∧
    wireAnswer rt { Form := { kv := [("redirect_uri", "https://rp.example/cb/")] ++ demoBody } } = "tokens:authorization_code:web" ∧
    wireAnswer rt { basic := some ("web", "wrong"), Form := { kv := demoBody } } = "error:invalid_client" := by
  intro rt; cases rt <;> decide +kernel

end C04
