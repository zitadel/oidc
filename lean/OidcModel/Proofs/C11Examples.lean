/-
  C11: concrete instances of the source-to-wire theorem `c11_error_redirect_holds` (non-vacuity), evaluated by the kernel.
  Imported by Proofs/C11All.lean and by the root `OidcModel`.
-/
import OidcModel.Proofs.C11

namespace C11
open UA

def wReqErr : AR.ErrReq := { redirectURI := wUri, responseType := "code", responseMode := "fragment", state := s "a+%s" }
def wParse : AR.Bytes → Go.R AR.URL := fun b => if b == wUri then .ok wURL else .error "parse"

set_option maxRecDepth 1000000 in
/-- the hypotheses of `c11_error_redirect_holds` are satisfiable, and the monitor really says "ok" — a storage error whose
    text is full of printf verbs, answered in fragment mode to a redirect URI with query and fragment of its own -/
example : GenErr.AuthRequestError 0 wParse wReqErr (.plain (s "7% full %s%!")) {}
    = [.redirect (s "https://rp.example/cb?tenant=acme#error=server_error&error_description=7%25+full+%25s%25%21&state=a%2B%25s")] := by decide +kernel
set_option maxRecDepth 1000000 in
example : monitor (errInput 0 wReqErr (.plain (s "7% full %s%!")))
    (.redirect (s "https://rp.example/cb?tenant=acme#error=server_error&error_description=7%25+full+%25s%25%21&state=a%2B%25s")) = none := by decide +kernel

set_option maxRecDepth 1000000 in
/-- a concrete rejected case: the same answer with the description run through a printf is flagged -/
example : monitor (errInput 0 wReqErr (.plain (s "7% full")))
    (.redirect (s "https://rp.example/cb?tenant=acme#error=server_error&error_description=7%25%21f%28MISSING%29ull&state=a%2B%25s"))
      = some "fragment-param-altered:error_description" := by decide +kernel

end C11
