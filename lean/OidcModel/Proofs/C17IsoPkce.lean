/-
  C17 request isolation, property level: the slice-level theorem of Proofs/C17Iso.lean (every interleaving, regenerated
  aliasing fact) combined with the regenerated `CheckCookie` and option tables, the hand-written `Hand.CodeExchange` /
  `Hand.AuthURL`, and the theorems of Proofs/C17.lean.
-/
import OidcModel.Proofs.C17Iso
import OidcModel.Proofs.C17

namespace C17Iso
open RPAlias

theorem sentOf_append (acc : List Opt) (d t : List Op) :
    sentOf acc (d ++ t) = sentOf acc d ++ sentOf (logicalOf acc d) t := by
  induction d generalizing acc with
  | nil => rfl
  | cons o r ih => cases o <;> simp [sentOf, logicalOf, ih]

/-- what an isolated request read is among what its whole path reads -/
theorem mem_sentOf_path {base : List Opt} {r : Req} {path : List Op} (h : r.done ++ r.todo = path ∧ r.sent = sentOf base r.done)
    {opts : List Opt} (hs : opts ∈ r.sent) : opts ∈ sentOf base path := by
  rw [← h.1, sentOf_append, ← h.2]
  exact List.mem_append_left _ hs

open Gen Hand RPBrowser C17 in
/-- the slice operations of one callback on its way through the regenerated `CodeExchangeHandler` (PKCE): the verifier
    option built from the request's OWN pkce cookie, the client assertion when a signer is configured (`a`), the call of
    `CodeExchange`; a request whose cookie does not verify never reaches them -/
def cbPath (now : Int) (ch : CookieHandler) (r : HttpReq) (a : Option String) : List Op :=
  match CheckCookie now ch r pkceCode with
  | .error _ => []
  | .ok v =>
    match a with
    | none => [.append (WithCodeVerifier now v), .use]
    | some a => [.append (WithCodeVerifier now v), .append (WithClientAssertionJWT now a), .use]

open Gen Hand RPBrowser C17 in
/-- REQUEST ISOLATION (property level).  Any number of callbacks are served by the ONE `CodeExchangeHandler` (slice
    origin: the regenerated fact), interleaved step by step in ANY order, `append` growing arrays in any way: whenever
    a request's `CodeExchange` sends a token request, its `code_verifier` is the content of the pkce cookie in THAT
    request's jar that the RP signed - never another request's. -/
theorem c17_request_isolation (now : Int) (rp : RP) (ch : CookieHandler) (urlParam : List UrlOpt)
    (rs : Nat → HttpReq) (assertion : Nat → Option String) (grow : Nat → Nat) (u : Nat) (sched : List Nat) (i : Nat)
    (opts : List Opt) (code : String) (w : World)
    (hsent : opts ∈ ((run GenAlias.CodeExchangeHandler_optsOrigin urlParam grow u
        (init urlParam fun j => cbPath now ch (rs j) (assertion j)) sched).reqs i).sent)
    (q : TokenReq) (hq : (Hand.CodeExchange now w code rp opts).1 = w ++ [.tokenRequest q]) :
    signedValue (cfgOf rp ch) (rs i).cookies "pkce" = some (getParam q.params "code_verifier") := by
  have hmem := mem_sentOf_path (c17_exchange_isolated urlParam (fun j => cbPath now ch (rs j) (assertion j)) grow u sched i) hsent
  have hspec := (checkCookie_spec now rp ch (rs i) "pkce").symm
  have hq' : q = exchangeReq rp code opts := by
    simp only [Hand.CodeExchange, List.append_cancel_left_eq, List.cons.injEq, Eff.tokenRequest.injEq, and_true] at hq
    exact hq.symm
  unfold cbPath at hmem
  simp only [pkceCode] at hmem
  cases hc : CheckCookie now ch (rs i) "pkce" with
  | error e => simp [hc, sentOf] at hmem
  | ok v =>
    rw [hc] at hspec
    rw [hspec, hq']
    cases ha : assertion i with
    | none =>
      simp only [hc, ha, sentOf, List.mem_singleton] at hmem
      rw [hmem]
      simpa [toOpt] using (exchangeReq_verifier rp code urlParam now v [] (by simp)).symm
    | some a =>
      simp only [hc, ha, sentOf, List.mem_singleton] at hmem
      rw [hmem]
      exact congrArg some (exchangeReq_verifier rp code urlParam now v [WithClientAssertionJWT now a] (by simp [WithClientAssertionJWT])).symm

open Gen Hand RPBrowser C17 in
/-- the same for login requests through the ONE `AuthURLHandler`: under every interleaving the `code_challenge` of a
    request's authorization URL is the S256 of the verifier (`rawURLEncode (rnd i)`) that request stored in its own
    pkce cookie (seeded C20-H / C17-B break the fact this rests on) -/
theorem c17_authurl_challenge_isolation (now : Int) (rp : RP) (urlParam : List UrlOpt)
    (state : Nat → String) (rnd : Nat → String) (grow : Nat → Nat) (u : Nat) (sched : List Nat) (i : Nat) (opts : List Opt)
    (hsent : opts ∈ ((run GenAlias.AuthURLHandler_optsOrigin urlParam grow u
        (init urlParam fun j => [.append (WithCodeChallenge now (NewSHACodeChallenge now (rawURLEncode (rnd j)))), .use]) sched).reqs i).sent) :
    getParam (AuthURL now (state i) rp opts).params "code_challenge" = s256 (rawURLEncode (rnd i)) := by
  have hmem := mem_sentOf_path (c17_authurl_isolated urlParam
    (fun j => [.append (WithCodeChallenge now (NewSHACodeChallenge now (rawURLEncode (rnd j)))), .use]) grow u sched i) hsent
  simp only [sentOf, List.mem_singleton] at hmem
  rw [hmem]
  exact (authURL_challenge now (state i) (NewSHACodeChallenge now (rawURLEncode (rnd i))) rp urlParam).1

end C17Iso
