/-
  C16: ONE characterisation lemma per regenerated function of Generated/Device.lean (and of the two functions of
  Generated/TokenEndpoint.lean the device handlers reach through `withClient`): an EQUATION between the regenerated definition and a
  hand-written, readable spec function, proved with the shape-independent `go_spec` / `go_leaf` (GoTac.lean) and `go_eq`
  (GoTacEq.lean).  The other C16 modules rewrite with these equations and reason about the spec functions, whose shape does not
  depend on how the Go text is written (local variable for a getter, inverted `if`, early return instead of `else`, merged / split
  guards, extracted helpers).
-/
import OidcModel.Spec.C16
import OidcModel.Model.DeviceFlow
import OidcModel.GoTacEq

set_option linter.unusedSimpArgs false

namespace C16
open Go Gen Hand

-- ---------------------------------------------------------------- pkg/op/storage.go assertDeviceStorage

def assertDeviceStorageSpec (s : DevStore) : Go.R DevStore :=
  if s.is_DeviceAuthorizationStorage = true then .ok s else .error "ErrUnsupportedGrantType"

theorem assertDeviceStorage_eq {now : Int} {s : DevStore} : assertDeviceStorage now s = assertDeviceStorageSpec s := by
  unfold assertDeviceStorageSpec
  split <;> simp_all [assertDeviceStorage]

-- ---------------------------------------------------------------- pkg/op/device.go CheckDeviceAuthorizationState

/-- the ordering the property anchors: no device storage ↦ unsupported_grant_type; time-out ↦ slow_down, any other storage
    error ↦ access_denied; then denied ≻ approved ≻ expired ≻ pending -/
def checkStateSpec (now : Int) (clientID code : String) (p : DevProvider) : Go.R DeviceAuthorizationState :=
  if p.deviceCap = false then .error "ErrUnsupportedGrantType" else
  match p.Storage.GetDeviceAuthorizatonState clientID code with
  | .error e => if e = Const.DeadlineExceeded then .error "ErrSlowDown" else .error "ErrAccessDenied"
  | .ok st =>
    if st.Denied = true then .error "ErrAccessDenied"
    else if st.Done = true then .ok st
    else if now > st.Expires then .error "ErrExpiredDeviceCode"
    else .error "ErrAuthorizationPending"

theorem storage_cap (p : DevProvider) : p.Storage.is_DeviceAuthorizationStorage = p.deviceCap := rfl

theorem checkState_eq {now : Int} {clientID code : String} {p : DevProvider} :
    CheckDeviceAuthorizationState now clientID code p = checkStateSpec now clientID code p := by
  unfold checkStateSpec
  go_spec [CheckDeviceAuthorizationState, assertDeviceStorage_eq, assertDeviceStorageSpec, storage_cap, Go.errorsIs, Go.tAfter]

-- ---------------------------------------------------------------- pkg/op/device.go ParseDeviceAccessTokenRequest

theorem parseDeviceAccessTokenRequest_eq {now : Int} {r : DevHttpRequest} {p : DevProvider} :
    ParseDeviceAccessTokenRequest now r p = .ok r.PostForm := by
  unfold ParseDeviceAccessTokenRequest
  simp only [DevDecoder.Decode, DevHttpRequest.WithContext]
  go_eq []

-- ---------------------------------------------------------------- pkg/op/token_request.go ValidateGrantType

theorem validateGrantType_iff {now : Int} {c : OPClient} {g : String} : ValidateGrantType now c g = true ↔ g ∈ c.grants := by
  unfold ValidateGrantType
  simp only [Go.any, OPClient.GrantTypes, Go.isNil]
  go_leaf [Nilable.isNil]

theorem validateGrantType_eq {now : Int} {c : OPClient} {g : String} : ValidateGrantType now c g = decide (g ∈ c.grants) := by
  have h := validateGrantType_iff (now := now) (c := c) (g := g)
  cases hv : ValidateGrantType now c g <;> simp_all

-- ---------------------------------------------------------------- pkg/op/device.go deviceAccessToken (Provider router)

/-- who is asking (ClientIDFromRequest) → the state of that client's device code → the registered client → a client that has
    credentials must have authenticated → tokens for the state -/
def deviceAccessTokenSpec (now : Int) (r : DevHttpRequest) (p : DevProvider) : Go.R DevIssue :=
  match Hand.ClientIDFromRequest now r p with
  | .error e => .error e
  | .ok (clientID, authenticated) =>
    match CheckDeviceAuthorizationState now clientID r.PostForm.DeviceCode p with
    | .error e => .error e
    | .ok st =>
      match p.p.store.GetClientByClientID clientID with
      | .error e => .error e
      | .ok client =>
        if authenticated = false ∧ client.auth ≠ Const.AuthMethodNone then .error "ErrInvalidClient"
        else Hand.issueForDevice now st p client

theorem storage_getClient (p : DevProvider) (id : String) : p.Storage.GetClientByClientID id = p.p.store.GetClientByClientID id := rfl

theorem issueForDevice_ok (now : Int) (st : DeviceAuthorizationState) (p : DevProvider) (c : OPClient) :
    ∃ i, Hand.issueForDevice now st p c = .ok i := ⟨_, rfl⟩

theorem deviceAccessToken_eq {now : Int} {r : DevHttpRequest} {p : DevProvider} :
    deviceAccessToken now r p = deviceAccessTokenSpec now r p := by
  unfold deviceAccessTokenSpec
  go_spec [deviceAccessToken, parseDeviceAccessTokenRequest_eq, storage_getClient, OPClient.AuthMethod,
    DevHttpRequest.WithContext, Hand.issueForDevice]

-- ---------------------------------------------------------------- pkg/op/server_legacy.go LegacyServer.DeviceToken

/-- the Server router's handler: the client was verified by `withClient`; the state check decides -/
def legacyDeviceTokenSpec (now : Int) (s : DevLegacyServer) (r : ClientRequest DevFormData) : Go.R DevIssue :=
  if s.provider.deviceCap = false then .error (Hand.unimplementedGrantError Const.GrantTypeDeviceCode) else
  match CheckDeviceAuthorizationState now r.Client.id r.Data.DeviceCode s.provider with
  | .error e => .error e
  | .ok st => Hand.issueForDevice now st s.provider r.Client

theorem legacyDeviceToken_eq {now : Int} {s : DevLegacyServer} {r : ClientRequest DevFormData} :
    LegacyDeviceToken now s r = legacyDeviceTokenSpec now s r := by
  unfold legacyDeviceTokenSpec
  go_spec [LegacyDeviceToken, DevProvider.GrantTypeDeviceCodeSupported, OPClient.GetID, Hand.NewResponse, Hand.issueForDevice]

-- ---------------------------------------------------------------- pkg/op/device.go ParseDeviceCodeRequest

/-- the device authorization request of the Provider router: the client id is the one ClientIDFromRequest established (whatever the
    form says), the client must be registered and registered for the device grant -/
def parseDeviceCodeRequestSpec (now : Int) (r : DevHttpRequest) (o : DevProvider) : Go.R DevFormData :=
  match Hand.ClientIDFromRequest now r o with
  | .error e => .error e
  | .ok (clientID, _) =>
    match o.p.store.GetClientByClientID clientID with
    | .error e => .error e
    | .ok client =>
      if Const.GrantTypeDeviceCode ∈ client.grants then .ok { r.Form with ClientID := clientID }
      else .error "ErrUnauthorizedClient"

theorem parseDeviceCodeRequest_eq {now : Int} {r : DevHttpRequest} {o : DevProvider} :
    ParseDeviceCodeRequest now r o = parseDeviceCodeRequestSpec now r o := by
  unfold parseDeviceCodeRequestSpec
  go_spec [ParseDeviceCodeRequest, storage_getClient, validateGrantType_eq, DevProvider.Decoder, DevDecoder.Decode,
    DevHttpRequest.WithContext]

-- ---------------------------------------------------------------- pkg/op/device.go DeviceAuthorization

def deviceAuthorizationSpec (now : Int) (r : DevHttpRequest) (o : DevProvider) : Go.R DeviceAuthorizationResponse :=
  match parseDeviceCodeRequestSpec now r o with
  | .error e => .error e
  | .ok req => Hand.createDeviceAuthorization now req req.ClientID o

theorem deviceAuthorization_eq {now : Int} {r : DevHttpRequest} {o : DevProvider} :
    Gen.DeviceAuthorization now r o = deviceAuthorizationSpec now r o := by
  unfold Gen.DeviceAuthorization deviceAuthorizationSpec
  simp only [parseDeviceCodeRequest_eq, DevHttpRequest.WithContext]
  go_eq []

-- ---------------------------------------------------------------- pkg/op/server_legacy.go LegacyServer.DeviceAuthorization

/-- the Server router's handler: the flow is started for the client `withClient` authenticated (never for what the form names) -/
def legacyDeviceAuthorizationSpec (now : Int) (s : DevLegacyServer) (r : ClientRequest DevFormData) : Go.R DeviceAuthorizationResponse :=
  if Const.GrantTypeDeviceCode ∈ r.Client.grants then Hand.createDeviceAuthorization now r.Data r.Client.id s.provider
  else .error "ErrUnauthorizedClient"

theorem legacyDeviceAuthorization_eq {now : Int} {s : DevLegacyServer} {r : ClientRequest DevFormData} :
    LegacyDeviceAuthorization now s r = legacyDeviceAuthorizationSpec now s r := by
  unfold LegacyDeviceAuthorization legacyDeviceAuthorizationSpec
  simp only [validateGrantType_eq, OPClient.GetID, Hand.asStatusError, Hand.NewResponse]
  go_eq []

-- ---------------------------------------------------------------- pkg/op/server_legacy.go LegacyServer.VerifyClient, behind `withClient`

/-- the registered-grant check at the end of `withClient` -/
def grantOK (g : String) (c : OPClient) : Go.R OPClient :=
  if g ≠ "" ∧ g ∉ c.grants then .error "ErrUnauthorizedClient" else .ok c

/-- `withClient` (Server router) for a request without client assertion and a grant other than client_credentials: the registered
    client of the presented id; one with credentials must present its secret; the named grant must be registered -/
theorem withClient_eq {now : Int} {p : Provider} {g : String} {cc : ClientCredentials}
    (hg : g ≠ Const.GrantTypeClientCredentials) (hat : cc.ClientAssertionType = "") :
    Flow.withClient now p g cc false =
      if cc.ClientID = "" then .error "ErrInvalidRequest" else
      match p.store.GetClientByClientID cc.ClientID with
      | .error _ => .error "ErrInvalidClient"
      | .ok c =>
        if c.auth = Const.AuthMethodNone then grantOK g c
        else if c.auth = Const.AuthMethodPrivateKeyJWT then .error "ErrInvalidClient"
        else if c.auth = Const.AuthMethodPost ∧ p.postSupported = false then .error "ErrInvalidClient"
        else match p.store.AuthorizeClientIDSecret cc.ClientID cc.ClientSecret with
          | .error _ => .error "ErrInvalidClient"
          | .ok _ => grantOK g c := by
  have hne : ¬ (Const.ClientAssertionTypeJWTAssertion = "") := by decide
  go_spec [Flow.withClient, Flow.parseCC, LegacyVerifyClient, Gen.AuthorizeClientIDSecret, FormVals.Get, Provider.Storage,
    OPClient.AuthMethod, Provider.AuthMethodPostSupported, validateGrantType_eq, grantOK, Go.ok]

end C16
