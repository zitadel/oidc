/-
  C12 - the module the C12 check builds (it imports C12).  Theorems about the REGENERATED JSON wrapper methods of the claims / response types
  (Generated/CodecWrap.lean, namespace `GenCodecW`, rewritten by factgen from pkg/oidc/token.go, userinfo.go, introspection.go,
  token_request.go and types.go on every run).  Per type: a registered claim that is set wins, custom claims survive, nothing is
  invented (`marshalOK` on the produced document, for EVERY registered encoding and EVERY custom map, colliding names included);
  the round trip through the type's own UnmarshalJSON is lossless; decode -> modify registered fields -> encode emits the
  modified fields; for JWTTokenRequest (whose MarshalJSON changes the receiver) the same along every history of
  decode / assign / encode steps; IntrospectionResponse's `username` fallback acts only when `username` is empty.
-/
import OidcModel.Proofs.C12
import OidcModel.Generated.CodecWrap
import OidcModel.GoTac

namespace C12
open Codec Cdc

/-- the monitor only looks at lookups: two registered objects with the same lookups are judged alike -/
theorem marshalOK_of_lookup_eq (r r' c m : Codec.Obj) (h : ∀ k, lookup r k = lookup r' k)
    (h1 : ∀ k, (keys r').contains k = true → lookup m k = lookup r' k)
    (h2 : ∀ k, (keys r').contains k = false → lookup m k = lookup c k) : marshalOK r c m = none := by
  apply marshalOK_of_lookup
  · intro k hk
    rw [keys_contains_iff_lookup, h k, ← keys_contains_iff_lookup] at hk
    rw [h k]; exact h1 k hk
  · intro k hk
    rw [keys_contains_iff_lookup, h k, ← keys_contains_iff_lookup] at hk
    exact h2 k hk

theorem keys_mapSet_nodup (m : Codec.Obj) (h : (keys m).Nodup) (k v : String) : (keys (GoX.mapSet m k v)).Nodup := by
  unfold GoX.mapSet
  split
  · have : keys (m.map fun kv => if (kv.1 == k) = true then (k, v) else kv) = keys m := by
      unfold keys
      rw [List.map_map]
      apply List.map_congr_left
      intro x _
      by_cases hx : x.1 = k <;> simp [hx]
    rw [this]
    exact h
  · rename_i hany
    refine keys_append_single_nodup v h fun hmem => hany ?_
    obtain ⟨x, hx, rfl⟩ := List.mem_map.1 hmem
    exact List.any_eq_true.2 ⟨x, hx, by simp⟩

theorem keys_storeOver_nodup (d m : Codec.Obj) (h : (keys m).Nodup) : (keys (Cdw.storeOver d m)).Nodup := by
  unfold Cdw.storeOver GoX.foldKV
  induction d generalizing m with
  | nil => exact h
  | cons x xs ih => rw [List.foldl_cons]; exact ih _ (keys_mapSet_nodup m h x.1 x.2)

theorem lookup_storeOver (d m : Codec.Obj) (hd : (keys d).Nodup) (k : String) :
    lookup (Cdw.storeOver d m) k = (lookup d k).or (lookup m k) := lookup_foldKV_set d hd m k

theorem lookup_storeOver_nil (d : Codec.Obj) (hd : (keys d).Nodup) (k : String) : lookup (Cdw.storeOver d []) k = lookup d k := by
  rw [lookup_storeOver d [] hd]; simp [lookup]

theorem lookup_restrict (names : List String) (d : Codec.Obj) (k : String) :
    lookup (Cdw.restrict names d) k = if names.contains k = true then lookup d k else none :=
  lookup_filter d names.contains k

theorem mergedMap_nodup (r c : Codec.Obj) : (keys (mergedMap r c)).Nodup := by
  unfold mergedMap
  exact keys_storeOver_nodup r _ (keys_storeOver_nodup c [] (by simp [keys]))

/-! ### the six plain merge wrappers -/

/-- `MarshalJSON` is `mergeAndMarshalClaims(alias, Claims)` -/
def IsMergeWrapper (f : Int → Oracles → Cdw.ClaimsVal → Go.R (List Codec.Obj)) : Prop :=
  ∀ now o v, f now o v = (GenCodec.mergeAndMarshalClaims now o v.alias v.Claims).2
/-- `UnmarshalJSON` is `unmarshalJSONMulti(data, alias, &Claims)` -/
def IsMultiWrapper (f : Int → Oracles → Cdw.ClaimsVal → String → Go.R Unit) : Prop :=
  ∀ now o v data, f now o v data = GenCodec.unmarshalJSONMulti now o data [0, 1]

def marshalWrappers : List (Int → Oracles → Cdw.ClaimsVal → Go.R (List Codec.Obj)) :=
  [GenCodecW.AccessTokenClaimsMarshalJSON, GenCodecW.IDTokenClaimsMarshalJSON, GenCodecW.ActorClaimsMarshalJSON,
   GenCodecW.JWTProfileAssertionClaimsMarshalJSON, GenCodecW.LogoutTokenClaimsMarshalJSON, GenCodecW.UserInfoMarshalJSON]
def unmarshalWrappers : List (Int → Oracles → Cdw.ClaimsVal → String → Go.R Unit) :=
  [GenCodecW.AccessTokenClaimsUnmarshalJSON, GenCodecW.IDTokenClaimsUnmarshalJSON, GenCodecW.ActorClaimsUnmarshalJSON,
   GenCodecW.JWTProfileAssertionClaimsUnmarshalJSON, GenCodecW.LogoutTokenClaimsUnmarshalJSON, GenCodecW.UserInfoUnmarshalJSON]

/-- every regenerated MarshalJSON of the six types hands its alias and its OWN custom map to the merge, in this order
    (characterisation lemma: whichever wrapper of the table it is, its body is unfolded and split by the shape-independent `go_char`) -/
theorem c12w_marshal_wrappers : ∀ f ∈ marshalWrappers, IsMergeWrapper f := by
  intro f hf now o v
  simp only [marshalWrappers, List.mem_cons, List.not_mem_nil, or_false] at hf
  rcases hf with rfl | rfl | rfl | rfl | rfl | rfl <;>
    go_char GenCodecW.AccessTokenClaimsMarshalJSON GenCodecW.IDTokenClaimsMarshalJSON GenCodecW.ActorClaimsMarshalJSON
      GenCodecW.JWTProfileAssertionClaimsMarshalJSON GenCodecW.LogoutTokenClaimsMarshalJSON GenCodecW.UserInfoMarshalJSON Cdw.mmc

/-- every regenerated UnmarshalJSON of the six types decodes the SAME data into the alias and into the custom map -/
theorem c12w_unmarshal_wrappers : ∀ f ∈ unmarshalWrappers, IsMultiWrapper f := by
  intro f hf now o v data
  simp only [unmarshalWrappers, List.mem_cons, List.not_mem_nil, or_false] at hf
  rcases hf with rfl | rfl | rfl | rfl | rfl | rfl <;>
    go_char GenCodecW.AccessTokenClaimsUnmarshalJSON GenCodecW.IDTokenClaimsUnmarshalJSON GenCodecW.ActorClaimsUnmarshalJSON
      GenCodecW.JWTProfileAssertionClaimsUnmarshalJSON GenCodecW.LogoutTokenClaimsUnmarshalJSON GenCodecW.UserInfoUnmarshalJSON
      Cdw.multi2 Cdw.aliasDst Cdw.claimsDst Go.ok

/-- REGISTERED WINS / CUSTOM SURVIVES / NOTHING INVENTED, per type: for every value of the type (any registered encoding `r`,
    any custom map - colliding names, stale copies of registered members included), the document the regenerated MarshalJSON
    produces satisfies the marshal monitor -/
theorem c12w_marshal_monitor (f : Int → Oracles → Cdw.ClaimsVal → Go.R (List Codec.Obj)) (hf : f ∈ marshalWrappers)
    (now : Int) (o : Oracles) (v : Cdw.ClaimsVal) (r : Codec.Obj) (hreg : v.alias.enc = .ok r)
    (hr : (keys r).Nodup) (hc : (keys v.Claims).Nodup) (henc : o.mapEncodable (mergedMap r v.Claims) = true) :
    ∃ m, f now o v = .ok [m] ∧ marshalOK r v.Claims m = none ∧ (keys m).Nodup ∧
      (∀ k, (keys r).contains k = true → lookup m k = lookup r k) ∧
      (∀ k, (keys r).contains k = false → lookup m k = lookup v.Claims k) := by
  obtain ⟨m, hm, h1, h2⟩ := c12_registered_wins_gen now o v.alias r v.Claims hreg hr hc henc
  refine ⟨m, (c12w_marshal_wrappers f hf now o v).trans hm, marshalOK_of_lookup r v.Claims m h1 h2, ?_, h1, h2⟩
  rw [c12_merge_ok now o v.alias r v.Claims hreg henc] at hm
  obtain rfl : (if v.Claims.isEmpty = true then r else mergedMap r v.Claims) = m := by simpa using hm
  split
  · exact hr
  · exact mergedMap_nodup r v.Claims

/-- encoding/json's contract for the status oracle of `unmarshalJSONMulti`'s destinations: a destination fails exactly when
    storing into it fails -/
def storeCoherent (o : Oracles) (data : String) : Prop :=
  ∀ (v : Cdw.ClaimsVal) (d : Dst), (o.unmarshalInto data d).isOk = (v.store o data d).isOk

/-- the regenerated UnmarshalJSON succeeds exactly when storing into the alias and then into the custom map succeeds -/
theorem c12w_unmarshal_sem (f : Int → Oracles → Cdw.ClaimsVal → String → Go.R Unit) (hf : f ∈ unmarshalWrappers)
    (now : Int) (o : Oracles) (v : Cdw.ClaimsVal) (data : String) (hco : storeCoherent o data) :
    (f now o v data).isOk = (Cdw.ClaimsVal.storeAll o data v [0, 1]).2.isOk := by
  rw [c12w_unmarshal_wrappers f hf now o v data, c12_multi_exact]
  simp only [List.all_cons, List.all_nil, Bool.and_true]
  rw [hco v 0]
  cases h0 : v.store o data 0 with
  | error e => simp [Cdw.ClaimsVal.storeAll, h0, Except.isOk, Except.toBool]
  | ok v' =>
    rw [hco v' 1]
    cases h1 : v'.store o data 1 with
    | error e => simp [Cdw.ClaimsVal.storeAll, h0, h1, Except.isOk, Except.toBool]
    | ok v'' => simp [Cdw.ClaimsVal.storeAll, h0, h1, Except.isOk, Except.toBool]

theorem roundTripOK_of_lookup (r c reg2 c2 : Codec.Obj)
    (h1 : ∀ k, (keys r).contains k = true → lookup reg2 k = lookup r k)
    (h2 : ∀ k ∈ keys reg2, (keys r).contains k = false → (keys c).contains k = true)
    (h3 : ∀ k, (keys r).contains k = false → lookup c2 k = lookup c k) : roundTripOK r c reg2 c2 = none := by
  unfold roundTripOK
  have c1 : (keys r).all (fun k => lookup reg2 k == lookup r k) = true := by
    simp only [List.all_eq_true, beq_iff_eq]
    intro k hk
    exact h1 k (by simpa using hk)
  have c2' := all_key_or r (keys reg2) (keys c).contains h2
  have c3 := all_key_or r (keys c) (fun k => lookup c2 k == lookup c k) fun k _ hr => by simpa using h3 k hr
  simp only [c1, c2', c3, Bool.not_true, Bool.false_eq_true, if_false]

/-- ROUND TRIP, per type: the document the regenerated MarshalJSON produces for a value (registered encoding `r` with names among
    the type's registered `names`, any custom map), stored into a fresh value the way the regenerated UnmarshalJSON stores it
    (alias, then custom map), gives back every registered member with its value and every custom claim that does not collide.
    `hdec` is encoding/json's part: the typed alias picks the members with its names out of the document. -/
theorem c12w_roundtrip (f : Int → Oracles → Cdw.ClaimsVal → Go.R (List Codec.Obj)) (hf : f ∈ marshalWrappers)
    (now : Int) (o : Oracles) (v : Cdw.ClaimsVal) (r : Codec.Obj) (names : List String) (hreg : v.alias.enc = .ok r)
    (hr : (keys r).Nodup) (hc : (keys v.Claims).Nodup) (henc : o.mapEncodable (mergedMap r v.Claims) = true)
    (hsub : ∀ k, (keys r).contains k = true → names.contains k = true)
    (data : String) (z : Cdw.ClaimsVal) (hz : z.Claims = []) (m : Codec.Obj) (hm : f now o v = .ok [m]) (hparse : o.parseObj data = .ok m)
    (a : Reg) (hdec : o.decodeAlias m z.alias = .ok a) (ha : a.enc = .ok (Cdw.restrict names m)) :
    ∃ v2, Cdw.ClaimsVal.storeAll o data z [0, 1] = (v2, .ok ()) ∧ v2.alias.enc = .ok (Cdw.restrict names m) ∧
      roundTripOK r v.Claims (Cdw.restrict names m) v2.Claims = none := by
  obtain ⟨m', hm', _, hnd, h1, h2⟩ := c12w_marshal_monitor f hf now o v r hreg hr hc henc
  have hmm : m = m' := by rw [hm] at hm'; injection hm' with h; simpa using h
  subst hmm
  refine ⟨{ alias := a, Claims := Cdw.storeOver m [] }, ?_, ha, ?_⟩
  · simp [Cdw.ClaimsVal.storeAll, Cdw.ClaimsVal.store, hparse, hdec, hz]
  · apply roundTripOK_of_lookup
    · intro k hk
      rw [lookup_restrict, hsub k hk]; simp only [if_true]; exact h1 k hk
    · intro k hk hr'
      have hk : (keys (Cdw.restrict names m)).contains k = true := by simpa using hk
      rw [keys_contains_iff_lookup, lookup_restrict] at hk
      split at hk
      · rw [h2 k hr', ← keys_contains_iff_lookup] at hk
        exact hk
      · cases hk
    · intro k hk
      show lookup (Cdw.storeOver m []) k = lookup v.Claims k
      rw [lookup_storeOver_nil m hnd, h2 k hk]

/-- DECODE -> MODIFY -> ENCODE, per type: a value whose custom map was filled by decoding ANY document `d` (so it holds a copy of
    every member, registered names included) and whose registered fields were assigned afterwards (any registered encoding `r'`)
    is encoded with the ASSIGNED fields; the stale copies never come back; members without a registered field are the document's -/
theorem c12w_decode_modify_encode (f : Int → Oracles → Cdw.ClaimsVal → Go.R (List Codec.Obj)) (hf : f ∈ marshalWrappers)
    (now : Int) (o : Oracles) (d : Codec.Obj) (hd : (keys d).Nodup) (a' : Reg) (r' : Codec.Obj) (ha : a'.enc = .ok r') (hr : (keys r').Nodup)
    (henc : o.mapEncodable (mergedMap r' (Cdw.storeOver d [])) = true) :
    ∃ m, f now o { alias := a', Claims := Cdw.storeOver d [] } = .ok [m] ∧ marshalOK r' d m = none ∧
      (∀ k, (keys r').contains k = true → lookup m k = lookup r' k) ∧
      (∀ k, (keys r').contains k = false → lookup m k = lookup d k) := by
  obtain ⟨m, hm, _, _, h1, h2⟩ := c12w_marshal_monitor f hf now o { alias := a', Claims := Cdw.storeOver d [] } r' ha hr
    (keys_storeOver_nodup d [] (by simp [keys])) henc
  have h2' : ∀ k, (keys r').contains k = false → lookup m k = lookup d k := by
    intro k hk; rw [h2 k hk]; exact lookup_storeOver_nil d hd k
  exact ⟨m, hm, marshalOK_of_lookup r' d m h1 h2', h1, h2'⟩

/-! ### JWTTokenRequest: the merge goes through the unexported `private` map and stays in the receiver -/

set_option linter.unusedSimpArgs false in
/-- CHARACTERISATION of the regenerated `JWTTokenRequest.MarshalJSON` (the only place where the regenerated text is looked at: the
    branches are those of the right-hand side, `simp_all` evaluates the regenerated body in each) -/
theorem c12w_jwtreq_marshal_exact (now : Int) (o : Oracles) (j : Cdw.JwtReq) :
    GenCodecW.JWTTokenRequestMarshalJSON now o j =
      match j.alias.enc with
      | .error e => (j, .error e)
      | .ok r =>
        if j.priv.isEmpty = true then (j, .ok r) else
        ({ j with priv := Cdw.storeOver r j.priv },
          if o.mapEncodable (Cdw.storeOver r j.priv) = true then .ok (Cdw.storeOver r j.priv) else .error "json.UnsupportedValueError") := by
  go_spec [GenCodecW.JWTTokenRequestMarshalJSON, Cdw.jsonMarshal, Cdw.jsonUnmarshal, len_beq_zero, len_bne_zero,
    Cdw.JMarshal.marshal, Cdw.JDoc.members, Cdw.JDest.store]

theorem c12w_jwtreq_unmarshal_exact (now : Int) (o : Oracles) (j : Cdw.JwtReq) (data : String) :
    GenCodecW.JWTTokenRequestUnmarshalJSON now o j data =
      match o.parseObj data with
      | .error e => .error e
      | .ok d =>
        match o.decodeAlias d j.alias with
        | .error e => .error e
        | .ok a => .ok { alias := a, priv := Cdw.storeOver d j.priv } := by
  go_spec [GenCodecW.JWTTokenRequestUnmarshalJSON, Cdw.jsonUnmarshal, Cdw.JDoc.members, Cdw.JDest.store]

theorem customKeptOK_of_lookup {r before after : Codec.Obj}
    (h : ∀ k, (keys r).contains k = false → lookup after k = lookup before k) : customKeptOK r before after = none := by
  unfold customKeptOK
  rw [all_key_or r (keys before) (fun k => lookup after k == lookup before k) fun k _ hk => by simpa using h k hk]
  rfl

/-- REGISTERED WINS for JWTTokenRequest: whatever the private map holds (it holds a copy of EVERY member of the last decoded
    document, iss / sub / aud / iat / exp included), the produced document carries the registered fields as they are NOW;
    the other private claims survive; the receiver keeps its registered fields and loses no custom claim -/
theorem c12w_jwtreq_monitor (now : Int) (o : Oracles) (j : Cdw.JwtReq) (r : Codec.Obj) (hreg : j.alias.enc = .ok r)
    (hr : (keys r).Nodup) (hp : (keys j.priv).Nodup) (henc : o.mapEncodable (Cdw.storeOver r j.priv) = true) :
    ∃ m, (GenCodecW.JWTTokenRequestMarshalJSON now o j).2 = .ok m ∧ marshalOK r j.priv m = none ∧
      (∀ k, (keys r).contains k = true → lookup m k = lookup r k) ∧
      (∀ k, (keys r).contains k = false → lookup m k = lookup j.priv k) ∧
      (GenCodecW.JWTTokenRequestMarshalJSON now o j).1.alias = j.alias ∧
      (keys (GenCodecW.JWTTokenRequestMarshalJSON now o j).1.priv).Nodup ∧
      customKeptOK r j.priv (GenCodecW.JWTTokenRequestMarshalJSON now o j).1.priv = none := by
  have hex := c12w_jwtreq_marshal_exact now o j
  rw [hreg] at hex
  -- in both branches every key of the document sees the registered value if there is one, else the private one
  by_cases he : j.priv.isEmpty = true
  · simp only [he, if_true] at hex
    rw [hex]
    obtain ⟨h1, h2⟩ := wins_of_lookup_or (r := r) (c := j.priv) (m := r) fun k => by
      rw [List.isEmpty_iff.1 he]
      exact Option.or_none.symm
    exact ⟨r, rfl, marshalOK_of_lookup r j.priv r h1 h2, h1, h2, rfl, hp, customKeptOK_of_lookup fun _ _ => rfl⟩
  · simp only [he, Bool.false_eq_true, if_false, henc, if_true] at hex
    rw [hex]
    obtain ⟨h1, h2⟩ := wins_of_lookup_or (lookup_storeOver r j.priv hr)
    exact ⟨_, rfl, marshalOK_of_lookup r j.priv _ h1 h2, h1, h2, rfl, keys_storeOver_nodup r j.priv hp, customKeptOK_of_lookup h2⟩

/-- one step in the life of a JWTTokenRequest: decode a document into it, assign its registered fields, encode it -/
inductive JOp
  | decode (data : String)
  | assign (a : Reg)
  | encode

/-- the value after the step and, for `encode`, the value BEFORE it with what MarshalJSON returned (a failed decode leaves the
    value as it was) -/
def jstep (now : Int) (o : Oracles) (j : Cdw.JwtReq) : JOp → Cdw.JwtReq × Option (Cdw.JwtReq × Go.R Codec.Obj)
  | .decode data => (match GenCodecW.JWTTokenRequestUnmarshalJSON now o j data with | .ok j' => j' | .error _ => j, none)
  | .assign a => ({ j with alias := a }, none)
  | .encode => ((GenCodecW.JWTTokenRequestMarshalJSON now o j).1, some (j, (GenCodecW.JWTTokenRequestMarshalJSON now o j).2))

def jrun (now : Int) (o : Oracles) : Cdw.JwtReq → List JOp → List (Cdw.JwtReq × Go.R Codec.Obj)
  | _, [] => []
  | j, op :: ops =>
    match (jstep now o j op).2 with
    | none => jrun now o (jstep now o j op).1 ops
    | some out => out :: jrun now o (jstep now o j op).1 ops

theorem jstep_nodup (now : Int) (o : Oracles) (j : Cdw.JwtReq) (op : JOp) (h : (keys j.priv).Nodup) :
    (keys (jstep now o j op).1.priv).Nodup := by
  cases op with
  | decode data =>
    simp only [jstep, c12w_jwtreq_unmarshal_exact]
    cases o.parseObj data with
    | error e => exact h
    | ok d =>
      simp only []
      cases o.decodeAlias d j.alias with
      | error e => exact h
      | ok a => exact keys_storeOver_nodup d j.priv h
  | assign a => exact h
  | encode =>
    simp only [jstep, c12w_jwtreq_marshal_exact]
    cases j.alias.enc with
    | error e => exact h
    | ok r =>
      simp only []
      split
      · exact h
      · exact keys_storeOver_nodup r j.priv h

/-- HISTORY: along EVERY sequence of decode / assign / encode steps on one JWTTokenRequest (MarshalJSON itself writes into the
    private map, so later encodings depend on earlier ones), every encoding carries the registered fields the value has at that
    moment, and satisfies the marshal monitor w.r.t. the private map of that moment -/
theorem c12w_jwtreq_history (now : Int) (o : Oracles) (hall : ∀ m, o.mapEncodable m = true) (ops : List JOp) :
    ∀ (j0 : Cdw.JwtReq), (keys j0.priv).Nodup → ∀ out ∈ jrun now o j0 ops, ∀ r, out.1.alias.enc = .ok r → (keys r).Nodup →
      ∃ m, out.2 = .ok m ∧ marshalOK r out.1.priv m = none ∧ ∀ k, (keys r).contains k = true → lookup m k = lookup r k := by
  induction ops with
  | nil => intro j0 _ out hout; simp [jrun] at hout
  | cons op ops ih =>
    intro j0 h0 out hout r hr hnd
    have hnext := jstep_nodup now o j0 op h0
    unfold jrun at hout
    cases hs : (jstep now o j0 op).2 with
    | none => rw [hs] at hout; exact ih _ hnext out hout r hr hnd
    | some o' =>
      rw [hs] at hout
      simp only [List.mem_cons] at hout
      rcases hout with rfl | hout
      · cases op with
        | decode d => simp [jstep] at hs
        | assign a => simp [jstep] at hs
        | encode =>
          simp only [jstep, Option.some.injEq] at hs
          subst hs
          obtain ⟨m, hm, hmon, h1, _⟩ := c12w_jwtreq_monitor now o j0 r hr hnd h0 (hall _)
          exact ⟨m, hm, hmon, h1⟩
      · exact ih _ hnext out hout r hr hnd

/-! ### IntrospectionResponse: `username` falls back to `preferred_username` - only when it is empty -/

/-- what MarshalJSON does to the receiver before the merge -/
def introFallback (i : Cdw.IntroVal) : Cdw.IntroVal :=
  if (i.Username == "") = true then { i with Username := i.PreferredUsername } else i

theorem c12w_intro_marshal_exact (now : Int) (o : Oracles) (i : Cdw.IntroVal) :
    GenCodecW.IntrospectionResponseMarshalJSON now o i =
      (introFallback i, (GenCodec.mergeAndMarshalClaims now o (Cdw.introAlias o (introFallback i)) (introFallback i).Claims).2) := by
  unfold GenCodecW.IntrospectionResponseMarshalJSON introFallback Cdw.mmc
  go_leaf

/-- a `username` that is set is left alone: the receiver is unchanged -/
theorem c12w_intro_username_kept (i : Cdw.IntroVal) (h : i.Username ≠ "") : introFallback i = i := by
  unfold introFallback
  have : (i.Username == "") = false := by simpa using h
  simp [this]

def memberOf (k s t : String) : Codec.Obj := if (s == "") = true then [] else [(k, t)]

/-- the registered encoding of an IntrospectionResponse: the other members, then `username`, then `preferred_username`
    (`q` = encoding/json on a string) -/
def introReg (q : String → String) (r : Codec.Obj) (i : Cdw.IntroVal) : Codec.Obj :=
  r ++ memberOf "username" i.Username (q i.Username) ++ memberOf "preferred_username" i.PreferredUsername (q i.PreferredUsername)

theorem introAlias_enc (o : Oracles) (q : String → String) (hq : ∀ s, o.marshalString s = .ok (q s)) (i : Cdw.IntroVal) (r : Codec.Obj)
    (hrest : i.rest = .ok r) : (Cdw.introAlias o i).enc = .ok (introReg q r i) := by
  unfold Cdw.introAlias Cdw.strMember introReg memberOf
  simp only [hrest, hq]
  by_cases hu : (i.Username == "") = true <;> by_cases hp : (i.PreferredUsername == "") = true <;> simp [hu, hp]

theorem lookup_single (k t k' : String) : lookup [(k, t)] k' = if k = k' then some t else none := by
  by_cases h : k = k' <;> simp [lookup, h]

theorem keys_append_memberOf (o : Codec.Obj) (k s t : String) :
    keys (o ++ memberOf k s t) = keys o ∨ keys (o ++ memberOf k s t) = keys o ++ [k] := by
  unfold memberOf keys
  split <;> simp

theorem nodup_append_memberOf {o : Codec.Obj} {k : String} (s t : String) (ho : (keys o).Nodup) (hk : k ∉ keys o) :
    (keys (o ++ memberOf k s t)).Nodup := by
  rcases keys_append_memberOf o k s t with h | h <;> rw [h]
  · exact ho
  · exact List.nodup_append.2 ⟨ho, by simp, fun a ha b hb => by rw [List.mem_singleton.1 hb]; exact fun e => hk (e ▸ ha)⟩

theorem introReg_nodup (q : String → String) (r : Codec.Obj) (i : Cdw.IntroVal) (hr : (keys r).Nodup)
    (hu : (keys r).contains "username" = false) (hp : (keys r).contains "preferred_username" = false) : (keys (introReg q r i)).Nodup := by
  have hu' : "username" ∉ keys r := by simpa using hu
  have hp' : "preferred_username" ∉ keys r := by simpa using hp
  refine nodup_append_memberOf _ _ (nodup_append_memberOf _ _ hr hu') fun h => ?_
  rcases keys_append_memberOf r "username" i.Username (q i.Username) with e | e <;> rw [e] at h
  · exact hp' h
  · rcases List.mem_append.1 h with h | h
    · exact hp' h
    · exact absurd (List.mem_singleton.1 h) (by decide)

/-- both orders of the two members look alike to every lookup -/
theorem lookup_swap_members (r : Codec.Obj) (tu tp : String) (k : String) :
    lookup (r ++ [("preferred_username", tp)] ++ [("username", tu)]) k = lookup (r ++ [("username", tu)] ++ [("preferred_username", tp)]) k := by
  simp only [lookup_append, lookup_single]
  by_cases h1 : "username" = k
  · subst h1; simp
  · by_cases h2 : "preferred_username" = k
    · subst h2; simp
    · simp [h1, h2]

/-- IntrospectionResponse, for every value (username / preferred_username both set and different included) and every custom map:
    the produced document satisfies the marshal monitor with the fallback allowance of `introMarshalOK`; the receiver's Username is
    only ever filled when it was empty; and a `username` that is SET is emitted as it is and left as it is -/
theorem c12w_intro_monitor (now : Int) (o : Oracles) (q : String → String) (hq : ∀ s, o.marshalString s = .ok (q s))
    (i : Cdw.IntroVal) (r : Codec.Obj) (hrest : i.rest = .ok r) (hr : (keys r).Nodup)
    (hu : (keys r).contains "username" = false) (hp : (keys r).contains "preferred_username" = false)
    (hc : (keys i.Claims).Nodup) (hall : ∀ m, o.mapEncodable m = true) :
    ∃ m, (GenCodecW.IntrospectionResponseMarshalJSON now o i).2 = .ok [m] ∧
      introMarshalOK (introReg q r i) i.Claims m = none ∧
      introRecvOK i.Username i.PreferredUsername (GenCodecW.IntrospectionResponseMarshalJSON now o i).1.Username = none ∧
      (i.Username ≠ "" → lookup m "username" = some (q i.Username) ∧ (GenCodecW.IntrospectionResponseMarshalJSON now o i).1 = i) := by
  rw [c12w_intro_marshal_exact]
  have hrest' : (introFallback i).rest = .ok r := by unfold introFallback; split <;> simp [hrest]
  have hcl : (introFallback i).Claims = i.Claims := by unfold introFallback; split <;> rfl
  have henc' := introAlias_enc o q hq (introFallback i) r hrest'
  have hnd' := introReg_nodup q r (introFallback i) hr hu hp
  obtain ⟨m, hm, h1, h2⟩ := c12_registered_wins_gen now o (Cdw.introAlias o (introFallback i)) (introReg q r (introFallback i)) (introFallback i).Claims
    henc' hnd' (by rw [hcl]; exact hc) (hall _)
  rw [hcl] at h2
  refine ⟨m, hm, ?_, ?_, ?_⟩
  · -- the monitor
    by_cases hne : i.Username = ""
    · by_cases hpe : i.PreferredUsername = ""
      · -- nothing to fall back to: the encoding is the one of `i`
        have : introReg q r (introFallback i) = introReg q r i := by
          unfold introFallback introReg memberOf; simp [hne, hpe]
        rw [this] at h1 h2
        simp [introMarshalOK, marshalOK_of_lookup _ _ _ h1 h2]
      · -- the fallback acts: `username` = `preferred_username`
        have hU : (i.Username == "") = true := by simp [hne]
        have hP : (i.PreferredUsername == "") = false := by simpa using hpe
        have hreg' : introReg q r (introFallback i) = r ++ [("username", q i.PreferredUsername)] ++ [("preferred_username", q i.PreferredUsername)] := by
          unfold introFallback introReg memberOf; simp [hU, hP]
        have hreg : introReg q r i = r ++ [("preferred_username", q i.PreferredUsername)] := by
          unfold introReg memberOf; simp [hU, hP]
        have hfb : withUsernameFallback (introReg q r i) = r ++ [("preferred_username", q i.PreferredUsername)] ++ [("username", q i.PreferredUsername)] := by
          rw [hreg]
          unfold withUsernameFallback
          have hk : (keys (r ++ [("preferred_username", q i.PreferredUsername)])).contains "username" = false := by
            have hu' : "username" ∉ keys r := by simpa using hu
            simp [keys] at hu' ⊢; exact hu'
          have hl : lookup (r ++ [("preferred_username", q i.PreferredUsername)]) "preferred_username" = some (q i.PreferredUsername) := by
            rw [lookup_append, lookup_none_of_not_key r _ hp, lookup_single]; simp
          simp only [hk, Bool.false_eq_true, if_false, hl]
        rw [hreg'] at h1 h2
        unfold introMarshalOK
        have := marshalOK_of_lookup_eq (withUsernameFallback (introReg q r i)) _ i.Claims m
          (by intro k; rw [hfb]; exact lookup_swap_members r _ _ k) h1 h2
        rw [this]
        cases marshalOK (introReg q r i) i.Claims m <;> rfl
    · have := c12w_intro_username_kept i hne
      rw [this] at h1 h2
      simp [introMarshalOK, marshalOK_of_lookup _ _ _ h1 h2]
  · -- the receiver
    unfold introRecvOK introFallback
    by_cases hne : (i.Username == "") = true
    · have : i.Username = "" := by simpa using hne
      simp [this]
    · simp [hne]
  · intro hne
    have hk := c12w_intro_username_kept i hne
    refine ⟨?_, by rw [hk]⟩
    rw [hk] at h1
    have hU : (i.Username == "") = false := by simpa using hne
    have hin : (keys (introReg q r i)).contains "username" = true := by
      unfold introReg memberOf; simp [hU, keys]
    rw [h1 _ hin]
    unfold introReg memberOf
    simp only [hU, Bool.false_eq_true, if_false]
    rw [lookup_append, lookup_append, lookup_none_of_not_key r _ hu, lookup_single]; simp

/-! ### oidc.Time <-> time.Time (pkg/oidc/types.go): the hand-written twins used by every slice ARE the regenerated functions -/

theorem c12w_fromTime (now tt : Int) : GenCodecW.FromTime now tt = Go.fromTime tt := by
  unfold GenCodecW.FromTime Go.fromTime
  go_leaf
theorem c12w_asTime (now ts : Int) : GenCodecW.TimeAsTime now ts = Go.asTime ts := by
  unfold GenCodecW.TimeAsTime Go.asTime Cdw.timeUnix
  go_leaf
/-- seconds survive the conversion to time.Time and back - except the one value whose time.Time is the zero time -/
theorem c12w_time_roundtrip (now ts : Int) (h : ts ≠ -62135596800) : GenCodecW.FromTime now (GenCodecW.TimeAsTime now ts) = ts := by
  rw [c12w_fromTime, c12w_asTime]
  unfold Go.fromTime Go.asTime Go.tIsZero Go.tUnix Go.tToUnix Go.zeroTime Go.second
  by_cases h0 : ts = 0
  · subst h0; simp
  · have hb : (ts == 0) = false := by simpa using h0
    simp only [hb, Bool.false_eq_true, if_false]
    have hz : (ts * 1000000000 == -62135596800000000000) = false := by
      simp only [beq_eq_false_iff_ne, ne_eq]; omega
    simp only [hz, Bool.false_eq_true, if_false]
    omega

/-! ### the registered names (struct tags, regenerated): table checks -/

/-- iss, sub, aud, exp, iat are registered members of every token / assertion type: a custom claim of that name can only be seen
    when the field is not set (table check over the regenerated `regFields`) -/
theorem c12w_protected_names :
    ∀ t ∈ ["AccessTokenClaims", "IDTokenClaims", "LogoutTokenClaims", "JWTProfileAssertionClaims", "JWTTokenRequest", "IntrospectionResponse"],
      ∀ n ∈ ["iss", "sub", "aud", "exp", "iat"], (GenCodecW.regNames t).contains n = true := by decide +kernel
/-- … and for the two assertion types they are ALWAYS set (no omitempty), so they always win -/
theorem c12w_assertion_always_set :
    ∀ t ∈ ["JWTProfileAssertionClaims", "JWTTokenRequest"], ∀ n ∈ ["iss", "sub", "aud", "exp", "iat"],
      (GenCodecW.regFields t).contains (n, false) = true := by decide +kernel
theorem c12w_intro_names : (GenCodecW.regNames "IntrospectionResponse").contains "username" = true ∧
    (GenCodecW.regNames "IntrospectionResponse").contains "preferred_username" = true ∧
    (GenCodecW.regNames "ActorClaims") = ["act", "iss", "sub"] := by decide +kernel

/-! ### non-vacuity -/

/-- a decoded JWTTokenRequest (private holds the OLD iss and exp) whose Issuer / ExpiresAt were assigned afterwards -/
def jDemo : Cdw.JwtReq :=
  { alias := { enc := .ok [("iss", "\"gateway\""), ("sub", "\"c\""), ("aud", "[\"op\"]"), ("iat", "10"), ("exp", "0")] },
    priv := [("iss", "\"client\""), ("sub", "\"c\""), ("aud", "[\"op\"]"), ("iat", "10"), ("exp", "99"), ("role", "\"x\"")] }
example : (GenCodecW.JWTTokenRequestMarshalJSON 0 {} jDemo).2.toOption.bind (fun m => lookup m "iss") = some "\"gateway\"" := by decide +kernel
example : (GenCodecW.JWTTokenRequestMarshalJSON 0 {} jDemo).2.toOption.bind (fun m => lookup m "exp") = some "0" := by decide +kernel
example : (GenCodecW.JWTTokenRequestMarshalJSON 0 {} jDemo).2.toOption.bind (fun m => lookup m "role") = some "\"x\"" := by decide +kernel
example : marshalOK [("iss", "\"gateway\"")] [("iss", "\"client\"")] [("iss", "\"client\"")] = some "registered-claim-lost-or-overridden" := by decide +kernel
/-- two encodings in a row with an assignment in between: the second one carries the new issuer although the first one left the
    old one in the private map -/
example : (jrun 0 {} jDemo [.encode, .assign { enc := .ok [("iss", "\"third\"")] }, .encode]).map
    (fun out => out.2.toOption.bind (fun m => lookup m "iss")) = [some "\"gateway\"", some "\"third\""] := by decide +kernel

def oQuote : Oracles := { marshalString := fun s => .ok ("\"" ++ s ++ "\"") }
def iDemo : Cdw.IntroVal := { Username := "svc-17", PreferredUsername := "alice", rest := .ok [("active", "true")], Claims := [("username", "\"evil\"")] }
example : ((GenCodecW.IntrospectionResponseMarshalJSON 0 oQuote iDemo).2.toOption.bind List.head?).bind (fun m => lookup m "username") = some "\"svc-17\"" := by decide +kernel
example : (GenCodecW.IntrospectionResponseMarshalJSON 0 oQuote iDemo).1.Username = "svc-17" := by decide +kernel
example : ((GenCodecW.IntrospectionResponseMarshalJSON 0 oQuote { iDemo with Username := "" }).2.toOption.bind List.head?).bind (fun m => lookup m "username")
    = some "\"alice\"" := by decide +kernel
example : introMarshalOK [("active", "true"), ("username", "\"svc-17\""), ("preferred_username", "\"alice\"")] []
    [("active", "true"), ("username", "\"alice\""), ("preferred_username", "\"alice\"")] = some "registered-claim-lost-or-overridden" := by decide +kernel
example : introMarshalOK [("active", "true"), ("preferred_username", "\"alice\"")] []
    [("active", "true"), ("username", "\"alice\""), ("preferred_username", "\"alice\"")] = none := by decide +kernel
example : GenCodecW.FromTime 0 (GenCodecW.TimeAsTime 0 (-62135596800)) = 0 := by decide +kernel

end C12
