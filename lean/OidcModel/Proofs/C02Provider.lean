/-
  C02: `op.NewProvider` wires into the provider, for EVERY option list, exactly the key set and the verifier option
  list the caller configured for each of the two derived verifiers (default: the storage's keys / the library's list), and the
  token readers of the endpoints believe a JWT only under the monitor's conditions for THAT configuration.
-/
import OidcModel.Proofs.C02Verifiers
import OidcModel.Generated.ProviderC02
import OidcModel.Spec.C02Config
namespace C02
open Go Gen Hand

/-- the options of a list applied in order, stopping at the first error (Go: `for _, optFunc := range opOpts { if err := optFunc(o); err != nil { return nil, err } }`) -/
def applyOptions (opts : List C02Option) (p : C02Provider) : Go.R C02Provider :=
  match opts with
  | [] => .ok p
  | o :: os => match o p with
    | .error e => .error e
    | .ok p' => applyOptions os p'

/-- whatever the text of the loop body looks like: if it does, per option, what `applyOptions` does, the loop is `applyOptions` -/
theorem loopCtl_options (opts : List C02Option) (p : C02Provider)
    (f : C02Provider → C02Option → GoX.Ctl C02Provider (Go.R C02Provider))
    (hf : ∀ o opt, f o opt = match opt o with | .error e => GoX.Ctl.ret (.error e) | .ok o' => GoX.Ctl.next o') :
    GoX.loopCtl opts p f = match applyOptions opts p with | .error e => .inl (.error e) | .ok p' => .inr p' := by
  induction opts generalizing p with
  | nil => rfl
  | cons o os ih =>
    simp only [GoX.loopCtl, applyOptions, hf]
    cases o p with
    | error e => rfl
    | ok p' => exact ih p'

/-- what `NewProvider` does after the options ran, in the fields of the model type: the issuer function is taken from the
    `issuer` argument (an error of it fails the construction) and the crypto from the config; the four wired fields stay -/
def finishProvider (config : C02PConfig) (issuer : Bool → Go.R C02PIssuer) (o : C02Provider) : Go.R C02Provider :=
  match issuer o.insecure with
  | .error e => .error e
  | .ok i => .ok { o with issuer := i, crypto := Hand.c02pNewAESCrypto config.CryptoKey }

/-- the provider the options are applied to: both key sets are the storage's, both option lists empty -/
def initialProvider (storage : C02KeyStorage) : C02Provider :=
  { storage := storage, accessTokenKeySet := Hand.c02pOpenIDKeySet storage, idTokenHinKeySet := Hand.c02pOpenIDKeySet storage }

/-- CHARACTERISATION of the regenerated constructor (shape-independent script): the initial provider, the options in order, the finish -/
theorem newProvider_char (now : Int) (config : C02PConfig) (storage : C02KeyStorage) (issuer : Bool → Go.R C02PIssuer)
    (opts : List C02Option) :
    GenC02P.NewProvider now config storage issuer opts =
      match applyOptions opts (initialProvider storage) with
      | .error e => .error e
      | .ok o => finishProvider config issuer o := by
  unfold GenC02P.NewProvider
  simp only []
  rw [loopCtl_options _ _ _ (by intro o opt; go_leaf)]
  unfold finishProvider initialProvider
  go_leaf

/-- an option that leaves the four fields the derived verifiers are built from alone -/
structure FrameOpt where
  f : C02Option
  frame : ∀ p p', f p = .ok p' → p'.accessTokenKeySet = p.accessTokenKeySet ∧ p'.idTokenHinKeySet = p.idTokenHinKeySet ∧
    p'.accessTokenVerifierOpts = p.accessTokenVerifierOpts ∧ p'.idTokenHintVerifierOpts = p.idTokenHintVerifierOpts

/-- an element of the option list of a construction call: one of the four regenerated options that concern the verifiers
    (with ANY key set / ANY verifier option list), or any other option (which may fail) -/
inductive POpt
  | atKeySet (ks : KeySet)
  | hintKeySet (ks : KeySet)
  | atOpts (l : List C02VerifierOpt)
  | hintOpts (l : List C02VerifierOpt)
  | other (o : FrameOpt)

/-- the Go value of such an element: the REGENERATED option functions -/
def POpt.denote (now : Int) : POpt → C02Option
  | .atKeySet ks => GenC02.WithAccessTokenKeySet now ks
  | .hintKeySet ks => GenC02.WithIDTokenHintKeySet now ks
  | .atOpts l => GenC02.WithAccessTokenVerifierOpts now l
  | .hintOpts l => GenC02.WithIDTokenHintVerifierOpts now l
  | .other o => o.f

/-- the four settings a construction call asks for (last option wins, default: what `d` says) -/
def wantATKeySet (d : KeySet) (l : List POpt) : KeySet := l.foldl (fun acc o => match o with | .atKeySet ks => ks | _ => acc) d
def wantHintKeySet (d : KeySet) (l : List POpt) : KeySet := l.foldl (fun acc o => match o with | .hintKeySet ks => ks | _ => acc) d
def wantATOpts (d : List C02VerifierOpt) (l : List POpt) : List C02VerifierOpt := l.foldl (fun acc o => match o with | .atOpts x => x | _ => acc) d
def wantHintOpts (d : List C02VerifierOpt) (l : List POpt) : List C02VerifierOpt := l.foldl (fun acc o => match o with | .hintOpts x => x | _ => acc) d

/-- induction over the option list: from ANY provider, the options leave the four fields as the call asks for -/
theorem applyOptions_wires (now : Int) (l : List POpt) (p q : C02Provider)
    (h : applyOptions (l.map (POpt.denote now)) p = .ok q) :
    q.accessTokenKeySet = wantATKeySet p.accessTokenKeySet l ∧ q.idTokenHinKeySet = wantHintKeySet p.idTokenHinKeySet l ∧
    q.accessTokenVerifierOpts = wantATOpts p.accessTokenVerifierOpts l ∧ q.idTokenHintVerifierOpts = wantHintOpts p.idTokenHintVerifierOpts l := by
  induction l generalizing p with
  | nil =>
    simp only [List.map_nil, applyOptions, Except.ok.injEq] at h
    subst h
    exact ⟨rfl, rfl, rfl, rfl⟩
  | cons o os ih =>
    simp only [List.map_cons, applyOptions] at h
    cases o with
    | other fo =>
      simp only [POpt.denote] at h
      cases hf : fo.f p with
      | error e => simp [hf] at h
      | ok p' =>
        simp only [hf] at h
        have fr := fo.frame p p' hf
        simpa [wantATKeySet, wantHintKeySet, wantATOpts, wantHintOpts, fr.1, fr.2.1, fr.2.2.1, fr.2.2.2] using ih p' h
    | _ =>
      -- each of the four regenerated options succeeds and sets its own field
      simp only [POpt.denote, withAccessTokenKeySet_spec, withIDTokenHintKeySet_spec, withAccessTokenVerifierOpts_spec,
        withIDTokenHintVerifierOpts_spec] at h
      simpa [wantATKeySet, wantHintKeySet, wantATOpts, wantHintOpts] using ih _ h

/-- **wiring theorem**: for EVERY option list, a provider `NewProvider` hands out carries, for each derived verifier, the key set
    and the option list the caller configured for THAT verifier; default = the storage's keys, no verifier option -/
theorem c02_provider_wiring (now : Int) (config : C02PConfig) (storage : C02KeyStorage) (issuer : Bool → Go.R C02PIssuer)
    (l : List POpt) (p : C02Provider)
    (h : GenC02P.NewProvider now config storage issuer (l.map (POpt.denote now)) = .ok p) :
    p.accessTokenKeySet = wantATKeySet (Hand.c02pOpenIDKeySet storage) l ∧
    p.idTokenHinKeySet = wantHintKeySet (Hand.c02pOpenIDKeySet storage) l ∧
    p.accessTokenVerifierOpts = wantATOpts [] l ∧ p.idTokenHintVerifierOpts = wantHintOpts [] l := by
  rw [newProvider_char] at h
  cases ha : applyOptions (l.map (POpt.denote now)) (initialProvider storage) with
  | error e => simp [ha] at h
  | ok o =>
    simp only [ha, finishProvider] at h
    have w := applyOptions_wires now l _ o ha
    cases hi : issuer o.insecure with
    | error e => simp [hi] at h
    | ok i =>
      simp only [hi, Except.ok.injEq] at h
      subst h
      exact w

/-- the default configuration: no option concerns the verifiers → both verify with the storage's keys (one and the same set) -/
theorem c02_provider_default (now : Int) (config : C02PConfig) (storage : C02KeyStorage) (issuer : Bool → Go.R C02PIssuer) (p : C02Provider)
    (h : GenC02P.NewProvider now config storage issuer [] = .ok p) :
    p.accessTokenKeySet = Hand.c02pOpenIDKeySet storage ∧ p.idTokenHinKeySet = Hand.c02pOpenIDKeySet storage :=
  let w := c02_provider_wiring now config storage issuer [] p h
  ⟨w.1, w.2.1⟩

/-- `&OpenIDKeySet{storage}` as a model key set answers as the regenerated `OpenIDKeySet.VerifySignature` on that storage does -/
theorem c02pOpenIDKeySet_bridge (now : Int) (storage : C02KeyStorage) (j : JWS) :
    (GenC02.OpenIDKeySetVerifySignature now storage j).toOption = (KeySet.VerifySignature (Hand.c02pOpenIDKeySet storage) j).toOption := by
  rcases storage with ⟨ks⟩
  cases ks with
  | ok keys => exact openIDKeySet_bridge now keys j
  | error e =>
    rw [openIDKeySet_storage_error]
    cases hv : KeySet.VerifySignature (Hand.c02pOpenIDKeySet { keySet := .error e }) j with
    | error _ => rfl
    | ok pl =>
      obtain ⟨s, k, _, _, hj, _⟩ := verifySignature_sound hv
      simp [justifies, Hand.c02pOpenIDKeySet, selectedOK, publishedOK] at hj

/-! ## the statement's vocabulary (Spec/C02Config.lean) -/

/-- a construction call in the statement's vocabulary, as Go values -/
def CfgOpt.toP (now : Int) (frameOther : FrameOpt) : CfgOpt → POpt
  | .atKeySet ks => .atKeySet ks
  | .hintKeySet ks => .hintKeySet ks
  | .atAlgs ls => .atOpts (ls.map (GenC02.WithSupportedAccessTokenSigningAlgorithms now))
  | .hintAlgs ls => .hintOpts (ls.map (GenC02.WithSupportedIDTokenHintSigningAlgorithms now))
  | .other => .other frameOther

/-- options that each set the allow-list, applied in order: the last one wins -/
theorem applyOpts_setAlgs (opt : List String → C02VerifierOpt) (hopt : ∀ algs v, opt algs v = { v with SupportedSignAlgs := algs })
    (ls : List (List String)) (v : Verifier) :
    applyOpts (ls.map opt) v = { v with SupportedSignAlgs := ls.foldl (fun _ l => l) v.SupportedSignAlgs } := by
  induction ls generalizing v with
  | nil => rfl
  | cons a as ih =>
    simp only [List.map_cons, applyOpts, List.foldl_cons] at ih ⊢
    rw [hopt, ih]

/-- the access-token verifier the statement describes for a construction call -/
def cfgVerifierAT (iss : String) (storageKeys : KeySet) (l : List CfgOpt) : Verifier :=
  { Issuer := iss, KeySet := cfgKeySetAT storageKeys l, SupportedSignAlgs := cfgAlgsAT l }
def cfgVerifierHint (iss : String) (storageKeys : KeySet) (l : List CfgOpt) : Verifier :=
  { Issuer := iss, KeySet := cfgKeySetHint storageKeys l, SupportedSignAlgs := cfgAlgsHint l }

theorem wantATKeySet_cfg (now : Int) (fo : FrameOpt) (l : List CfgOpt) (d : KeySet) :
    wantATKeySet d (l.map (CfgOpt.toP now fo)) = cfgKeySetAT d l := by
  induction l generalizing d with
  | nil => rfl
  | cons o os ih => cases o <;> simpa [wantATKeySet, cfgKeySetAT, CfgOpt.toP] using ih _

theorem wantHintKeySet_cfg (now : Int) (fo : FrameOpt) (l : List CfgOpt) (d : KeySet) :
    wantHintKeySet d (l.map (CfgOpt.toP now fo)) = cfgKeySetHint d l := by
  induction l generalizing d with
  | nil => rfl
  | cons o os ih => cases o <;> simpa [wantHintKeySet, cfgKeySetHint, CfgOpt.toP] using ih _

theorem wantATOpts_cfg (now : Int) (fo : FrameOpt) (l : List CfgOpt) (v0 : Verifier) (a : List C02VerifierOpt) (acc : List String)
    (ha : applyOpts a v0 = { v0 with SupportedSignAlgs := acc }) (h0 : v0.SupportedSignAlgs = []) :
    applyOpts (wantATOpts a (l.map (CfgOpt.toP now fo))) v0 =
      { v0 with SupportedSignAlgs := l.foldl (fun acc o => match o with | .atAlgs ls => cfgLast ls | _ => acc) acc } := by
  induction l generalizing a acc with
  | nil => simpa [wantATOpts] using ha
  | cons o os ih =>
    cases o with
    | atAlgs ls =>
      simp only [List.map_cons, CfgOpt.toP, wantATOpts, List.foldl_cons] at ih ⊢
      exact ih _ _ (by rw [applyOpts_setAlgs _ (withSupportedAccessTokenSigningAlgorithms_spec now), h0]; rfl)
    | _ => simpa [wantATOpts, CfgOpt.toP] using ih _ _ ha

theorem wantHintOpts_cfg (now : Int) (fo : FrameOpt) (l : List CfgOpt) (v0 : Verifier) (a : List C02VerifierOpt) (acc : List String)
    (ha : applyOpts a v0 = { v0 with SupportedSignAlgs := acc }) (h0 : v0.SupportedSignAlgs = []) :
    applyOpts (wantHintOpts a (l.map (CfgOpt.toP now fo))) v0 =
      { v0 with SupportedSignAlgs := l.foldl (fun acc o => match o with | .hintAlgs ls => cfgLast ls | _ => acc) acc } := by
  induction l generalizing a acc with
  | nil => simpa [wantHintOpts] using ha
  | cons o os ih =>
    cases o with
    | hintAlgs ls =>
      simp only [List.map_cons, CfgOpt.toP, wantHintOpts, List.foldl_cons] at ih ⊢
      exact ih _ _ (by rw [applyOpts_setAlgs _ (withSupportedIDTokenHintSigningAlgorithms_spec now), h0]; rfl)
    | _ => simpa [wantHintOpts, CfgOpt.toP] using ih _ _ ha

/-- what a constructed provider is configured with, in the statement's reading of the construction call -/
theorem configured_cfg {now : Int} {config : C02PConfig} {storage : C02KeyStorage} {issuer : Bool → Go.R C02PIssuer}
    {fo : FrameOpt} {l : List CfgOpt} {p : C02Provider} (iss : String)
    (h : GenC02P.NewProvider now config storage issuer ((l.map (CfgOpt.toP now fo)).map (POpt.denote now)) = .ok p) :
    configuredAT iss p = cfgVerifierAT iss (Hand.c02pOpenIDKeySet storage) l ∧
    configuredHint iss p = cfgVerifierHint iss (Hand.c02pOpenIDKeySet storage) l := by
  have w := c02_provider_wiring now config storage issuer _ p h
  unfold configuredAT cfgVerifierAT cfgAlgsAT configuredHint cfgVerifierHint cfgAlgsHint
  rw [w.1, w.2.1, w.2.2.1, w.2.2.2, wantATKeySet_cfg, wantHintKeySet_cfg, wantATOpts_cfg now fo l _ [] [] rfl rfl,
    wantHintOpts_cfg now fo l _ [] [] rfl rfl]
  exact ⟨rfl, rfl⟩

/-- **each verifier gets the configuration the caller asked for**: a provider constructed from a storage and ANY list of options
    (every subset, order and repetition of the four verifier-related options, with any other options in between) builds, per
    request, the access-token verifier with the key set / allowed list configured for the ACCESS-TOKEN verifier and the
    id_token_hint verifier with those configured for the ID_TOKEN_HINT verifier - in the statement's own reading of the call
    (Spec/C02Config.lean), default: the storage's keys and the library's list.  The revocation endpoint's derived verifier too. -/
theorem c02_configured_verifiers (now : Int) (config : C02PConfig) (storage : C02KeyStorage) (issuer : Bool → Go.R C02PIssuer)
    (fo : FrameOpt) (l : List CfgOpt) (p : C02Provider) (iss : String) (k : C02RevocationKeySet)
    (h : GenC02P.NewProvider now config storage issuer ((l.map (CfgOpt.toP now fo)).map (POpt.denote now)) = .ok p) :
    GenC02.ProviderAccessTokenVerifier now iss p = cfgVerifierAT iss (Hand.c02pOpenIDKeySet storage) l ∧
    GenC02.ProviderIDTokenHintVerifier now iss p = cfgVerifierHint iss (Hand.c02pOpenIDKeySet storage) l ∧
    (GenC02.revocationKeySetVerifier now k (GenC02.ProviderAccessTokenVerifier now iss p)).1 = cfgVerifierAT iss (Hand.c02pOpenIDKeySet storage) l := by
  have e := c02_endpoint_verifiers now iss p k
  exact ⟨e.1.trans (configured_cfg iss h).1, e.2.1.trans (configured_cfg iss h).2, e.2.2.trans (configured_cfg iss h).1⟩

/-- userinfo / introspection on a provider built by `NewProvider`: a JWT is believed only under the monitor's conditions for the
    allowed list and key set CONFIGURED FOR THE ACCESS-TOKEN VERIFIER in the construction call -/
theorem c02_cfg_reader_userinfo (now : Int) (config : C02PConfig) (storage : C02KeyStorage) (issuer : Bool → Go.R C02PIssuer)
    (fo : FrameOpt) (l : List CfgOpt) (p : C02Provider) (iss s e id sub : String)
    (h : GenC02P.NewProvider now config storage issuer ((l.map (CfgOpt.toP now fo)).map (POpt.denote now)) = .ok p)
    (hd : p.crypto.Decrypt s = .error e) (hb : GenC02.getTokenIDAndSubject now iss p s = (id, sub, true)) :
    ∃ c, monitor (cfgAlgsAT l) (cfgKeySetAT (Hand.c02pOpenIDKeySet storage) l) (p.tokenOf s) (some c) = none ∧ c.sub = sub := by
  obtain ⟨c, hm, hs, _⟩ := c02_reader_userinfo now iss p s e id sub hd hb
  rw [(configured_cfg iss h).1] at hm
  exact ⟨c, hm, hs⟩

/-- revocation -/
theorem c02_cfg_reader_revocation (now : Int) (config : C02PConfig) (storage : C02KeyStorage) (issuer : Bool → Go.R C02PIssuer)
    (fo : FrameOpt) (l : List CfgOpt) (p : C02Provider) (iss s e id sub : String)
    (h : GenC02P.NewProvider now config storage issuer ((l.map (CfgOpt.toP now fo)).map (POpt.denote now)) = .ok p)
    (hd : p.crypto.Decrypt s = .error e) (hb : GenC02.getTokenIDAndSubjectForRevocation now iss p s = .ok (id, sub, true)) :
    ∃ c, monitor (cfgAlgsAT l) (cfgKeySetAT (Hand.c02pOpenIDKeySet storage) l) (p.tokenOf s) (some c) = none ∧ c.sub = sub := by
  obtain ⟨c, hm, hs, _⟩ := c02_reader_revocation now iss p s e id sub hd hb
  rw [(configured_cfg iss h).1] at hm
  exact ⟨c, hm, hs⟩

/-- id_token_hint (authorize, end_session, token exchange with an id_token): whatever `VerifyIDTokenHint` accepts with the verifier
    such a provider derives satisfies the monitor for the key set / list CONFIGURED FOR THE ID_TOKEN_HINT VERIFIER - a key that is
    only in the access-token key set does not count -/
theorem c02_cfg_idTokenHint (now : Int) (config : C02PConfig) (storage : C02KeyStorage) (issuer : Bool → Go.R C02PIssuer)
    (fo : FrameOpt) (l : List CfgOpt) (p : C02Provider) (iss : String) (t : Token) (out : HintOut)
    (h : GenC02P.NewProvider now config storage issuer ((l.map (CfgOpt.toP now fo)).map (POpt.denote now)) = .ok p)
    (hv : Gen.VerifyIDTokenHint now t (GenC02.ProviderIDTokenHintVerifier now iss p) = .ok out) :
    monitor (cfgAlgsHint l) (cfgKeySetHint (Hand.c02pOpenIDKeySet storage) l) t (some out.claims) = none := by
  rw [providerIDTokenHintVerifier_configured, (configured_cfg iss h).2] at hv
  exact (verifyIDTokenHint_checked hv).monitor

end C02

/-! ## non-vacuity: the configuration "only the access-token key set is passed" -/
namespace C02
def exStoreKey : JWK := { KeyID := "sig1", Use := "sig", kty := .rsa, keyNo := 0 }
def exATKey : JWK := { KeyID := "at1", Use := "sig", kty := .rsa, keyNo := 9 }
def exATSet : KeySet := { kind := .published, keys := [exATKey] }
def exStorage : C02KeyStorage := { keySet := .ok [exStoreKey] }
def exNewProvider (opts : List C02Option) : Option C02Provider :=
  (GenC02P.NewProvider 0 {} exStorage (fun _ => .ok id) opts).toOption

example : (exNewProvider [GenC02.WithAccessTokenKeySet 0 exATSet]).map (·.accessTokenKeySet) = some exATSet := by decide +kernel
example : (exNewProvider [GenC02.WithAccessTokenKeySet 0 exATSet]).map (·.idTokenHinKeySet) = some { kind := .published, keys := [exStoreKey] } := by decide +kernel
example : (exNewProvider [GenC02.WithIDTokenHintKeySet 0 exATSet, GenC02.WithAccessTokenKeySet 0 exATSet,
    GenC02.WithIDTokenHintKeySet 0 { kind := .published, keys := [] }]).map (·.idTokenHinKeySet) = some { kind := .published, keys := [] } := by decide +kernel
example : (exNewProvider []).map (fun p => (p.accessTokenKeySet, p.idTokenHinKeySet)) =
    some ({ kind := .published, keys := [exStoreKey] }, { kind := .published, keys := [exStoreKey] }) := by decide +kernel
/-- an option that fails: no provider -/
example : (exNewProvider [GenC02.WithAccessTokenKeySet 0 exATSet, fun _ => .error "boom"]).isNone = true := by decide +kernel
example : cfgKeySetHint { kind := .published, keys := [exStoreKey] } [.atKeySet exATSet] = { kind := .published, keys := [exStoreKey] } := by decide +kernel
end C02
