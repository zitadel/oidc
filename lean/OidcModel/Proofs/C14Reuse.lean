/-
  C14 — ONE verifier object, MANY assertions.

  `op.NewJWTProfileVerifier(storage, issuer, maxAge, offset)` takes a fixed issuer: an OP may build the verifier once (at
  start-up) and hand the same `*op.JWTProfileVerifier` to `op.VerifyJWTAssertion` / `op.ClientJWTAuth` /
  `op.AuthorizePrivateJWTKey` / the jwt-bearer grant for every request (a custom `JWTProfileVerifier(ctx)`).  The property
  judges every assertion on its own ("signed with a key the storage holds for the client NAMED AS ISSUER"), so what the
  verifier answers must not depend on which assertions it has seen before.

  `GenC14.VerifyJWTAssertionSt` (Generated/AssertionReuse.lean) is `op.VerifyJWTAssertion` regenerated so that it
  returns the verifier object as the call LEAVES it next to the answer, on every path: a write through the receiver
  (`v.keySet = …`) is part of the regenerated term.  This module depends on nothing but that definition, the regenerated
  `Gen.VerifyJWTAssertion` and the shape-independent tactics `go_leaf` / `go_eq`; it does not import the C01 / C02 proof modules.
-/
import OidcModel.Generated.AssertionReuse
import OidcModel.GoTacEq

namespace C14
open Go Gen Hand

/-- VALUE and FRAME (characterisation lemma, shape-independent): the state-returning twin answers what the regenerated
    `Gen.VerifyJWTAssertion` answers and leaves the verifier object as it found it -/
theorem verifyJWTAssertionSt_eq (now : Int) (t : Token) (v : JWTProfileVerifier) :
    GenC14.VerifyJWTAssertionSt now t v = (Gen.VerifyJWTAssertion now t v, v) := by
  unfold GenC14.VerifyJWTAssertionSt Gen.VerifyJWTAssertion
  go_eq []

theorem verifyJWTAssertionSt_frame (now : Int) (t : Token) (v : JWTProfileVerifier) :
    (GenC14.VerifyJWTAssertionSt now t v).2 = v := congrArg Prod.snd (verifyJWTAssertionSt_eq now t v)

theorem verifyJWTAssertionSt_value (now : Int) (t : Token) (v : JWTProfileVerifier) :
    (GenC14.VerifyJWTAssertionSt now t v).1 = Gen.VerifyJWTAssertion now t v := congrArg Prod.fst (verifyJWTAssertionSt_eq now t v)

/-- the key set an assertion naming `iss` is checked against: the verifier's own if it was built with one
    (`NewJWTProfileVerifierKeySet`), else the keys the storage holds for `iss` -/
def assertionKeys (v : JWTProfileVerifier) (iss : String) : KeySet :=
  if Go.isNil v.keySet then Hand.jwtProfileKeySet v.Storage iss else v.keySet

/-- CHARACTERISATION (shape-independent): what an accepting run of the regenerated `VerifyJWTAssertion` means - the token
    parses, every claim check passes for the verifier's settings, and the signature check passes against the keys of the client
    the assertion NAMES AS ISSUER, yielding the returned claims -/
theorem verifyJWTAssertion_ok {now : Int} {t : Token} {v : JWTProfileVerifier} {c : Claims} :
    VerifyJWTAssertion now t v = .ok c ↔ ∃ p c0, ParseToken now t = .ok (p, c0) ∧ CheckAudience now c0 v.Issuer = .ok () ∧
      CheckExpiration now c0 v.Offset = .ok () ∧ CheckIssuedAt now c0 v.MaxAgeIAT v.Offset = .ok () ∧
      applySubjectCheck (SubjectIsIssuer now) v.CheckSubject c0 = .ok () ∧
      CheckSignature now t p c0 [] (assertionKeys v c0.iss) = .ok c := by
  unfold VerifyJWTAssertion assertionKeys Claims.Issuer Go.nil HasNil.nilv instHasNilList
  try simp only [Go.notNil, Go.isNil, Bool.not_eq_true']
  constructor
  · -- every branch but the accepting one contradicts `h`; the splits leave the six answers as hypotheses
    intro h
    try simp only [] at h
    repeat' (split at h <;> try cases h)
    all_goals refine ⟨_, _, ‹_›, ‹_›, ‹_›, ‹_›, ‹_›, ?_⟩
    -- the Go text may test the key set for nil before the call or inside its argument, in either polarity: both answers, here
    all_goals rcases Bool.eq_false_or_eq_true (Nilable.isNil v.keySet) with hn | hn <;>
      simp_all only [Bool.false_eq_true, Bool.true_eq_false, not_true_eq_false, not_false_eq_true, ↓reduceIte]
  · rintro ⟨p, c0, h1, h2, h3, h4, h5, h6⟩
    simp only [h1, h2, h3, h4, h5]
    go_leaf

/-- the explicit default subject check is the constructor default -/
theorem verify_default_subject {now : Int} {t : Token} {v : JWTProfileVerifier} (h : v.CheckSubject = some (SubjectIsIssuer now)) :
    VerifyJWTAssertion now t v = VerifyJWTAssertion now t { v with CheckSubject := none } := by
  unfold VerifyJWTAssertion
  simp [applySubjectCheck, h]

/-- one verifier object `v` used for a sequence of calls `(now, assertion)`: the answers in order, and the object afterwards.
    Every call is handed the object the previous call left behind. -/
def runVerifier (v : JWTProfileVerifier) : List (Int × Token) → List (Go.R Claims) × JWTProfileVerifier
  | [] => ([], v)
  | (now, t) :: rest =>
    let r := GenC14.VerifyJWTAssertionSt now t v
    let rs := runVerifier r.2 rest
    (r.1 :: rs.1, rs.2)

/-- HISTORY THEOREM: for every verifier and every sequence of assertions (any length, any issuers / keys / times), the
    answers of the reused object are, position by position, the answers of a fresh verifier with the same settings, and the
    object is unchanged at the end -/
theorem c14_verifier_reuse (v : JWTProfileVerifier) (ops : List (Int × Token)) :
    runVerifier v ops = (ops.map (fun o => Gen.VerifyJWTAssertion o.1 o.2 v), v) := by
  induction ops with
  | nil => rfl
  | cons o rest ih =>
    obtain ⟨now, t⟩ := o
    simp only [runVerifier, verifyJWTAssertionSt_eq, ih, List.map_cons]

theorem c14_reused_answer (v : JWTProfileVerifier) (ops : List (Int × Token)) (i : Nat) (h : i < ops.length) :
    (runVerifier v ops).1[i]? = some (Gen.VerifyJWTAssertion ops[i].1 ops[i].2 v) := by
  rw [c14_verifier_reuse]; simp [h]

/-- verification of an assertion depends on no state left by earlier verifications: after ANY two histories the same
    assertion, at the same instant, gets the same answer -/
theorem c14_answer_independent_of_history (v : JWTProfileVerifier) (h1 h2 : List (Int × Token)) (now : Int) (t : Token) :
    (runVerifier (runVerifier v h1).2 [(now, t)]).1 = (runVerifier (runVerifier v h2).2 [(now, t)]).1 := by
  simp [c14_verifier_reuse]

end C14
