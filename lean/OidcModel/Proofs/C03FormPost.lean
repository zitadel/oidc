/-
  C03: form_post answers on connections that break — where the FIRST form of the delivered document points.

  Composition of this slice's history theorems with C11's theorems about the regenerated program of
  `op.AuthResponseFormPost` (`GenWire.formPostProgram`: `formPost_body_eq`, `history_getElem`, `tokenize_take`, `decoded_tags`):
  for every history authorize / login / callback through one provider, with ARBITRARY write faults on the connections of the
  form_post answers (error or short write at any byte), any package-level state to begin with and any `sync.Pool` behaviour, the
  first form of every delivered document - if a form arrives at all - carries the action html/template renders for the redirect URI
  of ITS OWN stored request, which is a registered one (`Inv`).  Nothing below unfolds a regenerated definition.
-/
import OidcModel.Proofs.C03
import OidcModel.Proofs.C11CutOff
import OidcModel.Model.AuthzFormPost

namespace C03
open Authz AuthzFP UA

/-! ### the first form of a cut-off page -/

theorem formName_eq : (C11.s "form" == ascii "form") = true := by decide
theorem pageFrame_find_form : C11.pageFrame.find? (fun t => t.name == ascii "form") = none := by decide

/-- in any prefix of the page's start tags, the first `form` element (if there is one) is the page's own form tag -/
theorem find_form_prefix (A : Bytes) (params : AR.Values) (nodes : List AR.Node) (T rest : List Tag) (t : Tag)
    (h : T ++ rest = C11.pageFrame ++ C11.formTag A :: C11.restTags id params nodes)
    (ht : T.find? (fun t => t.name == ascii "form") = some t) : t = C11.formTag A := by
  have hL : (T ++ rest).find? (fun t => t.name == ascii "form") = some t := by
    rw [List.find?_append, ht]; rfl
  rw [h, List.find?_append, pageFrame_find_form] at hL
  have hf : (C11.formTag A).name == ascii "form" := formName_eq
  simp only [Option.none_or, List.find?_cons, hf] at hL
  exact (Option.some.inj hL).symm

theorem action_of_formTag (A : Bytes) :
    ((((C11.formTag A).attrs.find? (fun a => a.1 == ascii "action")).map (·.2)).getD []) = A := by
  have h1 : (C11.s "method" == ascii "action") = false := by decide
  simp [C11.formTag, List.find?_cons, h1]

/-- **a form_post page cut off at ANY byte**: no form element has arrived, or the first one carries the action html/template renders
    for THIS request's redirect URI -/
theorem firstForm_take (uri : String) (resp : AR.Values) (hv : ValuesOK resp) (k : Nat) :
    firstFormAction ((pageOf uri resp).take k) = none ∨ firstFormAction ((pageOf uri resp).take k) = some (actionOf uri) := by
  have hcr := C11.render_noCR (uriBytes uri) resp (fun n v hm c hc => (hv n v hm c hc).1)
  obtain ⟨rest, hrest⟩ := C11.tokenize_take _ hcr k
  have hfull := C11.decoded_tags (uriBytes uri) resp hv
  rw [hrest, List.map_append] at hfull
  unfold firstFormAction pageOf
  cases hf : ((tokenize ((AR.render GenWire.formPostAutoescape GenWire.formPostTemplate (uriBytes uri) resp).take k)).map decodeTag).find?
      (fun t => t.name == ascii "form") with
  | none => left; rfl
  | some t =>
    right
    have := find_form_prefix _ resp _ _ _ t hfull hf
    subst this
    simp only [Option.map_some, action_of_formTag]
    rfl

/-- **one call of the regenerated `AuthResponseFormPost`, whatever package-level state it finds and whatever its connection does**:
    the first form of the delivered document is this request's own -/
theorem delivered_firstForm (pkg : Pkg) (uri : String) (e : Delivery) (hv : ValuesOK e.resp) :
    firstFormAction (FP.run GenWire.formPostProgram (reqOf uri e) pkg).rw.body = none ∨
    firstFormAction (FP.run GenWire.formPostProgram (reqOf uri e) pkg).rw.body = some (actionOf uri) := by
  rw [C11.formPost_body_eq]
  obtain ⟨k, hk⟩ := C11.delivered_prefix (reqOf uri e)
  rw [hk]
  exact firstForm_take uri e.resp hv k

/-- **histories of form_post answers for DIFFERENT clients / redirect URIs with arbitrary write faults** (FP level, by C11's
    `history_getElem`): at every position the first form of the delivered document is none or the one of the request of THAT
    position - never the form of an earlier (or later) request -/
theorem c03_formpost_deliveries (hist : List (String × Delivery)) (pkg : Pkg) (n : Nat) (uri : String) (e : Delivery)
    (hn : hist[n]? = some (uri, e)) (hv : ValuesOK e.resp) :
    ∃ body, ((FP.history GenWire.formPostProgram (hist.map fun x => reqOf x.1 x.2) pkg).map (·.body))[n]? = some body ∧
      (firstFormAction body = none ∨ firstFormAction body = some (actionOf uri)) := by
  refine ⟨FP.delivered (reqOf uri e), ?_, ?_⟩
  · apply C11.history_getElem
    rw [List.getElem?_map, hn]; rfl
  · obtain ⟨k, hk⟩ := C11.delivered_prefix (reqOf uri e)
    rw [hk]
    exact firstForm_take uri e.resp hv k

/-! ### composition with the authorization endpoint's state machine -/

/-- html/template's URL filter and normaliser leave the DESTINATION of this redirect URI alone (false for a custom scheme:
    F-C03d, `#ZgotmplZ`) -/
def UriFaithful (o : UriOracle) (uri : String) : Prop := destOf o (asciiStr (actionOf uri)) = destOf o uri

/-- what a delivered document does with the user agent: it goes where the first form points; no form, nowhere -/
def sentOfBody (o : UriOracle) (body : Bytes) : Sent :=
  match firstFormAction body with
  | some a => .to (destOf o (asciiStr a))
  | none => .nowhere

/-- what a write of a callback does with the user agent when form_post pages go out through the program `prog` on the package-level
    state `pkg`, on a connection described by `e`: the page is the one of the stored request the callback names -/
def sentD (o : UriOracle) (prog : List FP.Stmt) (st : St) (pkg : Pkg) (id : String) (e : Delivery) (w : Write) : Sent :=
  match w with
  | .formPost act =>
    match st.stored.find? (·.id == id) with
    | some a => sentOfBody o (FP.run prog (reqOf a.redirectURI e) pkg).rw.body
    | none => sentOf o (.formPost act)
  | w => sentOf o w

/-- the package-level state a callback leaves behind -/
def pkgAfter (prog : List FP.Stmt) (st : St) (pkg : Pkg) (id : String) (e : Delivery) (ws : List Write) : Pkg :=
  match ws.any isFormPost, st.stored.find? (·.id == id) with
  | true, some a => (FP.run prog (reqOf a.redirectURI e) pkg).pkg
  | _, _ => pkg

/-- verdicts of the monitor on one operation, form_post pages judged by the bytes that were DELIVERED -/
def verdictsD (now : Int) (o : UriOracle) (cfg : Cfg) (prog : List FP.Stmt) (st : St) (pkg : Pkg) (op : Op) (e : Delivery) :
    List (Option String) :=
  match op with
  | .callback r d fx =>
    (step now o cfg st (.callback r d fx)).2.map fun w =>
      monitorCallback false (observer cfg st) o (r.Form.Get "id") (sentD o prog st pkg (r.Form.Get "id") e w)
  | op => verdicts now o cfg st op

def pkgStep (now : Int) (o : UriOracle) (cfg : Cfg) (prog : List FP.Stmt) (st : St) (pkg : Pkg) (op : Op) (e : Delivery) : Pkg :=
  match op with
  | .callback r d fx => pkgAfter prog st pkg (r.Form.Get "id") e (step now o cfg st (.callback r d fx)).2
  | _ => pkg

/-- a history: every operation with the environment of its delivery; both the stored requests AND the package-level state of
    pkg/op are threaded through -/
def runVerdictsD (now : Int) (o : UriOracle) (cfg : Cfg) (prog : List FP.Stmt) : St → Pkg → List (Op × Delivery) → List (Option String)
  | _, _, [] => []
  | st, pkg, (op, e) :: rest =>
    verdictsD now o cfg prog st pkg op e ++
      runVerdictsD now o cfg prog (step now o cfg st op).1 (pkgStep now o cfg prog st pkg op e) rest

theorem registeredFor_client {m : MonState} {o : UriOracle} {client uri rt : String}
    (h : registeredFor false m o client uri rt = true) : ∃ c ∈ m.clients, Registered false o c uri rt = true := by
  unfold registeredFor at h
  split at h
  · rename_i c hc; exact ⟨c, List.mem_of_find?_eq_some hc, h⟩
  · simp at h

/-- **one operation, delivered bytes**: in any state satisfying the invariant, with ANY package-level state and ANY connection
    fault, every verdict is `none`, or - only when html/template does not leave the URI of a stored (hence registered) request
    alone - the target clause.  In particular no form of ANOTHER request ever comes first. -/
theorem stepD_verdicts {now : Int} {o : UriOracle} {cfg : Cfg} {st : St} (pkg : Pkg) (op : Op) (e : Delivery)
    (hi : Inv o cfg st) (hv : ValuesOK e.resp) :
    ∀ v ∈ verdictsD now o cfg GenWire.formPostProgram st pkg op e,
      v = none ∨ (v = some "redirect-target-is-not-the-redirect-uri" ∧ ∃ a ∈ st.stored, ¬ UriFaithful o a.redirectURI) := by
  intro v hvm
  cases op with
  | login id => simp [verdictsD, verdicts] at hvm
  | authorize rt r dec d fx nid =>
    left
    exact step_verdicts (.authorize rt r dec d fx nid) hi trivial v hvm
  | callback r d fx =>
    simp only [verdictsD, List.mem_map] at hvm
    obtain ⟨w, hw, rfl⟩ := hvm
    simp only [Authz.step] at hw
    rcases authorizeCallback_writes hw with ⟨s, rfl⟩ | ⟨a, ha, hwa⟩
    · exact Or.inl (monitorCallback_nowhere _ _ _)
    · have hfind := byID_find ha
      rw [monitorCallback_stored hi hfind]
      rcases hwa with ⟨s, rfl⟩ | ⟨f, q, rfl⟩ | ⟨ps, page, hpage, rfl⟩
      · left; rfl
      · left; simp [sentD, sentOf, judge]
      · simp only [sentD, hfind]
        rcases delivered_firstForm pkg a.redirectURI e hv with h | h
        · left; simp [sentOfBody, h, judge]
        · by_cases hdest : UriFaithful o a.redirectURI
          · left; unfold UriFaithful at hdest; simp [sentOfBody, h, judge, hdest]
          · right
            refine ⟨?_, a, List.mem_of_find?_eq_some hfind, hdest⟩
            unfold UriFaithful at hdest; simp [sentOfBody, h, judge, hdest]

theorem runVerdictsD_inv {now : Int} {o : UriOracle} {cfg : Cfg} (hist : List (Op × Delivery))
    (hvs : ∀ x ∈ hist, ValuesOK x.2.resp) :
    ∀ st pkg, Inv o cfg st → ∀ v ∈ runVerdictsD now o cfg GenWire.formPostProgram st pkg hist,
      v = none ∨ (v = some "redirect-target-is-not-the-redirect-uri" ∧
        ∃ c ∈ cfg.clients, ∃ uri rt, Registered false o c uri rt = true ∧ ¬ UriFaithful o uri) := by
  induction hist with
  | nil => intro st pkg _ v hv; simp [runVerdictsD] at hv
  | cons x rest ih =>
    obtain ⟨op, e⟩ := x
    intro st pkg hi v hv
    simp only [runVerdictsD, List.mem_append] at hv
    rcases hv with hv | hv
    · rcases stepD_verdicts pkg op e hi (hvs (op, e) (by simp)) v hv with h | ⟨h, a, ha, hnf⟩
      · exact Or.inl h
      · obtain ⟨c, hc, hr⟩ := registeredFor_client (hi a ha)
        exact Or.inr ⟨h, c, hc, _, _, hr, hnf⟩
    · exact ih (fun y hy => hvs y (by simp [hy])) _ _ (step_inv op hi) v hv

/-- **C03 over histories of form_post answers with write faults** (the history theorem `c03_history` extended to the bytes that are
    delivered).  For every set of registrations, every behaviour of net/url / net.ParseIP / doublestar, every sequence of authorize /
    login / callback operations on either router for ANY clients and redirect URIs - arbitrary storage faults, sub-validation and
    token-creation outcomes, encoder failures -, where every form_post answer is written by the REGENERATED `AuthResponseFormPost`
    program to a connection that fails or writes short at ANY byte (or not at all), starting from ANY package-level state and with
    any `sync.Pool` behaviour: the monitor accepts every response; a delivered document sends the user agent nowhere (no form
    arrived) or to the redirect URI of its own stored request - a registered one.  Hypotheses: the response parameters carry no
    NUL / CR byte, and html/template leaves the destination of every URI alone that a client of this configuration can get accepted
    (F-C03d: false for custom schemes; `c03_history_formpost_any` assumes nothing about it). -/
theorem c03_history_formpost (now : Int) (o : UriOracle) (cfg : Cfg) (pkg : Pkg) (hist : List (Op × Delivery))
    (hvs : ∀ x ∈ hist, ValuesOK x.2.resp)
    (hF : ∀ c ∈ cfg.clients, ∀ uri rt, Registered false o c uri rt = true → UriFaithful o uri) :
    ∀ v ∈ runVerdictsD now o cfg GenWire.formPostProgram {} pkg hist, v = none := by
  intro v hv
  rcases runVerdictsD_inv hist hvs {} pkg (inv_init o cfg) v hv with h | ⟨_, c, hc, uri, rt, hr, hnf⟩
  · exact h
  · exact absurd (hF c hc uri rt hr) hnf

/-- … and without any assumption about html/template (F-C03d stays visible): the only possible objection is the target clause, and
    only for a registered URI whose destination html/template's filter / normaliser changes - never a clause about an unregistered
    URI, never the form of another request -/
theorem c03_history_formpost_any (now : Int) (o : UriOracle) (cfg : Cfg) (pkg : Pkg) (hist : List (Op × Delivery))
    (hvs : ∀ x ∈ hist, ValuesOK x.2.resp) :
    ∀ v ∈ runVerdictsD now o cfg GenWire.formPostProgram {} pkg hist,
      v = none ∨ (v = some "redirect-target-is-not-the-redirect-uri" ∧
        ∃ c ∈ cfg.clients, ∃ uri rt, Registered false o c uri rt = true ∧ ¬ UriFaithful o uri) :=
  runVerdictsD_inv hist hvs {} pkg (inv_init o cfg)

def exPage (uri code : String) : Bytes :=
  AR.render GenWire.formPostAutoescape GenWire.formPostTemplate (C11.s uri) ⟨[(C11.s "code", [C11.s code])]⟩

/-- the defect this theorem family excludes, and its absence on the regenerated program: Alice's connection breaks at byte 40, then
    Bob's page is delivered whole.  With a pooled buffer that is never reset (`C11.leakyProgram`) the first form of Bob's document is
    ALICE's (his user agent posts to her client's redirect URI); with the regenerated `AuthResponseFormPost` it is his own. -/
theorem formpost_leftover_witness :
    let alice : FP.Req := { page := exPage "https://alice-rp.example/callback" "alice-code", fault := .err 40 }
    let bob : FP.Req := { page := exPage "https://bob-rp.example/cb" "bob-code" }
    ((FP.history C11.leakyProgram [alice, bob] [("pool", .pool [])]).map fun w => firstFormAction w.body)
        = [none, some (C11.s "https://alice-rp.example/callback")]
      ∧ ((FP.history GenWire.formPostProgram [alice, bob] GenWire.formPostPkg).map fun w => firstFormAction w.body)
        = [none, some (C11.s "https://bob-rp.example/cb")] := by
  decide +kernel

/-- F-C03d at the level of delivered bytes: for a custom-scheme redirect URI the action html/template renders is `#ZgotmplZ` -/
theorem formpost_custom_scheme_action : AR.urlNormalize (AR.urlFilter (C11.s "myapp://cb")) = C11.s "#ZgotmplZ" := by decide +kernel

end C03
