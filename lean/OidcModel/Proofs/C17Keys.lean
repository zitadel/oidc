/-
  C17: the keys of the cookie handler.

  The property speaks about "a cookie minted under another key".  Which key a handler verifies with is decided where the
  handler is CONSTRUCTED: `NewCookieHandler(hashKey, encryptKey, opts…)` (pkg/http/cookie.go) and its functional options.
  They are regenerated here (Generated/RPCookieNew.lean); `securecookie.New` is `Hand.securecookieNew`, which holds exactly the
  byte strings it is handed.  A helper the library applies to a key before that call is part of the regenerated definition
  (or makes it UNSUPPORTED), and the characterisation lemma `newCookieHandler_eq` stops checking.

  Keys are compared AS BYTE STRINGS (any length, sharing any prefix, one a prefix of the other, differing in the last byte only);
  `c17_callback_holds_configured` / `c17_login_holds_configured` are `c17_callback_holds` / `c17_login_holds` with the monitor told
  the CONFIGURED keys instead of the keys read off the handler.
-/
import OidcModel.Proofs.C17
import OidcModel.Generated.RPCookieNew
import OidcModel.GoTac

namespace C17Keys
open C17 RPBrowser Gen Go Hand

theorem withUnsecure_eq (now : Int) (c : CookieHandler) : WithUnsecure now c = { c with secureOnly := false } := by
  go_char WithUnsecure

theorem withSameSite_eq (now : Int) (n : Int) (c : CookieHandler) : WithSameSite now n c = { c with sameSite := n } := by
  go_char WithSameSite

theorem withMaxAge_eq (now : Int) (n : Int) (c : CookieHandler) :
    WithMaxAge now n c = { c with maxAge := n, securecookie := { c.securecookie with maxAge := n } } := by
  go_char WithMaxAge SecureCookie.MaxAge

theorem withDomain_eq (now : Int) (d : String) (c : CookieHandler) : WithDomain now d c = { c with domain := d } := by
  go_char WithDomain

theorem withPath_eq (now : Int) (p : String) (c : CookieHandler) : WithPath now p c = { c with path := p } := by
  go_char WithPath

/-- the handler before its options: the codec `securecookie.New` builds from EXACTLY the configured byte strings -/
def baseHandler (hashKey encryptKey : CookieKey) : CookieHandler :=
  { securecookie := { hashKey := hashKey, blockKey := encryptKey }, secureOnly := true, sameSite := 2, path := "/" }

theorem newCookieHandler_eq (now : Int) (hk ek : CookieKey) (opts : List CookieHandlerOpt) :
    NewCookieHandler now hk ek opts = opts.foldl (fun c o => o c) (baseHandler hk ek) := by
  go_char NewCookieHandler GoX.foldList Hand.securecookieNew baseHandler Http.SameSiteLaxMode

/-- the functional options pkg/http/cookie.go offers -/
inductive ChOpt
  | unsecure
  | sameSite (n : Int)
  | maxAge (n : Int)
  | domain (d : String)
  | path (p : String)
  deriving Repr, DecidableEq

def ChOpt.denote (now : Int) : ChOpt → CookieHandlerOpt
  | .unsecure => WithUnsecure now
  | .sameSite n => WithSameSite now n
  | .maxAge n => WithMaxAge now n
  | .domain d => WithDomain now d
  | .path p => WithPath now p

def KeyPreserving (o : CookieHandlerOpt) : Prop :=
  ∀ c, (o c).securecookie.hashKey = c.securecookie.hashKey ∧ (o c).securecookie.blockKey = c.securecookie.blockKey

theorem denote_keyPreserving (now : Int) (d : ChOpt) : KeyPreserving (d.denote now) := by
  intro c
  cases d <;> simp [ChOpt.denote, withUnsecure_eq, withSameSite_eq, withMaxAge_eq, withDomain_eq, withPath_eq]

theorem foldl_keys (opts : List CookieHandlerOpt) (h : ∀ o ∈ opts, KeyPreserving o) (c : CookieHandler) :
    (opts.foldl (fun c o => o c) c).securecookie.hashKey = c.securecookie.hashKey ∧
    (opts.foldl (fun c o => o c) c).securecookie.blockKey = c.securecookie.blockKey := by
  induction opts generalizing c with
  | nil => exact ⟨rfl, rfl⟩
  | cons o os ih =>
    simp only [List.foldl_cons]
    have h1 := ih (fun o' ho' => h o' (List.mem_cons_of_mem _ ho')) (o c)
    have h2 := h o (List.mem_cons_self ..) c
    exact ⟨h1.1.trans h2.1, h1.2.trans h2.2⟩

/-- THE key fact: whatever key-preserving options are applied, in whatever order, the handler's MAC key is exactly the configured
    hash key and its cipher key exactly the configured encrypt key (byte for byte, any length) -/
theorem newCookieHandler_keys_of (now : Int) (hk ek : CookieKey) (opts : List CookieHandlerOpt) (h : ∀ o ∈ opts, KeyPreserving o) :
    (NewCookieHandler now hk ek opts).securecookie.hashKey = hk ∧ (NewCookieHandler now hk ek opts).securecookie.blockKey = ek := by
  rw [newCookieHandler_eq]
  exact foldl_keys opts h (baseHandler hk ek)

/-- … in particular for every list of the library's own options -/
theorem newCookieHandler_keys (now : Int) (hk ek : CookieKey) (ds : List ChOpt) :
    (NewCookieHandler now hk ek (ds.map (ChOpt.denote now))).securecookie.hashKey = hk ∧
    (NewCookieHandler now hk ek (ds.map (ChOpt.denote now))).securecookie.blockKey = ek := by
  apply newCookieHandler_keys_of
  intro o ho
  obtain ⟨d, _, rfl⟩ := List.mem_map.1 ho
  exact denote_keyPreserving now d

/-- the first cookie called `name` was minted under (k1, b1) for the cookie name `n` -/
def Presents (r : HttpReq) (name : String) (k1 b1 : CookieKey) (n value : String) : Prop :=
  ∃ c, r.cookies.find? (·.Name == name) = some c ∧ c.Value = .minted k1 b1 n value

theorem checkCookie_ok_iff (now : Int) (ch : CookieHandler) (r : HttpReq) (name v : String) :
    CheckCookie now ch r name = .ok v ↔
      ∃ c, r.cookies.find? (·.Name == name) = some c ∧
        c.Value = .minted ch.securecookie.hashKey ch.securecookie.blockKey name v := by
  rw [← toOpt_eq_some, checkCookie_spec now {} ch, signedValue_eq_some]
  rfl

theorem presents_of_checkCookie_ok {now : Int} {ch : CookieHandler} {r : HttpReq} {name v : String} {k1 b1 : CookieKey} {n value : String}
    (hok : CheckCookie now ch r name = .ok v) (hp : Presents r name k1 b1 n value) :
    k1 = ch.securecookie.hashKey ∧ b1 = ch.securecookie.blockKey ∧ n = name ∧ value = v := by
  obtain ⟨c, hc, hv⟩ := (checkCookie_ok_iff now ch r name v).1 hok
  obtain ⟨c', hc', hv'⟩ := hp
  cases hc.symm.trans hc'
  cases hv.symm.trans hv'
  exact ⟨rfl, rfl, rfl, rfl⟩

/-- for ALL byte strings (k1, b1) ≠ (k2, b2): a cookie minted under (k1, b1) is refused by a handler CONSTRUCTED with (k2, b2),
    whatever options it was given, whatever cookie name it is presented under and whatever it was minted for -/
theorem c17_other_key_rejected (now : Int) (k1 b1 k2 b2 : CookieKey) (hne : k1 ≠ k2 ∨ b1 ≠ b2)
    (opts : List CookieHandlerOpt) (hopts : ∀ o ∈ opts, KeyPreserving o)
    (r : HttpReq) (name n value : String) (hp : Presents r name k1 b1 n value) :
    ∀ v, CheckCookie now (NewCookieHandler now k2 b2 opts) r name ≠ .ok v := by
  intro v hok
  obtain ⟨h1, h2, _⟩ := presents_of_checkCookie_ok hok hp
  obtain ⟨e1, e2⟩ := newCookieHandler_keys_of now k2 b2 opts hopts
  rcases hne with h | h
  · exact h (h1.trans e1)
  · exact h (h2.trans e2)

/-- a cookie minted for another cookie name is refused (the names are compared as whole strings: `stat`, `states`, `STATE`
    are other names than `state`), also under the right keys -/
theorem c17_other_name_rejected (now : Int) (ch : CookieHandler) (k1 b1 : CookieKey) (r : HttpReq) (name n value : String)
    (hn : n ≠ name) (hp : Presents r name k1 b1 n value) :
    ∀ v, CheckCookie now ch r name ≠ .ok v :=
  fun v hok => hn (presents_of_checkCookie_ok hok hp).2.2.1

theorem setCookie_minted (now : Int) (ch : CookieHandler) (w : World) (name value : String) (c : Http.Cookie)
    (hc : c ∈ setCookiesOf (SetCookie now ch w name value).1) :
    c ∈ setCookiesOf w ∨ (c.Name = name ∧ c.Value = .minted ch.securecookie.hashKey ch.securecookie.blockKey name value) := by
  unfold SetCookie SecureCookie.Encode at hc
  by_cases he : ch.securecookie.encodable name value = true
  · simp only [he, if_true, Http.SetCookie, setCookiesOf, List.filterMap_append, List.mem_append] at hc
    rcases hc with hc | hc
    · exact Or.inl hc
    · simp only [List.filterMap_cons, List.filterMap_nil, List.mem_singleton] at hc
      exact Or.inr (by rw [hc]; exact ⟨rfl, rfl⟩)
  · simp only [he] at hc
    exact Or.inl hc

/-- handler A (constructed with k1, b1) sets a cookie, the browser presents it to handler B (constructed with other bytes): refused -/
theorem c17_cross_handler_rejected (now : Int) (k1 b1 k2 b2 : CookieKey) (hne : k1 ≠ k2 ∨ b1 ≠ b2)
    (optsA optsB : List CookieHandlerOpt) (hA : ∀ o ∈ optsA, KeyPreserving o) (hB : ∀ o ∈ optsB, KeyPreserving o)
    (nameA value : String) (c : Http.Cookie)
    (hc : c ∈ setCookiesOf (SetCookie now (NewCookieHandler now k1 b1 optsA) [] nameA value).1)
    (r : HttpReq) (name : String) (hr : r.cookies.find? (·.Name == name) = some { Name := name, Value := c.Value }) :
    ∀ v, CheckCookie now (NewCookieHandler now k2 b2 optsB) r name ≠ .ok v := by
  rcases setCookie_minted now _ [] nameA value c hc with h | ⟨_, hv⟩
  · simp [setCookiesOf] at h
  · obtain ⟨h1, h2⟩ := newCookieHandler_keys_of now k1 b1 optsA hA
    rw [h1, h2] at hv
    exact c17_other_key_rejected now k1 b1 k2 b2 hne optsB hB r name nameA value ⟨_, hr, hv⟩

/-- the monitor's configuration when it is told the keys the application CONFIGURED -/
def cfgConfigured (rp : RP) (hk ek : CookieKey) : Cfg :=
  { hashKey := hk, blockKey := ek, clientID := rp.oauthConfig.ClientID, redirectURI := rp.oauthConfig.RedirectURL,
    scopes := rp.oauthConfig.Scopes, pkce := rp.pkce }

theorem cfgOf_constructed (now : Int) (rp : RP) (hk ek : CookieKey) (opts : List CookieHandlerOpt)
    (hopts : ∀ o ∈ opts, KeyPreserving o) :
    cfgOf rp (NewCookieHandler now hk ek opts) = cfgConfigured rp hk ek := by
  obtain ⟨h1, h2⟩ := newCookieHandler_keys_of now hk ek opts hopts
  simp [cfgOf, cfgConfigured, h1, h2]

/-- `c17_callback_holds` for an RP whose cookie handler is what `NewCookieHandler` builds from the configured keys: the monitor -
    which knows the CONFIGURED byte strings, not the handler's inside - accepts every run of the callback handler -/
theorem c17_callback_holds_configured (now : Int) (rp : RP) (hk ek : CookieKey) (opts : List CookieHandlerOpt)
    (hopts : ∀ o ∈ opts, KeyPreserving o) (h : rp.cookieHandler = some (NewCookieHandler now hk ek opts))
    (urlParam : List UrlOpt) (r : HttpReq) :
    judgeCallback (cfgConfigured rp hk ek) r.cookies r.form
      (observeCallback (CodeExchangeHandler now rp urlParam [] r)) = none := by
  rw [← cfgOf_constructed now rp hk ek opts hopts]
  exact c17_callback_holds now rp _ h urlParam r

/-- the same for the login handler -/
theorem c17_login_holds_configured (now : Int) (state rnd : String) (rp : RP) (hk ek : CookieKey) (opts : List CookieHandlerOpt)
    (hopts : ∀ o ∈ opts, KeyPreserving o) (h : rp.cookieHandler = some (NewCookieHandler now hk ek opts))
    (hage : 0 ≤ (NewCookieHandler now hk ek opts).maxAge) (urlParam : List UrlOpt) (hres : NoReserved urlParam) (r : HttpReq) :
    judgeLogin (cfgConfigured rp hk ek) (observeLogin (AuthURLHandler now state rnd rp urlParam [] r)) = none := by
  rw [← cfgOf_constructed now rp hk ek opts hopts]
  exact c17_login_holds now state rnd rp _ h hage urlParam hres r

/-- the state cookie of a handler with OTHER configured bytes (another tenant, the key before a rotation, a key that shares its
    first 16 / 24 / 32 / 64 bytes, a prefix or an extension of this RP's key) at this RP's callback, with whatever state parameter:
    the unauthorized handler runs, nothing is sent to the provider, the application callback does not run -/
theorem c17_foreign_cookie_unauthorized (now : Int) (rp : RP) (k1 b1 k2 b2 : CookieKey) (hne : k1 ≠ k2 ∨ b1 ≠ b2)
    (opts : List CookieHandlerOpt) (hopts : ∀ o ∈ opts, KeyPreserving o)
    (h : rp.cookieHandler = some (NewCookieHandler now k2 b2 opts))
    (urlParam : List UrlOpt) (r : HttpReq) (n value : String) (hp : Presents r "state" k1 b1 n value) :
    let obs := observeCallback (CodeExchangeHandler now rp urlParam [] r)
    obs.tokenRequests = [] ∧ obs.callback = none ∧ obs.unauthorized = true := by
  apply c17_no_request_without_state now rp _ h urlParam r
  rw [← checkCookie_spec now rp]
  exact fun hcc => c17_other_key_rejected now k1 b1 k2 b2 hne opts hopts r "state" n value hp _ (toOpt_eq_some.1 hcc)

/-- a 64-byte master secret -/
def master : CookieKey := List.replicate 64 7
def tenantA : CookieKey := master ++ [58, 97]   -- master ++ ":a"
def tenantB : CookieKey := master ++ [58, 98]   -- master ++ ":b"

def rpB : RP :=
  { exRP with cookieHandler := some (NewCookieHandler 0 tenantB [] [WithUnsecure 0, WithMaxAge 0 600]) }

/-- tenant A's cookies at tenant B's callback (keys share their first 64 bytes): unauthorized, no token request -/
example : observeCallback (CodeExchangeHandler 0 rpB [] []
    { cookies := [{ Name := "state", Value := .minted tenantA [] "state" "s1" }, { Name := "pkce", Value := .minted tenantA [] "pkce" "v1" }],
      form := exQuery }) = { unauthorized := true } := by decide +kernel

/-- tenant B's own cookies: exchanged -/
example : (observeCallback (CodeExchangeHandler 0 rpB [] []
    { cookies := [{ Name := "state", Value := .minted tenantB [] "state" "s1" }, { Name := "pkce", Value := .minted tenantB [] "pkce" "v1" }],
      form := exQuery })).callback = some "s1" := by decide +kernel

/-- a key that is a proper prefix of the configured one, and one that differs in the last byte only -/
example : observeCallback (CodeExchangeHandler 0 rpB [] []
    { cookies := [{ Name := "state", Value := .minted master [] "state" "s1" }], form := exQuery }) = { unauthorized := true } ∧
  observeCallback (CodeExchangeHandler 0 rpB [] []
    { cookies := [{ Name := "state", Value := .minted (master ++ [58, 99]) [] "state" "s1" }], form := exQuery }) = { unauthorized := true } := by
  decide +kernel

/-- cookie names that are prefixes / extensions of `state`: a cookie CALLED `states` is not read, a cookie minted FOR `stat` is refused -/
example : observeCallback (CodeExchangeHandler 0 rpB [] []
    { cookies := [{ Name := "states", Value := .minted tenantB [] "state" "s1" }], form := exQuery }) = { unauthorized := true } ∧
  observeCallback (CodeExchangeHandler 0 rpB [] []
    { cookies := [{ Name := "state", Value := .minted tenantB [] "stat" "s1" }], form := exQuery }) = { unauthorized := true } := by
  decide +kernel

/-- the options do what their names say and leave the keys alone -/
example : (NewCookieHandler 0 tenantB [1, 2] [WithUnsecure 0, WithPath 0 "/app", WithDomain 0 "rp.local", WithSameSite 0 3, WithMaxAge 0 600]).securecookie.hashKey = tenantB := by
  decide +kernel

end C17Keys
