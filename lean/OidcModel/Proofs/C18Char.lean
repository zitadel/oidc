/-
  C18, layer 1: ONE characterisation lemma per regenerated function of the logout slice, and hand-readable reference
  functions (`ref…`) they are stated against.  The definitions of Generated/Session.lean (and the checks of
  Generated/OidcVerifier.lean / RPVerifier.lean the hint verifier calls) are characterised here, the key-set wiring of
  Generated/SessionKeys.lean in Proofs/C18.lean; the scripts are the shape-independent `go_char` / `go_spec` (OidcModel/GoTac.lean) and `go_paths`
  (Proofs/C02.lean): unfold, split every `if` / `match` whatever the shape, close every branch.  A semantically
  neutral rewrite of the Go text (local variable for a getter, inverted `if`, early return instead of `else`,
  `slices.Contains` for a hand-written loop, merged / reordered guards, an extracted helper) regenerates another term
  and the same scripts still close; a rewrite that changes what a function computes leaves an unprovable goal here.
  Proofs/C18.lean, C18History.lean, C18Deep.lean see these definitions through the lemmas below.
-/
import OidcModel.Spec.C18
import OidcModel.Generated.Session
import OidcModel.Model.SessionFlow
import OidcModel.Proofs.C02
import OidcModel.GoTac
namespace C18
open Go Gen Hand

/-! ### loops: `Go.forFirst` is `List.findSome?` -/

theorem forFirst_eq_findSome? {α β : Type} (l : List α) (f : α → Option β) : Go.forFirst l f = l.findSome? f := by
  induction l with
  | nil => rfl
  | cons a t ih => simp only [Go.forFirst, List.findSome?, ih]; cases f a <;> rfl

theorem forFirst_none {α β : Type} {l : List α} {f : α → Option β} (h : Go.forFirst l f = none) : ∀ x ∈ l, f x = none :=
  List.findSome?_eq_none_iff.mp (forFirst_eq_findSome? l f ▸ h)

theorem forFirst_some {α β : Type} {l : List α} {f : α → Option β} {r : β} (h : Go.forFirst l f = some r) :
    ∃ x ∈ l, f x = some r :=
  List.exists_of_findSome?_eq_some (forFirst_eq_findSome? l f ▸ h)

theorem forFirst_of_all_none {α β : Type} {l : List α} {f : α → Option β} (h : ∀ x ∈ l, f x = none) : Go.forFirst l f = none :=
  forFirst_eq_findSome? l f ▸ List.findSome?_eq_none_iff.mpr h

/-- a loop whose iterations either continue or leave with `r`, and one of which leaves, leaves with `r` -/
theorem forFirst_first {α β : Type} {l : List α} {f : α → Option β} {r : β}
    (h1 : ∀ x ∈ l, f x = none ∨ f x = some r) (h2 : ∃ x ∈ l, f x = some r) : Go.forFirst l f = some r := by
  cases hf : Go.forFirst l f with
  | none => obtain ⟨x, hx, hr⟩ := h2; rw [forFirst_none hf x hx] at hr; cases hr
  | some r' =>
    obtain ⟨x, hx, hr'⟩ := forFirst_some hf
    rcases h1 x hx with h | h <;> rw [h] at hr' <;> cases hr'
    rfl

/-- two loop bodies that agree pointwise give the same loop: lets a characterisation lemma replace the regenerated body —
    whatever its shape — by a named step function -/
theorem forFirst_congr {α β : Type} {l : List α} {f g : α → Option β} (h : ∀ x, f x = g x) : Go.forFirst l f = Go.forFirst l g := by
  rw [funext h]

@[simp] theorem hintClaims_valid (c : Claims) : hintClaims (HintOut.valid c) = c := rfl
@[simp] theorem hintClaims_expired (c : Claims) (e : String) : hintClaims (HintOut.expired c e) = c := rfl

theorem checkIssuer_ok {now : Int} {c : Claims} {iss : String} : CheckIssuer now c iss = .ok () ↔ c.iss = iss := by
  go_char CheckIssuer Claims.GetIssuer Go.ok

theorem parseToken_claimsOf {now : Int} {t : Token} {p : Payload} {c : Claims} :
    ParseToken now t = .ok (p, c) → claimsOf t = some c := by
  unfold ParseToken claimsOf
  go_paths

theorem checkSignature_claims {now : Int} {t : Token} {p : Payload} {c c' : Claims} {algs : List String} {ks : KeySet}
    (h : CheckSignature now t p c algs ks = .ok c') : ∃ alg, c' = c.SetSignatureAlgorithm alg := by
  obtain ⟨j, _, _, _, sp, _, _, hc⟩ := C02.checkSignature_paths h
  exact ⟨_, hc⟩

/-- the part of the hint verification that never looks at the clock: parse, issuer, signature, acr -/
def hintCore (now : Int) (t : Token) (v : Verifier) : Go.R Claims :=
  match ParseToken now t with
  | .error e => .error e
  | .ok (p, c0) =>
    match CheckIssuer now c0 v.Issuer with
    | .error e => .error e
    | .ok _ =>
      match CheckSignature now t p c0 v.SupportedSignAlgs v.KeySet with
      | .error e => .error e
      | .ok c1 =>
        match CheckAuthorizationContextClassReference now c1 v.ACR with
        | .error e => .error e
        | .ok _ => .ok c1

/-- the claims `VerifyIDTokenHint` hands back are those of `hintCore`: expiry, issued-at and auth_time failures are
    tolerated (`IDTokenHintExpiredError`), they only decide between `valid` and `expired` -/
theorem hint_claims (now : Int) (t : Token) (v : Verifier) :
    (VerifyIDTokenHint now t v).map hintClaims = hintCore now t v := by
  unfold hintCore
  repeat' split
  all_goals simp only [VerifyIDTokenHint, DecryptToken, *]
  -- what is left of the verifier on an accepted path are the three tolerated checks
  all_goals repeat' split
  all_goals rfl

/-- an accepted hint (valid OR expired) went through `ParseToken`, `CheckIssuer` against the verifier's issuer and
    `CheckSignature` under the verifier's allow-list and key set; the claims handed back are those `CheckSignature` returned -/
theorem hint_paths {now : Int} {t : Token} {v : Verifier} {out : HintOut} : VerifyIDTokenHint now t v = .ok out →
    ∃ p c0, ParseToken now t = .ok (p, c0) ∧ CheckIssuer now c0 v.Issuer = .ok () ∧
      ∃ c1, CheckSignature now t p c0 v.SupportedSignAlgs v.KeySet = .ok c1 ∧ hintClaims out = c1 := by
  intro h
  obtain ⟨p, c0, hp, hi, hs⟩ := C02.verifyIDTokenHint_paths h
  exact ⟨p, c0, hp, hi, _, hs, by cases out <;> rfl⟩

/-- the claims a hint verification hands back do not depend on the clock: none of the checks of `hintCore` reads it -/
theorem hint_time_independent (now now' : Int) (t : Token) (v : Verifier) :
    (VerifyIDTokenHint now t v).map hintClaims = (VerifyIDTokenHint now' t v).map hintClaims := by
  rw [hint_claims, hint_claims]; rfl

/-- `Provider.IDTokenHintVerifier(ctx)`: issuer of THIS request, the provider's hint key-set field, its configured allow-list -/
theorem providerVerifier_char (now : Int) (reqIssuer : String) (hp : HintProvider) :
    ProviderIDTokenHintVerifier now reqIssuer hp =
      { Issuer := reqIssuer, KeySet := hp.idTokenHinKeySet, SupportedSignAlgs := hp.idTokenHintVerifierOpts } := by
  go_char ProviderIDTokenHintVerifier Hand.newIDTokenHintVerifier

/-- one iteration of the glob loop: a matcher error leaves with `server_error`, a match leaves with success, otherwise on -/
def globStep (pm : String → String → Go.R Bool) (uri g : String) : Option (Go.R Unit) :=
  match pm g uri with
  | .error _ => some (.error "ErrServerError")
  | .ok true => some (.ok ())
  | .ok false => none

theorem globStep_eq (pm : String → String → Go.R Bool) (uri g : String) :
    globStep pm uri g = if globMatches pm g uri then some (.ok ()) else if (pm g uri).toBool then none else some (.error "ErrServerError") := by
  unfold globStep globMatches Except.toBool
  cases pm g uri with
  | error e => rfl
  | ok b => cases b <;> rfl

/-- hand-readable reference: exact list first; globs only for a client that opted in, only its POST-LOGOUT globs, in order -/
def refURI (o : SessOracles) (uri : String) (c : OPClient) : Go.R Unit :=
  if c.postLogoutURIs.contains uri then .ok ()
  else if c.is_HasRedirectGlobs then
    (match Go.forFirst c.PostLogoutRedirectURIGlobs (globStep o.pathMatch uri) with
     | some r => r
     | none => .error "ErrInvalidRequest")
  else .error "ErrInvalidRequest"

theorem validateURI_char (now : Int) (o : SessOracles) (uri : String) (c : OPClient) :
    ValidateEndSessionPostLogoutRedirectURI now o uri c = refURI o uri c := by
  unfold ValidateEndSessionPostLogoutRedirectURI refURI
  simp only []
  rw [forFirst_congr (g := globStep o.pathMatch uri)]
  · go_spec [OPClient.PostLogoutRedirectURIs, Go.ok, Go.contains_eq, Go.any_beq_right, Go.any_beq_left]
  · intro g
    unfold globStep
    go_spec [Go.ok]

/-- step 1 of `ValidateEndSessionRequest`: who is logging out (subject, client, hint claims) -/
def refIdentify (now : Int) (o : SessOracles) (r : EndSessionReq) (e : SessionEnder) : Go.R (String × String × Claims) :=
  if r.IdTokenHint != "" then
    match Hand.viaToken o.tokenOf (VerifyIDTokenHint now) r.IdTokenHint e.hintVerifier with
    | .error _ => .error "ErrInvalidRequest"
    | .ok out =>
      if r.ClientID != "" && r.ClientID != (hintClaims out).azp then .error "ErrInvalidRequest"
      else .ok ((hintClaims out).sub, (hintClaims out).azp, hintClaims out)
  else .ok ("", r.ClientID, default)

/-- step 2: the client's registration decides where to go (session client id, target URI) -/
def refTarget (now : Int) (o : SessOracles) (r : EndSessionReq) (e : SessionEnder) (cid : String) : Go.R (String × String) :=
  if cid != "" then
    match e.store.GetClientByClientID cid with
    | .error err => .error (sessDefaultToServerError now err "")
    | .ok client =>
      if r.PostLogoutRedirectURI != "" then
        match refURI o r.PostLogoutRedirectURI client with
        | .error err => .error err
        | .ok _ => .ok (client.id, r.PostLogoutRedirectURI)
      else .ok (client.id, e.defaultLogoutURI)
  else .ok ("", e.defaultLogoutURI)

/-- step 3: the state is appended -/
def refState (now : Int) (o : SessOracles) (r : EndSessionReq) (target : String) : Go.R String :=
  if r.State != "" then
    match o.urlParse target with
    | .error err => .error (sessDefaultToServerError now err "")
    | .ok u => .ok (sessMergeQueryParams now u [("state", [r.State])])
  else .ok target

/-- hand-readable reference of `ValidateEndSessionRequest` -/
def refValidate (now : Int) (o : SessOracles) (r : EndSessionReq) (e : SessionEnder) : Go.R EndSessionRequest :=
  match refIdentify now o r e with
  | .error err => .error err
  | .ok (uid, cid, claims) =>
    match refTarget now o r e cid with
    | .error err => .error err
    | .ok (scid, target) =>
      match refState now o r target with
      | .error err => .error err
      | .ok loc => .ok { UserID := uid, ClientID := scid, IDTokenHintClaims := if r.IdTokenHint != "" then claims else default, RedirectURI := loc }

/-- closes a path of `ValidateEndSessionRequest` against the reference; the third alternative sees through helpers an
    "extract function" rewrite introduced (factgen emits them as `@[simp] def`: `simp_all` unfolds them, the `match`es they
    bring along are split) -/
local macro "validate_close" : tactic => `(tactic| first
  | (simp_all [refValidate, refIdentify, refTarget, refState]; done)
  | (simp_all [refValidate, refIdentify, refTarget, refState]; grind)
  | (simp_all [refValidate, refIdentify, refTarget, refState] <;> (repeat' split) <;> first | (simp_all; done) | grind))

theorem validate_ok_ref {now : Int} {o : SessOracles} {r : EndSessionReq} {e : SessionEnder} {s : EndSessionRequest}
    (h : ValidateEndSessionRequest now o r e = .ok s) : refValidate now o r e = .ok s := by
  unfold ValidateEndSessionRequest at h
  simp only [validateURI_char, SessionEnder.Storage, SessionEnder.DefaultLogoutRedirectURI, SessionEnder.IDTokenHintVerifier,
    Claims.GetSubject, Claims.GetAuthorizedParty, OPClient.GetID] at h
  repeat' (split at h <;> try (simp at h))
  all_goals (subst_vars; by_cases hcid : r.ClientID = "" <;> validate_close)

theorem validate_err_ref {now : Int} {o : SessOracles} {r : EndSessionReq} {e : SessionEnder} {err : String}
    (h : ValidateEndSessionRequest now o r e = .error err) : refValidate now o r e = .error err := by
  unfold ValidateEndSessionRequest at h
  simp only [validateURI_char, SessionEnder.Storage, SessionEnder.DefaultLogoutRedirectURI, SessionEnder.IDTokenHintVerifier,
    Claims.GetSubject, Claims.GetAuthorizedParty, OPClient.GetID] at h
  repeat' (split at h <;> try (simp at h))
  all_goals ((try subst_vars); by_cases hcid : r.ClientID = "" <;> validate_close)

/-- bridge: the regenerated function IS the reference function -/
theorem validate_eq_ref (now : Int) (o : SessOracles) (r : EndSessionReq) (e : SessionEnder) :
    ValidateEndSessionRequest now o r e = refValidate now o r e := by
  cases h : ValidateEndSessionRequest now o r e with
  | ok s => exact (validate_ok_ref h).symm
  | error err => exact (validate_err_ref h).symm

theorem validate_stages {now : Int} {o : SessOracles} {r : EndSessionReq} {e : SessionEnder} {s : EndSessionRequest}
    (h : ValidateEndSessionRequest now o r e = .ok s) :
    ∃ uid cid cl scid target loc, refIdentify now o r e = .ok (uid, cid, cl) ∧ refTarget now o r e cid = .ok (scid, target) ∧
      refState now o r target = .ok loc ∧
      s = { UserID := uid, ClientID := scid, IDTokenHintClaims := if r.IdTokenHint != "" then cl else default, RedirectURI := loc } := by
  rw [validate_eq_ref] at h
  unfold refValidate at h
  split at h
  · simp at h
  rename_i uid cid cl hI
  split at h
  · simp at h
  rename_i scid target hT
  split at h
  · simp at h
  rename_i loc hS
  simp only [Except.ok.injEq] at h
  exact ⟨uid, cid, cl, scid, target, loc, hI, hT, hS, h.symm⟩

/-- `op.EndSession` (Provider router).  The storage is asked to terminate the session's (user, client) through `TerminateSession`
    or, when it implements `CanTerminateSessionFromRequest`, through `TerminateSessionFromRequest`, which also names the redirect;
    on the reference storage both come down to `termOK` and the redirect the framework proposed. -/
def refEndSession (now : Int) (o : SessOracles) (rq : Go.R EndSessionReq) (e : SessionEnder) : SessResp :=
  match rq with
  | .error _ => .httpError "ErrInvalidRequest" 500
  | .ok r =>
    match ValidateEndSessionRequest now o r e with
    | .error err => .requestError err
    | .ok s =>
      if e.store.termOK s.UserID s.ClientID then .redirect s.RedirectURI 302
      else .requestError (sessDefaultToServerError now "storage: terminate failed" "error terminating session")

theorem endSession_char (now : Int) (o : SessOracles) (rq : Go.R EndSessionReq) (e : SessionEnder) :
    EndSession now o rq e = refEndSession now o rq e := by
  unfold refEndSession
  cases hcan : e.store.is_CanTerminateSessionFromRequest
  all_goals go_spec [EndSession, Hand.parseEndSessionRequest, SessionEnder.Storage, SessionEnder.Decoder,
    SessStore.TerminateSession, SessStore.TerminateSessionFromRequest]

/-- `LegacyServer.EndSession` -/
def refLegacy (now : Int) (o : SessOracles) (e : SessionEnder) (r : EndSessionReq) : Go.R SessRedirect :=
  match ValidateEndSessionRequest now o r e with
  | .error err => .error err
  | .ok s => if e.store.termOK s.UserID s.ClientID then .ok ⟨s.RedirectURI⟩ else .error "storage: terminate failed"

theorem legacyEndSession_char (now : Int) (o : SessOracles) (s : SessLegacyServer) (r : Request EndSessionReq) :
    LegacyEndSession now o s r = refLegacy now o s.provider r.Data := by
  unfold refLegacy
  cases hcan : s.provider.store.is_CanTerminateSessionFromRequest
  all_goals go_spec [LegacyEndSession, SessionEnder.Storage, Hand.sessNewRedirect,
    SessStore.TerminateSession, SessStore.TerminateSessionFromRequest]

/-- `webServer.endSessionHandler` (Server router) -/
def refLegacyHandler (now : Int) (o : SessOracles) (rq : Go.R EndSessionReq) (e : SessionEnder) : SessResp :=
  match rq with
  | .error _ => .writeError "ErrInvalidRequest"
  | .ok r =>
    match refLegacy now o e r with
    | .error err => .writeError err
    | .ok resp => .writeOut resp

theorem legacyHandler_char (now : Int) (o : SessOracles) (rq : Go.R EndSessionReq) (s : SessWebServer) :
    LegacyEndSessionHandler now o rq s = refLegacyHandler now o rq s.legacy.provider := by
  unfold LegacyEndSessionHandler refLegacyHandler
  simp only [legacyEndSession_char]
  go_char Hand.decodeEndSession Hand.newRequest

end C18
