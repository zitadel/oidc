/-
  C18 proofs.  Everything is about the definitions REGENERATED from pkg/op/session.go, server_legacy.go and
  server_http.go (Generated/Session.lean) and about the regenerated key-set wiring of `NewProvider` /
  `WithAccessTokenKeySet` / `WithIDTokenHintKeySet` / the verifier getters (Generated/SessionKeys.lean).
  `validate_eq_ref` (Proofs/C18Char.lean) is the bridge: ValidateEndSessionRequest is the three-step reference function.
  The `…_configured` theorems are about any provider set up as `Configured` says; the headline theorems
  (`c18_redirect_sound`, `c18_hint_rules`, …) are about the provider `NewProvider` returns, for every option list
  (`c18_provider_configured`, through `c18_hint_keyset`).
  For ALL requests, registrations, key sets, oracle behaviours (glob matcher, SessURL parser, token parser) and
  storage behaviours (`termOK`); no bounds.
-/
import OidcModel.Proofs.C18Char
import OidcModel.Proofs.Query
namespace C18
open Go Gen Hand

/-- soundness of the URI check: accepted ⇒ registered exactly or via an opted-in glob (from `refURI`, layer 1: `validateURI_char`) -/
theorem refURI_sound {o : SessOracles} {uri : String} {c : OPClient}
    (h : refURI o uri c = .ok ()) : registered o.pathMatch c uri = true := by
  unfold refURI at h
  unfold registered
  split at h
  · simp_all
  split at h
  · rename_i hopt
    split at h
    · rename_i r hf
      subst h
      obtain ⟨g, hg, hfg⟩ := forFirst_some hf
      have hm : globMatches o.pathMatch g uri = true := by
        rw [globStep_eq] at hfg
        split at hfg
        · assumption
        · split at hfg <;> cases hfg
      -- `optedIn` / `plGlobs` are the getters `HasRedirectGlobs` / `PostLogoutRedirectURIGlobs` by definition
      simp only [Bool.or_eq_true, Bool.and_eq_true, List.any_eq_true]
      exact Or.inr ⟨hopt, g, hg, hm⟩
    · cases h
  · cases h

theorem uri_sound {now : Int} {o : SessOracles} {uri : String} {c : OPClient}
    (h : ValidateEndSessionPostLogoutRedirectURI now o uri c = .ok ()) : registered o.pathMatch c uri = true :=
  refURI_sound (by rw [← validateURI_char now]; exact h)

/-- a hint the regenerated verifier lets through (valid OR expired) is proven in the sense of the statement -/
theorem hint_sound {now : Int} {t : Token} {v : Verifier} {out : HintOut} (cfg : Cfg)
    (hi : v.Issuer = cfg.issuer) (hk : v.KeySet = cfg.hintKeySet) (ha : v.SupportedSignAlgs = cfg.algs)
    (h : VerifyIDTokenHint now t v = .ok out) :
    ∃ c, hintProven cfg t = some c ∧ hintDefect cfg t = none ∧ (hintClaims out).sub = c.sub ∧ (hintClaims out).azp = c.azp := by
  obtain ⟨p, c0, hp, hiss, c1, hs, hc⟩ := hint_paths h
  obtain ⟨alg, halg⟩ := checkSignature_claims hs
  have hacc := C02.parse_and_signature_sound hp hs
  have hco := parseToken_claimsOf hp
  have hmon : C02.monitor cfg.algs cfg.hintKeySet t (some c0) = none := by
    have e : C02.acceptedOK cfg.algs cfg.hintKeySet t c0 = none := by
      rw [← ha, ← hk, ← C02.acceptedOK_congr (c := c0) (c' := c1) (by rw [halg]; rfl)]
      exact hacc.1
    have hamb : C02.ambiguous cfg.hintKeySet t = false := by rw [← hk]; exact hacc.2
    exact C02.monitor_some.mpr ⟨e, hamb⟩
  have hissuer : c0.iss = cfg.issuer := by rw [← hi]; exact checkIssuer_ok.mp hiss
  refine ⟨c0, ?_, ?_, ?_, ?_⟩
  · simp [hintProven, hco, hmon, hissuer]
  · simp [hintDefect, hco, hmon, hissuer]
  · rw [hc, halg]; rfl
  · rw [hc, halg]; rfl

theorem qvals_nil (k : String) : qvals [] k = [] := rfl

theorem qvals_cons (kv : String × List String) (rest : List (String × List String)) (k : String) :
    qvals (kv :: rest) k = if kv.1 == k then kv.2 else qvals rest k := by
  simp only [qvals, List.find?_cons]
  cases kv.1 == k <;> rfl

theorem qvals_none (q : List (String × List String)) (k : String) (h : q.any (·.1 == k) = false) : qvals q k = [] := by
  induction q with
  | nil => rfl
  | cons kv rest ih =>
    simp only [List.any_cons, Bool.or_eq_false_iff] at h
    rw [qvals_cons, h.1]; exact ih h.2

theorem qvals_insertSorted (q : List (String × List String)) (k k' : String) (vs : List String)
    (h : q.any (·.1 == k) = false) : qvals (insertSorted q (k, vs)) k' = if k == k' then vs else qvals q k' := by
  induction q with
  | nil => simp [insertSorted, qvals_cons]
  | cons kv rest ih =>
    simp only [List.any_cons, Bool.or_eq_false_iff] at h
    simp only [insertSorted]
    split
    · rw [qvals_cons]
    · rw [qvals_cons, qvals_cons, ih h.2]
      by_cases hk : k = k'
      · subst hk; simp [h.1]
      · simp [hk]

theorem qvals_map_append (q : List (String × List String)) (k v k' : String) :
    qvals (q.map fun kv => if kv.1 == k then (kv.1, kv.2 ++ [v]) else kv) k' =
      qvals q k' ++ if k' == k && q.any (·.1 == k) then [v] else [] := by
  induction q with
  | nil => simp [qvals]
  | cons kv rest ih =>
    rw [List.map_cons, qvals_cons, qvals_cons, ih, List.any_cons]
    by_cases hk : (kv.1 == k) = true
    · obtain rfl := eq_of_beq hk
      by_cases hk' : k' = kv.1
      · subst hk'; simp
      · simp [hk', Ne.symm hk']
    · by_cases hk' : k' = k
      · -- `List.any_eq_true` would turn the condition of the `if` into a `∃` that is not decidable
        subst hk'; simp [hk, -List.any_eq_true]
      · simp [hk, hk']

/-- `url.Values.Add(k, v)`: one more value under `k`, every other key as before -/
theorem qvals_addParam (q : List (String × List String)) (k v k' : String) :
    qvals (addParam q k v) k' = qvals q k' ++ if k' == k then [v] else [] := by
  unfold addParam
  split
  · rename_i hany
    rw [qvals_map_append, hany, Bool.and_true]
  · rename_i hany
    rw [qvals_insertSorted _ _ _ _ (Bool.eq_false_iff.mpr hany)]
    by_cases hk : k' = k
    · subst hk; simp [qvals_none q k' (Bool.eq_false_iff.mpr hany)]
    · simp [hk, Ne.symm hk]

theorem queryPlusState_addParam (q : List (String × List String)) (s : String) :
    queryPlusState q (addParam q "state" s) s = true := by
  simp [queryPlusState, qvals_addParam]

/-- the request as the statement sees it -/
def reqOf (o : SessOracles) (r : EndSessionReq) : Req :=
  { hint := if r.IdTokenHint != "" then some (o.tokenOf r.IdTokenHint) else none,
    clientID := r.ClientID, plu := r.PostLogoutRedirectURI, state := r.State }

def orcOf (o : SessOracles) : Orc := { pathMatch := o.pathMatch, urlParse := o.urlParse }

structure Configured (cfg : Cfg) (e : SessionEnder) : Prop where
  clients : e.store.clients = cfg.clients
  dflt : e.defaultLogoutURI = cfg.defaultURI
  issuer : e.hintVerifier.Issuer = cfg.issuer
  keys : e.hintVerifier.KeySet = cfg.hintKeySet     -- the key set configured for hints, NOT the access-token key set
  algs : e.hintVerifier.SupportedSignAlgs = cfg.algs

/-! ### which key set the verifiers of a constructed provider use (regenerated wiring, Generated/SessionKeys.lean) -/
section keysets
open SessKeys

/-- what ONE option does to the key-set fields (the regenerated option functions): `WithAccessTokenKeySet` writes
    the access-token field, `WithIDTokenHintKeySet` the hint field, no other option touches either -/
theorem applyOption_fields {α : Type} (own : α) (s : St α) (n : String) (a : α) :
    (applyOption GenSessKeys.optionEffects own s (n, a)).fields =
      if n = "WithAccessTokenKeySet" then ("accessTokenKeySet", some a) :: s.fields
      else if n = "WithIDTokenHintKeySet" then ("idTokenHinKeySet", some a) :: s.fields else s.fields := by
  by_cases h1 : n = "WithAccessTokenKeySet"
  · subst h1; rfl
  · by_cases h2 : n = "WithIDTokenHintKeySet"
    · subst h2; rfl
    · simp [applyOption, GenSessKeys.optionEffects, effectsOf, h1, h2, Ne.symm h1, Ne.symm h2]

theorem applyOption_get {α : Type} (own : α) (s : St α) (n : String) (a : α) :
    SessKeys.get (applyOption GenSessKeys.optionEffects own s (n, a)).fields "idTokenHinKeySet" =
      (if n = "WithIDTokenHintKeySet" then some a else SessKeys.get s.fields "idTokenHinKeySet") ∧
    SessKeys.get (applyOption GenSessKeys.optionEffects own s (n, a)).fields "accessTokenKeySet" =
      (if n = "WithAccessTokenKeySet" then some a else SessKeys.get s.fields "accessTokenKeySet") := by
  rw [applyOption_fields]
  by_cases h1 : n = "WithAccessTokenKeySet"
  · subst h1; exact ⟨rfl, rfl⟩
  · by_cases h2 : n = "WithIDTokenHintKeySet"
    · subst h2; exact ⟨rfl, rfl⟩
    · simp [h1, h2]

/-- a loop over options in which only the option `name` writes what `read` reads: the LAST `name` wins -/
theorem foldl_lastArg {α σ : Type} {step : σ → String × α → σ} {read : σ → Option α} {name : String}
    (hstep : ∀ s n a, read (step s (n, a)) = if n = name then some a else read s) (opts : List (String × α)) (s : σ) :
    read (opts.foldl step s) = match lastArg name opts with | some a => some a | none => read s := by
  induction opts generalizing s with
  | nil => rfl
  | cons o rest ih =>
    rw [List.foldl_cons, ih, hstep, lastArg]
    cases lastArg name rest with
    | some b => rfl
    | none => by_cases h : o.1 = name <;> simp [h]

/-- the option loop: each field ends up with the argument of the LAST option that writes it, else keeps its content -/
theorem applyOptions_get {α : Type} (own : α) (opts : List (String × α)) (s : St α) :
    SessKeys.get (opts.foldl (applyOption GenSessKeys.optionEffects own) s).fields "idTokenHinKeySet" =
      (match lastArg "WithIDTokenHintKeySet" opts with | some a => some a | none => SessKeys.get s.fields "idTokenHinKeySet") ∧
    SessKeys.get (opts.foldl (applyOption GenSessKeys.optionEffects own) s).fields "accessTokenKeySet" =
      (match lastArg "WithAccessTokenKeySet" opts with | some a => some a | none => SessKeys.get s.fields "accessTokenKeySet") :=
  ⟨foldl_lastArg (read := fun s => SessKeys.get s.fields "idTokenHinKeySet") (fun s n a => (applyOption_get own s n a).1) opts s,
   foldl_lastArg (read := fun s => SessKeys.get s.fields "accessTokenKeySet") (fun s n a => (applyOption_get own s n a).2) opts s⟩

/-- C18, "a hint validly signed BY THE OP": for EVERY list of options passed to `NewProvider` (any order, repeats,
    other options in between) and every storage-backed key set `own`,
    * the verifier `Provider.IDTokenHintVerifier` builds verifies with the argument of the last `WithIDTokenHintKeySet`
      of the list, and without such an option with `own` (`&OpenIDKeySet{storage}`) — independently of every
      `WithAccessTokenKeySet` in the list;
    * that is the content of the field the regenerated getter `Gen.ProviderIDTokenHintVerifier` reads;
    * `Provider.AccessTokenVerifier` verifies with the last `WithAccessTokenKeySet` argument, else with `own`.
    About the REGENERATED `newProvider_keysets`, `optionEffects`, `verifierKeySets`. -/
theorem c18_hint_keyset {α : Type} (own : α) (opts : List (String × α)) :
    let s := run GenSessKeys.optionEffects own opts GenSessKeys.newProvider_keysets
    verifierKeySet GenSessKeys.verifierKeySets own s "IDTokenHintVerifier" = some ((lastArg "WithIDTokenHintKeySet" opts).getD own) ∧
    SessKeys.get s.fields "idTokenHinKeySet" = some ((lastArg "WithIDTokenHintKeySet" opts).getD own) ∧
    verifierKeySet GenSessKeys.verifierKeySets own s "AccessTokenVerifier" = some ((lastArg "WithAccessTokenKeySet" opts).getD own) := by
  intro s
  -- `s` is the option loop run on the two fields `NewProvider` initialises with the storage-backed key set
  obtain ⟨h1, h2⟩ := applyOptions_get own opts
    { locals := [("keySet", some own)], fields := [("idTokenHinKeySet", some own), ("accessTokenKeySet", some own)] }
  have g1 : SessKeys.get s.fields "idTokenHinKeySet" = some ((lastArg "WithIDTokenHintKeySet" opts).getD own) :=
    h1.trans (by cases lastArg "WithIDTokenHintKeySet" opts <;> rfl)
  have g2 : SessKeys.get s.fields "accessTokenKeySet" = some ((lastArg "WithAccessTokenKeySet" opts).getD own) :=
    h2.trans (by cases lastArg "WithAccessTokenKeySet" opts <;> rfl)
  exact ⟨g1, g1, g2⟩

/-- the same as a table: per option combination, the source of the key set of each verifier -/
theorem c18_keyset_table :
    SessKeys.table GenSessKeys.newProvider_keysets GenSessKeys.optionEffects GenSessKeys.verifierKeySets =
      [((false, false), [("IDTokenHintVerifier", some .storage), ("AccessTokenVerifier", some .storage)]),
       ((true, false), [("IDTokenHintVerifier", some .storage), ("AccessTokenVerifier", some .accessTokenOpt)]),
       ((false, true), [("IDTokenHintVerifier", some .idTokenHintOpt), ("AccessTokenVerifier", some .storage)]),
       ((true, true), [("IDTokenHintVerifier", some .idTokenHintOpt), ("AccessTokenVerifier", some .accessTokenOpt)])] := by
  decide +kernel

/-- the storage-backed key set takes its keys from `Storage.KeySet` (the keys the OP publishes and signs with) and nowhere else -/
theorem c18_openIDKeySet_storage : GenSessKeys.openIDKeySet_storageCalls = ["KeySet"] := by decide +kernel

end keysets

/-- the hint key set the configuration `cfg` names is what the option list `opts` asks for -/
def HintOpts (cfg : Cfg) (opts : List Sess.KeyOpt) : Prop :=
  SessKeys.lastArg "WithIDTokenHintKeySet" (opts.map Sess.KeyOpt.named) = cfg.hintKeys

/-- the provider `op.NewProvider` returns for the configuration `cfg` and the options `opts`, on a storage that
    behaves as `termOK` / `fromReq` say, serving a request addressed to `cfg.issuer` -/
def providerOf (now : Int) (cfg : Cfg) (opts : List Sess.KeyOpt) (termOK : String → String → Bool) (fromReq : Bool) : SessionEnder :=
  Sess.constructedEnder now cfg.issuer cfg.keys opts cfg.algs
    { clients := cfg.clients, termOK := termOK, is_CanTerminateSessionFromRequest := fromReq } cfg.defaultURI

/-- the hint verifier of that provider uses the key set configured for hints — whatever access-token key sets `opts` names -/
theorem providerOf_keySet (now : Int) (cfg : Cfg) (opts : List Sess.KeyOpt) (hopts : HintOpts cfg opts)
    (termOK : String → String → Bool) (fromReq : Bool) :
    (providerOf now cfg opts termOK fromReq).hintVerifier.KeySet = cfg.hintKeySet := by
  have h := (c18_hint_keyset cfg.keys (opts.map Sess.KeyOpt.named)).2.1
  simp only [providerOf, Sess.constructedEnder, Sess.providerEnder, providerVerifier_char, Sess.newProvider]
  unfold Sess.newProviderKeySets
  rw [h, hopts]
  rfl

/-- the provider of the real routers is configured as the statement assumes: its hint verifier is rebuilt for
    EVERY request from that request's issuer, the key set configured for hints (`c18_hint_keyset`) and the configured
    algorithms (regenerated `Provider.IDTokenHintVerifier`), for every list of options -/
theorem c18_provider_configured (now : Int) (cfg : Cfg) (opts : List Sess.KeyOpt) (hopts : HintOpts cfg opts)
    (termOK : String → String → Bool) (fromReq : Bool) :
    Configured cfg (providerOf now cfg opts termOK fromReq) :=
  ⟨rfl, rfl, by simp only [providerOf, Sess.constructedEnder, Sess.providerEnder, providerVerifier_char],
    providerOf_keySet now cfg opts hopts termOK fromReq,
    by simp only [providerOf, Sess.constructedEnder, Sess.providerEnder, providerVerifier_char, Sess.newProvider]⟩

/-- a hint the constructed provider's verifier lets through is validly signed under the key set configured for hints -/
theorem c18_hint_sound_provider {now : Int} {t : Token} {out : HintOut} (cfg : Cfg) (opts : List Sess.KeyOpt) (hopts : HintOpts cfg opts)
    (termOK : String → String → Bool) (fromReq : Bool)
    (h : VerifyIDTokenHint now t (providerOf now cfg opts termOK fromReq).hintVerifier = .ok out) :
    ∃ c, hintProven cfg t = some c ∧ hintDefect cfg t = none ∧ (hintClaims out).sub = c.sub ∧ (hintClaims out).azp = c.azp :=
  let hc := c18_provider_configured now cfg opts hopts termOK fromReq
  hint_sound cfg hc.issuer hc.keys hc.algs h

theorem identify_sound {cfg : Cfg} {e : SessionEnder} {now : Int} {o : SessOracles} {r : EndSessionReq}
    {uid cid : String} {cl : Claims} (hc : Configured cfg e) (h : refIdentify now o r e = .ok (uid, cid, cl)) :
    (reqOf o r).hint.bind (hintDefect cfg) = none ∧
    contradicts (proven cfg (reqOf o r)) r.ClientID = false ∧
    uid = ((proven cfg (reqOf o r)).map (·.sub)).getD "" ∧
    cid = provenClientID (reqOf o r) (proven cfg (reqOf o r)) := by
  unfold refIdentify at h
  split at h
  · rename_i hh
    split at h
    · cases h
    rename_i out hv
    split at h
    · cases h
    rename_i hcontra
    cases h
    obtain ⟨c, hp, hd, hsub, hazp⟩ := hint_sound cfg hc.issuer hc.keys hc.algs (by simpa [Hand.viaToken] using hv)
    have hhint : (reqOf o r).hint = some (o.tokenOf r.IdTokenHint) := by simp [reqOf, hh]
    have hprov : proven cfg (reqOf o r) = some c := by simp [proven, hhint, hp]
    refine ⟨by simp [hhint, hd], ?_, by rw [hprov, hsub]; rfl, by rw [hprov, hazp]; rfl⟩
    rw [hprov]
    show (r.ClientID != "" && r.ClientID != c.azp) = false
    rw [← hazp]; simpa using hcontra
  · rename_i hh
    cases h
    have hhint : (reqOf o r).hint = none := by simp [reqOf, hh]
    have hprov : proven cfg (reqOf o r) = none := by simp [proven, hhint]
    exact ⟨by simp [hhint], by rw [hprov]; rfl, by rw [hprov]; rfl, by rw [hprov]; rfl⟩

theorem getClient_ok {s : SessStore} {id : String} {c : OPClient} (h : s.GetClientByClientID id = .ok c) :
    s.clients.find? (·.id == id) = some c ∧ c.id = id := by
  unfold SessStore.GetClientByClientID at h
  cases hf : s.clients.find? (·.id == id) with
  | none => by_cases hl : s.lookupOK id = true <;> simp [hf, hl] at h
  | some c' =>
    by_cases hl : s.lookupOK id = true
    · simp [hf, hl] at h; subst h
      exact ⟨rfl, by simpa using List.find?_some hf⟩
    · simp [hl] at h

theorem target_sound {cfg : Cfg} {e : SessionEnder} {now : Int} {o : SessOracles} {r : EndSessionReq}
    {cid scid target : String} (hc : Configured cfg e) (h : refTarget now o r e cid = .ok (scid, target)) :
    scid = cid ∧ target ∈ allowedTargets cfg (orcOf o) (reqOf o r) cid := by
  unfold refTarget at h
  split at h
  · rename_i hcid
    split at h
    · cases h
    rename_i client hg
    obtain ⟨hf, hid⟩ := getClient_ok hg
    have hl : lookup cfg cid = some client := by rw [lookup, ← hc.clients]; exact hf
    have hcid' : (cid == "") = false := by simpa using hcid
    split at h
    · rename_i hplu
      split at h
      · cases h
      rename_i hv
      cases h
      exact ⟨hid, by simp [allowedTargets, hcid', hl, reqOf, orcOf, hplu, refURI_sound hv]⟩
    · cases h
      exact ⟨hid, by simp [allowedTargets, hc.dflt]⟩
  · rename_i hcid
    cases h
    exact ⟨(by simpa using hcid : cid = "").symm, by simp [allowedTargets, hc.dflt]⟩

/-- the encoded `state` setting that is appended: `state=` and the query-escaped value -/
def stateSetting (st : String) : String := ofAscii (Query.encodePair (toBytes "state", toBytes st))

theorem encodeParams_state (st : String) : encodeParams [("state", [st])] = stateSetting st := by
  simp [encodeParams, stateSetting, flatten, addParam, insertSorted, pairBytes, Query.encode]

/-- the target `u` after `mergeQueryParams(u, {state})`, as a user agent reads the rendered string back (net/url as
    oracle for the split into parts): the query text is `u`'s own followed by the `state` setting, which decodes to
    one more `state` value (`c18_state_intact`); nothing else changes -/
def withState (u : SessURL) (st : String) : SessURL :=
  { u with rawQuery := joinQuery u.rawQuery (stateSetting st), query := addParam u.query "state" st }

theorem sessMerge_state (now : Int) (u : SessURL) (st : String) :
    sessMergeQueryParams now u [("state", [st])] = (withState u st).render := by
  simp [sessMergeQueryParams, encodeParams_state, withState, SessURL.render]

theorem state_sound {now : Int} {o : SessOracles} {r : EndSessionReq} {target loc : String}
    (h : refState now o r target = .ok loc) :
    (r.State = "" ∧ loc = target) ∨
    (r.State ≠ "" ∧ ∃ u, o.urlParse target = .ok u ∧ loc = (withState u r.State).render) := by
  unfold refState at h
  split at h
  · rename_i hs
    split at h
    · cases h
    rename_i u hu
    cases h
    exact Or.inr ⟨by simpa using hs, u, hu, sessMerge_state now u r.State⟩
  · rename_i hs
    cases h
    exact Or.inl ⟨by simpa using hs, rfl⟩

/-- the answer of either router, read off the regenerated handlers: a malformed form, a validation
    error and a storage failure are error answers, otherwise the user is sent to the session's URI -/
theorem handle_eq (rt : Sess.Router) (now : Int) (o : SessOracles) (rq : Go.R EndSessionReq) (e : SessionEnder) :
    Sess.handle rt now o rq e =
      match rq with
      | .error _ => (match rt with | .provider => .error 500 "" | .legacy => .error 400 "invalid_request")
      | .ok r =>
        match ValidateEndSessionRequest now o r e with
        | .error err => (match rt with | .provider => (SessResp.requestError err).canon | .legacy => (SessResp.writeError err).canon)
        | .ok s =>
          if e.store.termOK s.UserID s.ClientID then .redirect s.RedirectURI
          else (match rt with | .provider => .error 400 "server_error" | .legacy => .error 500 "server_error") := by
  -- status and code of the fixed error answers are read off `SessResp.canon` by evaluation
  cases rt <;> cases rq with
  | error x =>
    simp only [Sess.handle, endSession_char, legacyHandler_char, refEndSession, refLegacyHandler]
    decide +kernel
  | ok r =>
    simp only [Sess.handle, endSession_char, legacyHandler_char, refEndSession, refLegacyHandler, refLegacy, sessDefaultToServerError]
    cases ValidateEndSessionRequest now o r e with
    | error err => rfl
    | ok s =>
      simp only
      cases e.store.termOK s.UserID s.ClientID <;> simp only [Bool.false_eq_true, ↓reduceIte]
      all_goals first | decide +kernel | rfl

/-- `loc` is the rendering (`URL.String()`) of the SessURL `dec` a user agent is taken to decode from it
    (that the appended setting decodes to the `state` value and leaves the rest of the query alone is `c18_state_intact`) -/
def Rendered (loc : String) (dec : Go.R SessURL) : Prop := ∃ d, dec = .ok d ∧ loc = d.render

/-- what a user agent decodes from the model's redirect to `target` + state -/
def decodeOf (o : SessOracles) (target state : String) : Go.R SessURL :=
  match o.urlParse target with
  | .ok u => .ok (withState u state)
  | .error err => .error err

/-- the redirect an accepted request ends in is judged to be exactly its target -/
theorem verdict_exact {o : SessOracles} {st target loc : String}
    (h : (st = "" ∧ loc = target) ∨ (st ≠ "" ∧ ∃ u, o.urlParse target = .ok u ∧ loc = (withState u st).render)) :
    targetVerdict (orcOf o) st loc (decodeOf o target st) target = .exact ∧ (st ≠ "" → Rendered loc (decodeOf o target st)) := by
  rcases h with ⟨hs, hl⟩ | ⟨hs, u, hu, hl⟩
  · subst hl
    exact ⟨by simp [targetVerdict, hs], fun hne => absurd hs hne⟩
  · have hs' : (st == "") = false := by simpa using hs
    refine ⟨?_, fun _ => ⟨_, by simp only [decodeOf, hu], hl⟩⟩
    simp only [targetVerdict, hs', Bool.false_eq_true, if_false, orcOf, hu, decodeOf, withState,
      queryPlusState_addParam, beq_self_eq_true, Bool.and_self, if_true]

theorem validate_facts {cfg : Cfg} {e : SessionEnder} {now : Int} {o : SessOracles} {r : EndSessionReq} {s : EndSessionRequest}
    (hc : Configured cfg e) (h : ValidateEndSessionRequest now o r e = .ok s) :
    (reqOf o r).hint.bind (hintDefect cfg) = none ∧
    contradicts (proven cfg (reqOf o r)) r.ClientID = false ∧
    s.UserID = ((proven cfg (reqOf o r)).map (·.sub)).getD "" ∧
    s.ClientID = provenClientID (reqOf o r) (proven cfg (reqOf o r)) ∧
    ∃ target ∈ allowedTargets cfg (orcOf o) (reqOf o r) (provenClientID (reqOf o r) (proven cfg (reqOf o r))),
      (r.State = "" ∧ s.RedirectURI = target) ∨
      (r.State ≠ "" ∧ ∃ u, o.urlParse target = .ok u ∧ s.RedirectURI = (withState u r.State).render) := by
  obtain ⟨uid, cid, cl, scid, target, loc, hI, hT, hS, rfl⟩ := validate_stages h
  obtain ⟨hdef, hcon, huid, hcid⟩ := identify_sound hc hI
  obtain ⟨hscid, hmem⟩ := target_sound hc hT
  exact ⟨hdef, hcon, huid, by rw [hscid, hcid], target, by rw [← hcid]; exact hmem, state_sound hS⟩

/-- SOUNDNESS, every clause of the monitor at once: whatever `ValidateEndSessionRequest` accepts, sending the
    user to the session's URI after terminating the session's (user, client) satisfies the monitor — for every
    URL parser, also for targets whose own query it does not fully accept. -/
theorem validate_monitor {cfg : Cfg} {e : SessionEnder} {now : Int} {o : SessOracles} {r : EndSessionReq} {s : EndSessionRequest}
    (hc : Configured cfg e)
    (h : ValidateEndSessionRequest now o r e = .ok s) :
    ∃ dec, (r.State ≠ "" → Rendered s.RedirectURI dec) ∧
      monitor cfg (orcOf o) (reqOf o r) (.redirect s.RedirectURI dec [(s.UserID, s.ClientID)]) = none := by
  obtain ⟨hdef, hcon, huid, hcid, target, hmem, hloc⟩ := validate_facts hc h
  obtain ⟨hexact, hrend⟩ := verdict_exact hloc
  refine ⟨decodeOf o target r.State, hrend, ?_⟩
  have hmal : (reqOf o r).malformed = false := rfl
  have hcon : contradicts (proven cfg (reqOf o r)) (reqOf o r).clientID = false := hcon
  have hver : ((allowedTargets cfg (orcOf o) (reqOf o r) (provenClientID (reqOf o r) (proven cfg (reqOf o r)))).map
      (targetVerdict (orcOf o) (reqOf o r).state s.RedirectURI (decodeOf o target r.State))).contains .exact = true := by
    simp only [List.contains_eq_mem, List.mem_map, decide_eq_true_eq]
    exact ⟨target, hmem, hexact⟩
  simp only [monitor, hmal, hdef, hcon, hver, Bool.false_eq_true, if_false, Bool.not_true]
  simp [huid, hcid]

/-- completeness of the URI check: an exactly registered URI, or a glob match while no glob of the client
    breaks the matcher, is accepted (from `refURI`, layer 1: `validateURI_char`) -/
theorem refURI_complete {o : SessOracles} {uri : String} {c : OPClient}
    (h : c.postLogoutURIs.contains uri = true ∨ (globsClean o.pathMatch c uri = true ∧ registered o.pathMatch c uri = true)) :
    refURI o uri c = .ok () := by
  unfold refURI
  by_cases hex : c.postLogoutURIs.contains uri = true
  · rw [if_pos hex]
  have hmem : ¬ uri ∈ c.postLogoutURIs := by simpa using hex
  obtain ⟨hclean, hreg⟩ := h.resolve_left hex
  obtain ⟨hopt, g, hg, hm⟩ : optedIn c = true ∧ ∃ g ∈ plGlobs c, globMatches o.pathMatch g uri = true := by
    simpa [registered, hmem] using hreg
  have hall : ∀ g' ∈ plGlobs c, (o.pathMatch g' uri).toBool = true := by simpa [globsClean, hopt] using hclean
  simp only [hex, Bool.false_eq_true, if_false, show c.is_HasRedirectGlobs = true from hopt, if_true]
  rw [forFirst_first (r := (.ok () : Go.R Unit))]
  · intro g' hg'
    rw [globStep_eq, hall g' hg']
    split <;> simp
  · exact ⟨g, hg, by rw [globStep_eq, hm]; rfl⟩
theorem uri_complete {now : Int} {o : SessOracles} {uri : String} {c : OPClient}
    (h : c.postLogoutURIs.contains uri = true ∨ (globsClean o.pathMatch c uri = true ∧ registered o.pathMatch c uri = true)) :
    ValidateEndSessionPostLogoutRedirectURI now o uri c = .ok () := by
  rw [validateURI_char]; exact refURI_complete h

theorem identify_time_independent (now now' : Int) (o : SessOracles) (r : EndSessionReq) (e : SessionEnder) :
    refIdentify now o r e = refIdentify now' o r e := by
  have h := hint_time_independent now now' (o.tokenOf r.IdTokenHint) e.hintVerifier
  unfold refIdentify Hand.viaToken
  cases h1 : VerifyIDTokenHint now (o.tokenOf r.IdTokenHint) e.hintVerifier <;>
    cases h2 : VerifyIDTokenHint now' (o.tokenOf r.IdTokenHint) e.hintVerifier <;>
    simp [h1, h2, Except.map] at h ⊢
  rw [h]

/-- "an expired but otherwise valid hint is still accepted for logout", in its strongest form: the whole
    decision (accept / reject, session, redirect) is the same at every instant -/
theorem c18_time_independent (now now' : Int) (o : SessOracles) (r : EndSessionReq) (e : SessionEnder) :
    ValidateEndSessionRequest now o r e = ValidateEndSessionRequest now' o r e := by
  rw [validate_eq_ref, validate_eq_ref]
  unfold refValidate
  rw [identify_time_independent now now']
  rfl

/-- key selection is complete for this verifier: a hint that is genuine in the sense of the statement is
    let through by `VerifyIDTokenHint` at SOME instant.  (C02 proves soundness of key selection only; with two
    published keys of the same key id the first one is tried and the second never, so this is a hypothesis.) -/
def HintComplete (cfg : Cfg) (v : Verifier) : Prop :=
  ∀ t c, hintProven cfg t = some c → ∃ now out, VerifyIDTokenHint now t v = .ok out

/-- the client `mustAccept` judges is the one `refIdentify` arrives at -/
theorem identify_complete {cfg : Cfg} {e : SessionEnder} (now : Int) {o : SessOracles} {r : EndSessionReq}
    (hc : Configured cfg e) (hcomp : HintComplete cfg e.hintVerifier) (hm : mustAccept cfg (orcOf o) (reqOf o r) = true) :
    ∃ uid cl, refIdentify now o r e = .ok (uid, provenClientID (reqOf o r) (proven cfg (reqOf o r)), cl) := by
  simp only [mustAccept, Bool.and_eq_true] at hm
  obtain ⟨⟨⟨_, hh⟩, hcon⟩, _⟩ := hm
  unfold refIdentify
  by_cases hhint : r.IdTokenHint = ""
  · have h1 : (reqOf o r).hint = none := by simp [reqOf, hhint]
    have h2 : proven cfg (reqOf o r) = none := by simp [proven, h1]
    refine ⟨"", default, ?_⟩
    rw [h2]
    simp [hhint, provenClientID, reqOf]
  · have hb : (r.IdTokenHint != "") = true := by simpa using hhint
    have h1 : (reqOf o r).hint = some (o.tokenOf r.IdTokenHint) := by simp [reqOf, hhint]
    rw [h1] at hh
    obtain ⟨c, hpc⟩ := Option.isSome_iff_exists.mp hh
    have h2 : proven cfg (reqOf o r) = some c := by simp [proven, h1, hpc]
    obtain ⟨now0, out0, hv0⟩ := hcomp _ _ hpc
    have hti := hint_time_independent now0 now (o.tokenOf r.IdTokenHint) e.hintVerifier
    rw [hv0] at hti
    cases hv : VerifyIDTokenHint now (o.tokenOf r.IdTokenHint) e.hintVerifier with
    | error x => simp [hv, Except.map] at hti
    | ok out =>
      obtain ⟨c', hp', _, _, hazp⟩ := hint_sound cfg hc.issuer hc.keys hc.algs hv
      obtain rfl : c = c' := Option.some.inj (hpc.symm.trans hp')
      rw [h2, Bool.not_eq_true'] at hcon
      have hcon' : (r.ClientID != "" && r.ClientID != c.azp) = false := hcon
      refine ⟨(hintClaims out).sub, hintClaims out, ?_⟩
      simp only [hb, if_true, Hand.viaToken, hv, Bool.false_eq_true, if_false, h2, provenClientID, hazp, hcon']

theorem getClient_complete {s : SessStore} {id : String} {c : OPClient} (hl : s.lookupOK id = true)
    (h : s.clients.find? (·.id == id) = some c) : s.GetClientByClientID id = .ok c := by
  simp [SessStore.GetClientByClientID, h, hl]

/-- the target `mustAccept` demands for the proven client is the one `refTarget` arrives at -/
theorem target_complete {cfg : Cfg} {e : SessionEnder} (now : Int) {o : SessOracles} {r : EndSessionReq}
    (hc : Configured cfg e) (hlook : ∀ id, e.store.lookupOK id = true) (hm : mustAccept cfg (orcOf o) (reqOf o r) = true) :
    ∃ scid target, refTarget now o r e (provenClientID (reqOf o r) (proven cfg (reqOf o r))) = .ok (scid, target) ∧
      (r.State = "" ∨ (o.urlParse target).toBool = true) := by
  simp only [mustAccept, Bool.and_eq_true] at hm
  obtain ⟨_, ht⟩ := hm
  generalize provenClientID (reqOf o r) (proven cfg (reqOf o r)) = cid at ht ⊢
  split at ht
  · cases ht
  rename_i t htarget
  have hst : r.State = "" ∨ (o.urlParse t).toBool = true := by simpa [reqOf, orcOf] using ht
  unfold refTarget
  split at htarget
  · rename_i h0
    cases htarget
    exact ⟨"", _, by simp [show cid = "" by simpa using h0, hc.dflt], hst⟩
  rename_i h0
  split at htarget
  · cases htarget
  rename_i c hl
  have hg := getClient_complete (hlook cid) (by rw [hc.clients]; exact hl)
  simp only [show (cid != "") = true by simpa using h0, if_true, hg]
  split at htarget
  · rename_i hplu
    cases htarget
    exact ⟨c.id, _, by simp [show r.PostLogoutRedirectURI = "" by simpa [reqOf] using hplu, hc.dflt], hst⟩
  rename_i hplu
  split at htarget
  · rename_i hreg
    cases htarget
    have hv : refURI o r.PostLogoutRedirectURI c = .ok () := refURI_complete (by simpa [reqOf, orcOf] using hreg)
    exact ⟨c.id, _, by simp [show r.PostLogoutRedirectURI ≠ "" by simpa [reqOf] using hplu, hv, reqOf], hst⟩
  · cases htarget

/-- COMPLETENESS: a logout request that fulfils every rule of the statement is accepted -/
theorem validate_complete {cfg : Cfg} {e : SessionEnder} (now : Int) {o : SessOracles} {r : EndSessionReq}
    (hc : Configured cfg e) (hcomp : HintComplete cfg e.hintVerifier) (hlook : ∀ id, e.store.lookupOK id = true)
    (hm : mustAccept cfg (orcOf o) (reqOf o r) = true) : ∃ s, ValidateEndSessionRequest now o r e = .ok s := by
  obtain ⟨scid, target, hT, hst⟩ := target_complete now hc hlook hm
  obtain ⟨uid, cl, hI⟩ := identify_complete now hc hcomp hm
  have hS : ∃ loc, refState now o r target = .ok loc := by
    unfold refState
    rcases hst with hs | hu
    · exact ⟨target, by simp [hs]⟩
    · cases hp : o.urlParse target with
      | error x => simp [hp, Except.toBool] at hu
      | ok u => split <;> exact ⟨_, rfl⟩
  obtain ⟨loc, hS⟩ := hS
  rw [validate_eq_ref]
  simp only [refValidate, hI, hT, hS]
  exact ⟨_, rfl⟩

/-- the request the monitor judges: a form that cannot be parsed is `malformed` -/
def monReq (o : SessOracles) (rq : Go.R EndSessionReq) : Req :=
  match rq with
  | .ok r => reqOf o r
  | .error _ => { hint := none, clientID := "", plu := "", state := "", malformed := true }

theorem handle_redirect {rt : Sess.Router} {now : Int} {o : SessOracles} {rq : Go.R EndSessionReq} {e : SessionEnder} {loc : String}
    (h : Sess.handle rt now o rq e = .redirect loc) :
    ∃ r s, rq = .ok r ∧ ValidateEndSessionRequest now o r e = .ok s ∧ e.store.termOK s.UserID s.ClientID = true ∧ loc = s.RedirectURI := by
  rw [handle_eq] at h
  split at h
  · cases rt <;> cases h
  rename_i r
  split at h
  · cases rt <;> simp [SessResp.canon] at h
  rename_i s hv
  split at h
  · rename_i ht
    cases h
    exact ⟨r, s, rfl, hv, ht, rfl⟩
  · cases rt <;> cases h

/-- C18, soundness, both routers, ALL URL-parser behaviours: every redirecting answer satisfies ALL clauses of the
    monitor, for the session (u, c) the storage was asked to terminate; since this holds for every storage
    behaviour `termOK`, the storage is asked exactly for the session the monitor demands. -/
theorem c18_redirect_sound_configured (rt : Sess.Router) {cfg : Cfg} {e : SessionEnder} {now : Int} {o : SessOracles}
    {rq : Go.R EndSessionReq} {loc : String} (hc : Configured cfg e)
    (h : Sess.handle rt now o rq e = .redirect loc) :
    ∃ u c dec, e.store.termOK u c = true ∧ ((monReq o rq).state ≠ "" → Rendered loc dec) ∧
      monitor cfg (orcOf o) (monReq o rq) (.redirect loc dec [(u, c)]) = none := by
  obtain ⟨r, s, rfl, hv, ht, rfl⟩ := handle_redirect h
  obtain ⟨dec, hr, hm⟩ := validate_monitor hc hv
  exact ⟨s.UserID, s.ClientID, dec, ht, hr, hm⟩

/-- C18 clause "redirect only to the default URI or a URI registered for the proven client", full strength -/
theorem c18_redirect_registered_configured (rt : Sess.Router) {cfg : Cfg} {e : SessionEnder} {now : Int} {o : SessOracles}
    {rq : Go.R EndSessionReq} {loc : String} (hc : Configured cfg e) (h : Sess.handle rt now o rq e = .redirect loc) :
    ∃ r, rq = .ok r ∧
      ∃ target ∈ allowedTargets cfg (orcOf o) (reqOf o r) (provenClientID (reqOf o r) (proven cfg (reqOf o r))),
        (r.State = "" ∧ loc = target) ∨
        (r.State ≠ "" ∧ ∃ u, o.urlParse target = .ok u ∧ loc = (withState u r.State).render) := by
  obtain ⟨r, s, rfl, hv, _, rfl⟩ := handle_redirect h
  exact ⟨r, rfl, (validate_facts hc hv).2.2.2.2⟩

/-- C18 clauses about the hint: a redirect happens only if the hint (when present) is validly signed by this
    issuer — expired or not — and the `client_id` parameter does not contradict it -/
theorem c18_hint_rules_configured (rt : Sess.Router) {cfg : Cfg} {e : SessionEnder} {now : Int} {o : SessOracles}
    {rq : Go.R EndSessionReq} {loc : String} (hc : Configured cfg e) (h : Sess.handle rt now o rq e = .redirect loc) :
    ∃ r, rq = .ok r ∧ (reqOf o r).hint.bind (hintDefect cfg) = none ∧ contradicts (proven cfg (reqOf o r)) r.ClientID = false := by
  obtain ⟨r, s, rfl, hv, _, rfl⟩ := handle_redirect h
  exact ⟨r, rfl, (validate_facts hc hv).1, (validate_facts hc hv).2.1⟩

/-- C18 clause "the session terminated is that of the hint's subject and client": for EVERY storage behaviour,
    a redirect implies that terminating exactly (hint subject or "", proven client or "") succeeded -/
theorem c18_session_identity_configured (rt : Sess.Router) {cfg : Cfg} {e : SessionEnder} {now : Int} {o : SessOracles}
    {rq : Go.R EndSessionReq} {loc : String} (hc : Configured cfg e) (h : Sess.handle rt now o rq e = .redirect loc) :
    ∃ r, rq = .ok r ∧
      e.store.termOK (((proven cfg (reqOf o r)).map (·.sub)).getD "") (provenClientID (reqOf o r) (proven cfg (reqOf o r))) = true := by
  obtain ⟨r, s, rfl, hv, ht, rfl⟩ := handle_redirect h
  obtain ⟨_, _, hu, hcid, _⟩ := validate_facts hc hv
  exact ⟨r, rfl, by rw [← hu, ← hcid]; exact ht⟩

/-- C18, completeness, both routers: a rejecting answer satisfies the monitor, i.e. a logout request that
    fulfils every rule (in particular one with an EXPIRED but genuine hint) is not rejected — as long as the
    storage terminates sessions and key selection is complete (`HintComplete`). -/
theorem c18_rejected_configured (rt : Sess.Router) {cfg : Cfg} {e : SessionEnder} {now : Int} {o : SessOracles}
    {rq : Go.R EndSessionReq} {st : Nat} {code : String} (hc : Configured cfg e) (hcomp : HintComplete cfg e.hintVerifier)
    (hterm : ∀ u c, e.store.termOK u c = true) (hlook : ∀ id, e.store.lookupOK id = true)
    (h : Sess.handle rt now o rq e = .error st code) :
    monitor cfg (orcOf o) (monReq o rq) (.rejected []) = none := by
  cases rq with
  | error x => simp [monitor, monReq, mustAccept]
  | ok r =>
    cases hma : mustAccept cfg (orcOf o) (reqOf o r) with
    | false => simp [monitor, monReq, hma]
    | true =>
      obtain ⟨s, hv⟩ := validate_complete now hc hcomp hlook hma
      rw [handle_eq] at h
      simp only [hv, hterm, if_true] at h
      exact absurd h (by simp)

/-- a rejection never terminates a session: with a storage that refuses every termination nobody is redirected,
    so a redirect always goes through a successful termination -/
theorem c18_no_redirect_without_termination (rt : Sess.Router) {now : Int} {o : SessOracles} {rq : Go.R EndSessionReq}
    {e : SessionEnder} {loc : String} (hnone : ∀ u c, e.store.termOK u c = false) : Sess.handle rt now o rq e ≠ .redirect loc := by
  intro h
  obtain ⟨_, s, _, _, ht, _⟩ := handle_redirect h
  rw [hnone] at ht; simp at ht

/-! ### the headline theorems, about the provider `op.NewProvider` returns, for EVERY list of key-set options
    (through `c18_provider_configured`, i.e. `c18_hint_keyset`: the hint verifier uses the key set configured for hints) -/

/-- C18, soundness, both routers, every option list: every redirecting answer satisfies ALL clauses of the monitor -/
theorem c18_redirect_sound (rt : Sess.Router) (cfg : Cfg) (opts : List Sess.KeyOpt) (hopts : HintOpts cfg opts)
    (termOK : String → String → Bool) (fromReq : Bool) {now : Int} {o : SessOracles} {rq : Go.R EndSessionReq} {loc : String}
    (h : Sess.handle rt now o rq (providerOf now cfg opts termOK fromReq) = .redirect loc) :
    ∃ u c dec, termOK u c = true ∧ ((monReq o rq).state ≠ "" → Rendered loc dec) ∧
      monitor cfg (orcOf o) (monReq o rq) (.redirect loc dec [(u, c)]) = none :=
  c18_redirect_sound_configured rt (c18_provider_configured now cfg opts hopts termOK fromReq) h

/-- C18 clause "redirect only to the default URI or a URI registered for the proven client" -/
theorem c18_redirect_registered (rt : Sess.Router) (cfg : Cfg) (opts : List Sess.KeyOpt) (hopts : HintOpts cfg opts)
    (termOK : String → String → Bool) (fromReq : Bool) {now : Int} {o : SessOracles} {rq : Go.R EndSessionReq} {loc : String}
    (h : Sess.handle rt now o rq (providerOf now cfg opts termOK fromReq) = .redirect loc) :
    ∃ r, rq = .ok r ∧
      ∃ target ∈ allowedTargets cfg (orcOf o) (reqOf o r) (provenClientID (reqOf o r) (proven cfg (reqOf o r))),
        (r.State = "" ∧ loc = target) ∨
        (r.State ≠ "" ∧ ∃ u, o.urlParse target = .ok u ∧ loc = (withState u r.State).render) :=
  c18_redirect_registered_configured rt (c18_provider_configured now cfg opts hopts termOK fromReq) h

/-- C18 clauses about the hint: a redirect happens only if the hint (when present) is validly signed — under the key
    set configured for hints, never merely under an access-token key set — by this issuer, expired or not, and the
    `client_id` parameter does not contradict it -/
theorem c18_hint_rules (rt : Sess.Router) (cfg : Cfg) (opts : List Sess.KeyOpt) (hopts : HintOpts cfg opts)
    (termOK : String → String → Bool) (fromReq : Bool) {now : Int} {o : SessOracles} {rq : Go.R EndSessionReq} {loc : String}
    (h : Sess.handle rt now o rq (providerOf now cfg opts termOK fromReq) = .redirect loc) :
    ∃ r, rq = .ok r ∧ (reqOf o r).hint.bind (hintDefect cfg) = none ∧ contradicts (proven cfg (reqOf o r)) r.ClientID = false :=
  c18_hint_rules_configured rt (c18_provider_configured now cfg opts hopts termOK fromReq) h

/-- C18 clause "the session terminated is that of the hint's subject and client" -/
theorem c18_session_identity (rt : Sess.Router) (cfg : Cfg) (opts : List Sess.KeyOpt) (hopts : HintOpts cfg opts)
    (termOK : String → String → Bool) (fromReq : Bool) {now : Int} {o : SessOracles} {rq : Go.R EndSessionReq} {loc : String}
    (h : Sess.handle rt now o rq (providerOf now cfg opts termOK fromReq) = .redirect loc) :
    ∃ r, rq = .ok r ∧
      termOK (((proven cfg (reqOf o r)).map (·.sub)).getD "") (provenClientID (reqOf o r) (proven cfg (reqOf o r))) = true :=
  c18_session_identity_configured rt (c18_provider_configured now cfg opts hopts termOK fromReq) h

/-- C18, completeness: a logout request that fulfils every rule (hint genuine under the key set configured for hints,
    expired or not) is not rejected, as long as the storage terminates sessions and key selection is complete -/
theorem c18_rejected (rt : Sess.Router) (cfg : Cfg) (opts : List Sess.KeyOpt) (hopts : HintOpts cfg opts) (fromReq : Bool)
    {now : Int} {o : SessOracles} {rq : Go.R EndSessionReq} {st : Nat} {code : String}
    (hcomp : HintComplete cfg (providerOf now cfg opts (fun _ _ => true) fromReq).hintVerifier)
    (h : Sess.handle rt now o rq (providerOf now cfg opts (fun _ _ => true) fromReq) = .error st code) :
    monitor cfg (orcOf o) (monReq o rq) (.rejected []) = none :=
  c18_rejected_configured rt (c18_provider_configured now cfg opts hopts (fun _ _ => true) fromReq) hcomp (fun _ _ => rfl) (fun _ => rfl) h

theorem joinQuery_prefix (q enc : String) : ∃ rest, joinQuery q enc = q ++ rest := by
  unfold joinQuery
  split
  · rename_i h
    exact ⟨enc, by rw [beq_iff_eq.mp h]; simp⟩
  split
  · exact ⟨"&" ++ enc, String.append_assoc ..⟩
  · exact ⟨"", by simp⟩

/-- the query text of the target stays as it is: the redirect's query text starts with it, whatever it contains -/
theorem c18_query_kept (u : SessURL) (s : String) :
    ∃ rest, (withState u s).rawQuery = u.rawQuery ++ rest ∧ (withState u s).base = u.base ∧ (withState u s).frag = u.frag
      ∧ (withState u s).unread = u.unread := by
  obtain ⟨rest, h⟩ := joinQuery_prefix u.rawQuery (stateSetting s)
  exact ⟨rest, h, rfl, rfl, rfl⟩

/-- C18 clause "a supplied state is appended to the final redirect unchanged": the redirect is the rendering of the
    target with its own query text followed by `&` and the setting `state=<escaped state>`; decoding that query text
    (`url.ParseQuery`, on bytes, for EVERY existing query text — also one with settings the decoder rejects) gives the
    pairs of the target's own query exactly as before, followed by the pair (`state`, the state that was sent) -/
theorem c18_state_intact (now : Int) (u : SessURL) (s : String) (raw : List UInt8) :
    sessMergeQueryParams now u [("state", [s])] = (withState u s).render ∧
    (withState u s).rawQuery = joinQuery u.rawQuery (stateSetting s) ∧
    Query.parse (raw ++ 38 :: Query.encodePair (toBytes "state", toBytes s)) = Query.parse raw ++ [some (toBytes "state", toBytes s)] ∧
    Query.parse (Query.encodePair (toBytes "state", toBytes s)) = [some (toBytes "state", toBytes s)] ∧
    (qvals (withState u s).query "state").getLast? = some s := by
  have hp : Query.parse (Query.encodePair (toBytes "state", toBytes s)) = [some (toBytes "state", toBytes s)] := by
    have := Query.parse_encode [(toBytes "state", toBytes s)]
    simpa [Query.encode] using this
  refine ⟨sessMerge_state now u s, rfl, ?_, hp, ?_⟩
  · unfold Query.parse at hp ⊢
    rw [Query.splitOn_append_any, List.filter_append, List.map_append, hp]
  · simp only [withState]; rw [qvals_addParam]; simp

/-! ### a registered URI whose own query Go's `ParseQuery` rejects in part -/
section unreadQuery
def wURI := "https://rp.example/lo?a=1;b=2"
def wClient : OPClient := { id := "web", postLogoutURIs := [wURI] }
def wCfg : Cfg := { issuer := "https://op.example", keys := {}, clients := [wClient], defaultURI := "https://op.example/out" }
/-- what net/url answers for `wURI`: `ParseQuery` reads no parameter, the setting `a=1;b=2` is rejected -/
def wOrc : SessOracles :=
  { pathMatch := fun _ _ => .ok false,
    urlParse := fun s => if s == wURI then .ok { base := "https://rp.example/lo", rawQuery := "a=1;b=2", query := [], unread := ["a=1;b=2"] } else .error "parse",
    tokenOf := fun _ => default }
def wReq : EndSessionReq := { ClientID := "web", PostLogoutRedirectURI := wURI, State := "s" }
def wEnder : SessionEnder :=
  { store := { clients := [wClient] }, defaultLogoutURI := "https://op.example/out", hintVerifier := { Issuer := "https://op.example" } }

theorem wConfigured : Configured wCfg wEnder := ⟨rfl, rfl, rfl, rfl, rfl⟩

def wU : SessURL := { base := "https://rp.example/lo", rawQuery := "a=1;b=2", query := [], unread := ["a=1;b=2"] }

/-- the regenerated code accepts the request and redirects to the URI WITH its own query, the state appended -/
example : ValidateEndSessionRequest 0 wOrc wReq wEnder =
    .ok { UserID := "", ClientID := "web", RedirectURI := sessMergeQueryParams 0 wU [("state", ["s"])] } := by
  rfl
/-- … i.e. `https://rp.example/lo?a=1;b=2&state=s`: base, `?`, the query text as registered, `&`, the state setting
    (the compiled driver prints exactly this string for the case; the kernel does not evaluate `String` primitives) -/
example : sessMergeQueryParams 0 wU [("state", ["s"])]
    = "https://rp.example/lo" ++ (if false || joinQuery "a=1;b=2" (stateSetting "s") != "" then "?" ++ joinQuery "a=1;b=2" (stateSetting "s") else "") ++ "" := by
  rw [sessMerge_state]; rfl

/-- … which the monitor accepts; a redirect that lost the setting is flagged -/
example (loc : String) : monitor wCfg (orcOf wOrc) (reqOf wOrc wReq) (.redirect loc (decodeOf wOrc wURI "s") [("", "web")]) = none := by
  rfl
example (loc : String) : monitor wCfg (orcOf wOrc) (reqOf wOrc wReq)
    (.redirect loc (.ok { base := "https://rp.example/lo", rawQuery := "state=s", query := [("state", ["s"])] }) [("", "web")])
      = some "redirect:query-altered" := by
  rfl
end unreadQuery

/-! ### non-vacuity: concrete accepted and rejected requests, on both routers -/
section examples
def xKey : JWK := { KeyID := "sig1", Use := "sig", kty := .rsa, keyNo := 0 }
def xKS : KeySet := { kind := .published, keys := [xKey] }
/-- a hint that expired long ago -/
def xClaims : Claims := { iss := "https://op.example", sub := "user1", aud := ["web"], azp := "web", exp := 1000, iat := 900 }
def xH : JHeader := { Algorithm := "RS256", KeyID := "sig1" }
def xTok (c : Claims) (bytes signer : Nat) : Token :=
  let p : Payload := { bytes := bytes, claims := some c }
  { segs := 3, middle := some p, jws := some { Signatures := [{ Header := xH, signer := some signer, signedAlg := "RS256", signedBytes := bytes, signedHdr := xH }], payload := p } }
def xWeb : OPClient := { id := "web", postLogoutURIs := ["https://rp.example/out"] }
def xGlob : OPClient := { id := "glob", globs := some ["https://*.rp.example/cb"], postLogoutGlobs := some ["https://glob.example/logout/*"] }
def xNoOpt : OPClient := { id := "noopt" }
def xOrc : SessOracles :=
  { pathMatch := fun g u => .ok (g == "https://glob.example/logout/*" && u == "https://glob.example/logout/done"),
    urlParse := fun s => .ok { base := s },
    tokenOf := fun s =>
      if s == "expired" then xTok xClaims 1 0
      else if s == "wrongkey" then xTok xClaims 1 7
      else if s == "foreign" then xTok { xClaims with iss := "https://other.example" } 2 0
      else default }
def xCfg : Cfg := { issuer := "https://op.example", keys := xKS, clients := [xWeb, xGlob, xNoOpt], defaultURI := "https://op.example/bye" }
def xEnder : SessionEnder :=
  { store := { clients := [xWeb, xGlob, xNoOpt] }, defaultLogoutURI := "https://op.example/bye",
    hintVerifier := { Issuer := "https://op.example", KeySet := xKS } }
def xNow : Int := 2000000000 * Go.second

example : Configured xCfg xEnder := ⟨rfl, rfl, rfl, rfl, rfl⟩
-- an EXPIRED but genuine hint logs out, on both routers, to the registered URI
example : Sess.handle .provider xNow xOrc (.ok { IdTokenHint := "expired", PostLogoutRedirectURI := "https://rp.example/out" }) xEnder
    = .redirect "https://rp.example/out" := by decide +kernel
example : Sess.handle .legacy xNow xOrc (.ok { IdTokenHint := "expired", ClientID := "web", PostLogoutRedirectURI := "https://rp.example/out" }) xEnder
    = .redirect "https://rp.example/out" := by decide +kernel
-- … and terminates exactly (user1, web): a storage that only allows that session is enough, any other refusal blocks
example : Sess.handle .provider xNow xOrc (.ok { IdTokenHint := "expired" })
    { xEnder with store := { xEnder.store with termOK := fun u c => u == "user1" && c == "web" } } = .redirect "https://op.example/bye" := by decide +kernel
example : Sess.handle .provider xNow xOrc (.ok { IdTokenHint := "expired" })
    { xEnder with store := { xEnder.store with termOK := fun u c => !(u == "user1" && c == "web") } } = .error 400 "server_error" := by decide +kernel
-- wrong key, foreign issuer, contradicting client_id, near-miss URI, unknown client: rejected
example : Sess.handle .provider xNow xOrc (.ok { IdTokenHint := "wrongkey" }) xEnder = .error 400 "invalid_request" := by decide +kernel
example : Sess.handle .legacy xNow xOrc (.ok { IdTokenHint := "foreign" }) xEnder = .error 400 "invalid_request" := by decide +kernel
example : Sess.handle .provider xNow xOrc (.ok { IdTokenHint := "expired", ClientID := "glob" }) xEnder = .error 400 "invalid_request" := by decide +kernel
example : Sess.handle .provider xNow xOrc (.ok { ClientID := "web", PostLogoutRedirectURI := "https://rp.example/out/" }) xEnder
    = .error 400 "invalid_request" := by decide +kernel
example : Sess.handle .provider xNow xOrc (.ok { ClientID := "nobody" }) xEnder = .error 400 "server_error" := by decide +kernel
example : Sess.handle .legacy xNow xOrc (.ok { ClientID := "nobody" }) xEnder = .error 500 "server_error" := by decide +kernel
-- globs: only for a client that opted in, only post-logout globs
example : Sess.handle .legacy xNow xOrc (.ok { ClientID := "glob", PostLogoutRedirectURI := "https://glob.example/logout/done" }) xEnder
    = .redirect "https://glob.example/logout/done" := by decide +kernel
example : Sess.handle .legacy xNow xOrc (.ok { ClientID := "noopt", PostLogoutRedirectURI := "https://glob.example/logout/done" }) xEnder
    = .error 400 "invalid_request" := by decide +kernel
-- a malformed form
example : Sess.handle .provider xNow xOrc (.error "bad form") xEnder = .error 500 "" := by decide +kernel
-- the monitor does flag wrong answers: unregistered target, somebody else's session, an untrusted hint, a needless rejection
example : monitor xCfg (orcOf xOrc) { hint := none, clientID := "web", plu := "https://evil.example/", state := "" }
    (.redirect "https://evil.example/" (.error "-") [("", "web")]) = some "redirect:unregistered-target" := by decide +kernel
example : monitor xCfg (orcOf xOrc) { hint := some (xTok xClaims 1 0), clientID := "", plu := "", state := "" }
    (.redirect "https://op.example/bye" (.error "-") [("user2", "web")]) = some "session:wrong-identity" := by decide +kernel
example : monitor xCfg (orcOf xOrc) { hint := some (xTok xClaims 1 7), clientID := "", plu := "", state := "" }
    (.redirect "https://op.example/bye" (.error "-") [("user1", "web")]) = some "hint:untrusted-signature" := by decide +kernel
example : monitor xCfg (orcOf xOrc) { hint := some (xTok xClaims 1 0), clientID := "", plu := "https://rp.example/out", state := "" }
    (.rejected []) = some "rejected:valid-logout-request" := by decide +kernel
example : monitor xCfg (orcOf xOrc) { hint := some (xTok xClaims 1 0), clientID := "", plu := "https://rp.example/out", state := "" }
    (.redirect "https://rp.example/out" (.error "-") [("user1", "web")]) = none := by decide +kernel

/-! #### key-set options: which signer counts under which option combination -/
def xKeyX : JWK := { KeyID := "x1", Use := "sig", kty := .rsa, keyNo := 1 }
def xKeyY : JWK := { KeyID := "y1", Use := "sig", kty := .rsa, keyNo := 3 }
def xKSX : KeySet := { kind := .published, keys := [xKeyX] }    -- a foreign key set, configured for ACCESS tokens
def xKSY : KeySet := { kind := .published, keys := [xKeyY] }    -- a foreign key set, configured for HINTS
def xTokBy (kid : String) (signer : Nat) : Token :=
  let h : JHeader := { Algorithm := "RS256", KeyID := kid }
  let p : Payload := { bytes := 1, claims := some xClaims }
  { segs := 3, middle := some p, jws := some { Signatures := [{ Header := h, signer := some signer, signedAlg := "RS256", signedBytes := 1, signedHdr := h }], payload := p } }
def xOrcK : SessOracles :=
  { xOrc with tokenOf := fun s => if s == "byOP" then xTokBy "sig1" 0 else if s == "byX" then xTokBy "x1" 1 else if s == "byY" then xTokBy "y1" 3 else default }
def xProv (opts : List Sess.KeyOpt) : SessionEnder := providerOf xNow xCfg opts (fun _ _ => true) false
def xLogout (h : String) : Go.R EndSessionReq := .ok { IdTokenHint := h, PostLogoutRedirectURI := "https://rp.example/out" }

example : HintOpts xCfg [] := rfl
example : HintOpts xCfg [.accessToken xKSX] := rfl
example : HintOpts { xCfg with hintKeys := some xKSY } [.idTokenHint xKSY, .accessToken xKSX] := rfl
example : HintOpts { xCfg with hintKeys := some xKSY } [.idTokenHint xKSX, .accessToken xKSX, .idTokenHint xKSY] := rfl
-- no option: the OP's own keys count, X's and Y's do not
example : Sess.handle .provider xNow xOrcK (xLogout "byOP") (xProv []) = .redirect "https://rp.example/out" := by decide +kernel
example : Sess.handle .provider xNow xOrcK (xLogout "byX") (xProv []) = .error 400 "invalid_request" := by decide +kernel
-- ONLY WithAccessTokenKeySet(X): still the OP's own keys for hints; a hint signed with a key of X is rejected (both routers)
example : Sess.handle .provider xNow xOrcK (xLogout "byOP") (xProv [.accessToken xKSX]) = .redirect "https://rp.example/out" := by decide +kernel
example : Sess.handle .legacy xNow xOrcK (xLogout "byOP") (xProv [.accessToken xKSX]) = .redirect "https://rp.example/out" := by decide +kernel
example : Sess.handle .provider xNow xOrcK (xLogout "byX") (xProv [.accessToken xKSX]) = .error 400 "invalid_request" := by decide +kernel
example : Sess.handle .legacy xNow xOrcK (xLogout "byX") (xProv [.accessToken xKSX]) = .error 400 "invalid_request" := by decide +kernel
-- WithIDTokenHintKeySet(Y): Y's keys count, the OP's own do not any more (that is what the deployment configured)
example : Sess.handle .provider xNow xOrcK (xLogout "byY") (xProv [.idTokenHint xKSY]) = .redirect "https://rp.example/out" := by decide +kernel
example : Sess.handle .provider xNow xOrcK (xLogout "byOP") (xProv [.idTokenHint xKSY]) = .error 400 "invalid_request" := by decide +kernel
-- both, in either order: Y for hints, X plays no part
example : Sess.handle .provider xNow xOrcK (xLogout "byY") (xProv [.accessToken xKSX, .idTokenHint xKSY]) = .redirect "https://rp.example/out" := by decide +kernel
example : Sess.handle .provider xNow xOrcK (xLogout "byX") (xProv [.idTokenHint xKSY, .accessToken xKSX]) = .error 400 "invalid_request" := by decide +kernel
-- the monitor: a hint that verifies only under the access-token key set must not be believed, an OP-signed one must be
example : monitor { xCfg with accessTokenKeys := some xKSX } (orcOf xOrcK) { hint := some (xTokBy "x1" 1), clientID := "", plu := "https://rp.example/out", state := "" }
    (.redirect "https://rp.example/out" (.error "-") [("user1", "web")]) = some "hint:trusted-only-by-access-token-keyset" := by decide +kernel
example : monitor { xCfg with accessTokenKeys := some xKSX } (orcOf xOrcK) { hint := some (xTokBy "sig1" 0), clientID := "", plu := "https://rp.example/out", state := "" }
    (.rejected []) = some "rejected:valid-logout-request" := by decide +kernel
example : monitor { xCfg with accessTokenKeys := some xKSX } (orcOf xOrcK) { hint := some (xTokBy "x1" 1), clientID := "", plu := "https://rp.example/out", state := "" }
    (.rejected []) = none := by decide +kernel
-- … unless the same set is ALSO configured for hints
example : monitor { xCfg with accessTokenKeys := some xKSX, hintKeys := some xKSX } (orcOf xOrcK) { hint := some (xTokBy "x1" 1), clientID := "", plu := "https://rp.example/out", state := "" }
    (.redirect "https://rp.example/out" (.error "-") [("user1", "web")]) = none := by decide +kernel
example : monitor { xCfg with hintKeys := some xKSY } (orcOf xOrcK) { hint := some (xTokBy "sig1" 0), clientID := "", plu := "", state := "" }
    (.redirect "https://op.example/bye" (.error "-") [("user1", "web")]) = some "hint:untrusted-signature" := by decide +kernel
-- a storage that refuses to terminate: rejecting is right, redirecting is not
example : monitor xCfg (orcOf xOrc) { hint := some (xTok xClaims 1 0), clientID := "", plu := "https://rp.example/out", state := "", termRefused := true }
    (.rejected []) = none := by decide +kernel
example : monitor xCfg (orcOf xOrc) { hint := some (xTok xClaims 1 0), clientID := "", plu := "https://rp.example/out", state := "", termRefused := true }
    (.redirect "https://rp.example/out" (.error "-") []) = some "session:not-terminated" := by decide +kernel
end examples

end C18
