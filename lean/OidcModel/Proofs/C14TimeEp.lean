/-
  C14 — the time window of an accepted assertion along HISTORIES of one verifier object and at the provider's ENDPOINTS,
  whatever the distance of iat / exp from the clock (lifts `c14_assertion_time_window` of Proofs/C14Time through the history theorem of
  Proofs/C14Reuse and the characterisation lemmas of the consumers in Proofs/C14Endpoints; no regenerated definition is unfolded here).
-/
import OidcModel.Proofs.C14Time
import OidcModel.Proofs.C14Endpoints

namespace C14
open Go Gen Hand

/-- what "inside the verifier's window at `now`" says of claims: unexpired at `now + offset`, iat present, not later than
    `now + offset` (+ ½ s of rounding), with a maximum age not earlier than `now - maxAge` (- ½ s).  Mathematical integers, no bounds. -/
def inWindow (now maxAge offset : Int) (c : Claims) : Prop :=
  now + offset < asTime c.exp ∧ asTime c.iat ≠ zeroTime ∧ asTime c.iat ≤ now + offset + 500000000 ∧
    (maxAge = 0 ∨ now - maxAge - 500000000 ≤ asTime c.iat)

/-- HISTORY: one verifier object, ANY sequence of assertions (any length, issuers, keys, instants, time claims at any distance): every
    answer that accepts, at whatever position, is about a token whose claims are inside the window at the instant of THAT call -/
theorem c14_sequence_time_window (v : JWTProfileVerifier) (ops : List (Int × Token)) (i : Nat) (hi : i < ops.length) (c : Claims)
    (hok : (runVerifier v ops).1[i]? = some (.ok c)) :
    ∃ p c0, ParseToken ops[i].1 ops[i].2 = .ok (p, c0) ∧ inWindow ops[i].1 v.MaxAgeIAT v.Offset c0 := by
  rw [c14_reused_answer v ops i hi] at hok
  exact c14_assertion_time_window (Option.some.inj hok)

/-- ENDPOINTS, client authentication (`ClientJWTAuth`: introspection, revocation, device authorization, the device grant …) on a provider
    with the provider's settings (stock `*op.Provider`: `settings_stock`; any configured subject check: `settings_subject_check`): an
    authenticated request carried an assertion that is unexpired in one second, issued at most one hour (+ ½ s) ago and at most one second
    (+ ½ s) ahead - at EVERY distance -/
theorem c14_client_auth_time_window {now : Int} {reqIssuer : String} {ca : AsrtAssertionParams} {p : AsrtProvider} {id : String}
    {reg : List (String × JWK)} {check : Option (Claims → Go.R Unit)}
    (hs : ProviderSettings now (verifierAt now reqIssuer p) reqIssuer reg check)
    (h : GenC14.ClientJWTAuth now reqIssuer ca p = .ok id) :
    ∃ pl c0, ParseToken now (p.tokenOf ca.ClientAssertion) = .ok (pl, c0) ∧ inWindow now providerMaxAgeIAT providerOffset c0 := by
  obtain ⟨_, c, hv, _⟩ := clientJWTAuth_ok.mp h
  obtain ⟨pl, c0, hp, hw⟩ := c14_assertion_time_window hv
  rw [hs.maxAge, hs.offset] at hw
  exact ⟨pl, c0, hp, hw⟩

/-- … and the token endpoint with private_key_jwt (`AuthorizePrivateJWTKey`: code, refresh, token exchange grants) -/
theorem c14_private_key_time_window {now : Int} {reqIssuer : String} {t : Token} {p : AsrtProvider} {cl : OPClient}
    {reg : List (String × JWK)} {check : Option (Claims → Go.R Unit)}
    (hs : ProviderSettings now (verifierAt now reqIssuer p) reqIssuer reg check)
    (h : GenC14.AuthorizePrivateJWTKey now reqIssuer t p = .ok cl) :
    ∃ pl c0, ParseToken now t = .ok (pl, c0) ∧ inWindow now providerMaxAgeIAT providerOffset c0 := by
  obtain ⟨c, hv, _⟩ := authorizePrivateJWTKey_ok.mp h
  obtain ⟨pl, c0, hp, hw⟩ := c14_assertion_time_window hv
  rw [hs.maxAge, hs.offset] at hw
  exact ⟨pl, c0, hp, hw⟩

/-- the stock provider, in one statement: a request authenticated by assertion at `*op.Provider` was issued within
    [now - 1 h - ½ s, now + 1 s + ½ s] and expires later than now + 1 s -/
theorem c14_stock_provider_time_window {now : Int} {reqIssuer : String} {ca : AsrtAssertionParams} {p : AsrtProvider} {id : String}
    (hstock : p.customVerifier = none) (h : GenC14.ClientJWTAuth now reqIssuer ca p = .ok id) :
    ∃ pl c0, ParseToken now (p.tokenOf ca.ClientAssertion) = .ok (pl, c0) ∧ now + second < asTime c0.exp ∧
      now - 3600 * second - 500000000 ≤ asTime c0.iat ∧ asTime c0.iat ≤ now + second + 500000000 := by
  obtain ⟨pl, c0, hp, hexp, _, hf, ho⟩ := c14_client_auth_time_window (settings_stock now reqIssuer p hstock) h
  refine ⟨pl, c0, hp, hexp, ?_, hf⟩
  rcases ho with ho | ho
  · exact absurd ho (by unfold providerMaxAgeIAT second; decide)
  · exact ho

/-- non-vacuity of `inWindow` at the far samples: one int64-nanosecond wrap ahead / ago is outside, now - 5 s is inside -/
example : ¬ inWindow farNow (3600 * second) second { iat := farNowS + 18446744074, exp := farNowS + 300 } := by
  unfold inWindow; decide +kernel
example : ¬ inWindow farNow (3600 * second) second { iat := farNowS - 18446744074, exp := farNowS + 300 } := by
  unfold inWindow; decide +kernel
example : inWindow farNow (3600 * second) second { iat := farNowS - 5, exp := farNowS + 4611686018427387904 } := by
  unfold inWindow; decide +kernel

end C14
