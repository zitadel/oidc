/-
  Proofs about the byte-level query codec (Model/Query.lean): `QueryUnescape ∘ QueryEscape = id` for
  ALL byte strings, escaped text never contains `&` `=` `;`, and `ParseQuery ∘ Encode = id` on every
  list of pairs.  No bound on lengths; by induction.
-/
import OidcModel.Model.Query
namespace Query

/-- the sixteen digits of `%XX`: read back as their value, and themselves bytes that are left alone -/
theorem hexDigit_digit : ∀ n, n < 16 → unhex (hexDigit n) = some n ∧ unreserved (hexDigit n) = true := by decide

theorem nibble_hi (b : UInt8) : b.toNat / 16 < 16 := Nat.div_lt_of_lt_mul b.toNat_lt
theorem nibble_lo (b : UInt8) : b.toNat % 16 < 16 := Nat.mod_lt _ (by decide)

theorem ofNat_nibbles (b : UInt8) : UInt8.ofNat (b.toNat / 16) * 16 + UInt8.ofNat (b.toNat % 16) = b := by
  have h : UInt8.ofNat (b.toNat / 16 * 16 + b.toNat % 16) = b := by
    rw [Nat.div_add_mod']; simp
  simpa [UInt8.ofNat_add, UInt8.ofNat_mul] using h

theorem unescape_plain {b : UInt8} (r : List UInt8) (h37 : b ≠ 37) (h43 : b ≠ 43) :
    unescape (b :: r) = (unescape r).map (b :: ·) := by
  rw [unescape.eq_def]; simp [h37, h43]

theorem unescape_escape (bs : List UInt8) : unescape (escape bs) = some bs := by
  induction bs with
  | nil => rfl
  | cons b r ih =>
    simp only [escape]
    split
    · rename_i hu
      rw [unescape_plain _ (by rintro rfl; exact absurd hu (by decide)) (by rintro rfl; exact absurd hu (by decide)), ih]; rfl
    · split
      · rename_i h32
        rw [beq_iff_eq.mp h32, unescape.eq_def]; simp [ih]
      · rw [unescape.eq_def]
        simp [(hexDigit_digit _ (nibble_hi b)).1, (hexDigit_digit _ (nibble_lo b)).1, ih, ofNat_nibbles]

/-- every byte `url.QueryEscape` emits is unreserved (letters, digits incl. the hex digits, `- _ . ~`), `+` or `%` -/
theorem escape_out (bs : List UInt8) : ∀ x ∈ escape bs, unreserved x = true ∨ x = 43 ∨ x = 37 := by
  induction bs with
  | nil => simp [escape]
  | cons b r ih =>
    intro x hx
    simp only [escape] at hx
    split at hx
    · rename_i hu
      rcases List.mem_cons.mp hx with rfl | hx
      · exact Or.inl hu
      · exact ih x hx
    · split at hx
      · rcases List.mem_cons.mp hx with rfl | hx
        · exact Or.inr (Or.inl rfl)
        · exact ih x hx
      · simp only [List.mem_cons] at hx
        rcases hx with rfl | rfl | rfl | hx
        · exact Or.inr (Or.inr rfl)
        · exact Or.inl (hexDigit_digit _ (nibble_hi b)).2
        · exact Or.inl (hexDigit_digit _ (nibble_lo b)).2
        · exact ih x hx

/-- escaped text contains none of the bytes with a meaning in a query string: `&` `=` `;` -/
theorem escape_ne {bs : List UInt8} {x : UInt8} (hx : x ∈ escape bs) : x ≠ 38 ∧ x ≠ 61 ∧ x ≠ 59 := by
  rcases escape_out bs x hx with h | rfl | rfl
  · refine ⟨?_, ?_, ?_⟩ <;> (rintro rfl; exact absurd h (by decide))
  · decide
  · decide

theorem cut_append {sep : UInt8} {a : List UInt8} (t : List UInt8) (h : ∀ x ∈ a, x ≠ sep) :
    cut sep (a ++ sep :: t) = (a, some t) := by
  induction a with
  | nil => simp [cut]
  | cons x xs ih => simp [cut, h x (by simp), ih (fun y hy => h y (by simp [hy]))]

theorem cut_none {sep : UInt8} {a : List UInt8} (h : ∀ x ∈ a, x ≠ sep) : cut sep a = (a, none) := by
  induction a with
  | nil => simp [cut]
  | cons x xs ih => simp [cut, h x (by simp), ih (fun y hy => h y (by simp [hy]))]

theorem splitOn_none {sep : UInt8} {s a : List UInt8} (h : cut sep s = (a, none)) : splitOn sep s = [a] := by
  rw [splitOn]; split <;> simp_all

theorem splitOn_some {sep : UInt8} {s a t : List UInt8} (h : cut sep s = (a, some t)) : splitOn sep s = a :: splitOn sep t := by
  rw [splitOn]; split <;> simp_all

theorem splitOn_cons_eq {sep x : UInt8} (rest : List UInt8) (hx : (x == sep) = true) :
    splitOn sep (x :: rest) = [] :: splitOn sep rest :=
  splitOn_some (by simp [cut, hx])

theorem splitOn_cons_ne {sep x : UInt8} (rest : List UInt8) (hx : (x == sep) = false) :
    splitOn sep (x :: rest) = match splitOn sep rest with | h :: tl => (x :: h) :: tl | [] => [[x]] := by
  rcases hr : cut sep rest with ⟨a, _ | t⟩
  · rw [splitOn_none (a := x :: a) (by simp [cut, hx, hr]), splitOn_none hr]
  · rw [splitOn_some (a := x :: a) (t := t) (by simp [cut, hx, hr]), splitOn_some hr]

theorem splitOn_ne_nil (sep : UInt8) (a : List UInt8) : splitOn sep a ≠ [] := by
  rw [splitOn]; split <;> simp

theorem splitOn_append_any (sep : UInt8) (a t : List UInt8) : splitOn sep (a ++ sep :: t) = splitOn sep a ++ splitOn sep t := by
  induction a with
  | nil => simp [splitOn_cons_eq, splitOn_none (s := []) rfl]
  | cons x a ih =>
    by_cases hx : (x == sep) = true
    · simp [splitOn_cons_eq _ hx, ih]
    · have hx' : (x == sep) = false := by simpa using hx
      rw [List.cons_append, splitOn_cons_ne _ hx', splitOn_cons_ne _ hx', ih]
      cases hs : splitOn sep a with
      | nil => exact absurd hs (splitOn_ne_nil sep a)
      | cons h tl => simp

/-- a setting contains neither `&` nor `;` -/
theorem encodePair_nodelim (p : Pair) : ∀ x ∈ encodePair p, x ≠ 38 ∧ x ≠ 59 := by
  intro x hx
  simp only [encodePair, List.mem_append, List.mem_cons] at hx
  rcases hx with hx | rfl | hx
  · exact ⟨(escape_ne hx).1, (escape_ne hx).2.2⟩
  · decide
  · exact ⟨(escape_ne hx).1, (escape_ne hx).2.2⟩

theorem parsePair_encodePair (p : Pair) : parsePair (encodePair p) = some p := by
  have hsemi : (59 : UInt8) ∉ encodePair p := fun hx => (encodePair_nodelim p _ hx).2 rfl
  have hcut : cut 61 (encodePair p) = (escape p.1, some (escape p.2)) :=
    cut_append _ (fun x hx => (escape_ne hx).2.1)
  simp [parsePair, hsemi, hcut, unescape_escape]

theorem encodePair_ne_nil (p : Pair) : (encodePair p).isEmpty = false := by
  simp [encodePair]

/-- `url.ParseQuery` inverts `url.Values.Encode`: every pair comes back, byte for byte, in order -/
theorem parse_encode (ps : List Pair) : parse (encode ps) = ps.map some := by
  induction ps using encode.induct with
  | case1 => simp [parse, encode, splitOn, cut]
  | case2 p =>
    simp [parse, encode, splitOn_none (cut_none fun x hx => (encodePair_nodelim p x hx).1), encodePair_ne_nil, parsePair_encodePair]
  | case3 p q r ih =>
    simp only [encode, parse] at ih ⊢
    rw [splitOn_some (cut_append _ fun x hx => (encodePair_nodelim p x hx).1)]
    simp [encodePair_ne_nil, parsePair_encodePair, ih]
end Query
