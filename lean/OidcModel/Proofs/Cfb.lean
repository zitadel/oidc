/-
  CFB mode over an ARBITRARY block function of block length `n` (Model/Cfb.lean): `dec_enc` (decrypting an encryption gives the
  plaintext back) and `unseal_seal` (the same for iv ++ ciphertext, the sealing of `crypto.EncryptAES` / `DecryptAES`).  Used by
  Proofs/C12.lean.
-/
import OidcModel.Model.Cfb
namespace Cfb

theorem xor_cancel (a b : Byte) : (a ^^^ b) ^^^ b = a := by
  rw [UInt8.xor_assoc, UInt8.xor_self, UInt8.xor_zero]

theorem xorBytes_cancel (p k : List Byte) (h : p.length ≤ k.length) : xorBytes (xorBytes p k) k = p := by
  induction p generalizing k with
  | nil => cases k <;> rfl
  | cons a as ih =>
    cases k with
    | nil => simp at h
    | cons b bs => simp [xorBytes, xor_cancel]; exact ih bs (by simpa using h)

theorem xorBytes_length (p k : List Byte) (h : p.length ≤ k.length) : (xorBytes p k).length = p.length := by
  induction p generalizing k with
  | nil => cases k <;> rfl
  | cons a as ih =>
    cases k with
    | nil => simp at h
    | cons b bs => simp [xorBytes]; exact ih bs (by simpa using h)

variable (E : Block → Block) (n : Nat)

theorem xorBytes_take_length (hE : ∀ b, (E b).length = n) (prev : Block) (x : List Byte) :
    (xorBytes (x.take n) (E prev)).length = min n x.length := by
  rw [xorBytes_length _ _ (by rw [hE, List.length_take]; omega), List.length_take]

theorem encAux_length (hn : 0 < n) (hE : ∀ b, (E b).length = n) :
    ∀ fuel prev p, p.length ≤ fuel → (encAux E n fuel prev p).length = p.length := by
  intro fuel
  induction fuel with
  | zero => intro prev p h; rw [List.eq_nil_of_length_eq_zero (Nat.le_zero.1 h)]; rfl
  | succ f ih =>
    intro prev p h
    rw [encAux]
    split
    · rename_i hp; rw [List.isEmpty_iff.1 hp]
    · rename_i hne
      have hpos : 0 < p.length := by cases p <;> simp_all
      have hd : (p.drop n).length ≤ f := by rw [List.length_drop]; omega
      rw [List.length_append, xorBytes_take_length E n hE, ih _ _ hd, List.length_drop]
      omega

theorem decAux_length (hn : 0 < n) (hE : ∀ b, (E b).length = n) :
    ∀ fuel prev c, c.length ≤ fuel → (decAux E n fuel prev c).length = c.length := by
  intro fuel
  induction fuel with
  | zero => intro prev c h; rw [List.eq_nil_of_length_eq_zero (Nat.le_zero.1 h)]; rfl
  | succ f ih =>
    intro prev c h
    rw [decAux]
    split
    · rename_i hc; rw [List.isEmpty_iff.1 hc]
    · rename_i hne
      have hpos : 0 < c.length := by cases c <;> simp_all
      have hd : (c.drop n).length ≤ f := by rw [List.length_drop]; omega
      rw [List.length_append, xorBytes_take_length E n hE, ih _ _ hd, List.length_drop]
      omega

theorem decAux_encAux (hn : 0 < n) (hE : ∀ b, (E b).length = n) :
    ∀ fuel prev p, p.length ≤ fuel → decAux E n fuel prev (encAux E n fuel prev p) = p := by
  intro fuel
  induction fuel with
  | zero => intro prev p h; have : p = [] := by cases p <;> simp_all
            subst this; rfl
  | succ f ih =>
    intro prev p h
    unfold encAux
    by_cases hp : p.isEmpty
    · have : p = [] := by cases p <;> simp_all
      subst this; simp [decAux]
    · simp only [hp, Bool.false_eq_true, if_false]
      have hpos : 0 < p.length := by cases p <;> simp_all
      have h1 : (p.take n).length ≤ (E prev).length := by rw [hE]; simp; omega
      have hlen := xorBytes_take_length E n hE prev p
      unfold decAux
      have hne : (xorBytes (List.take n p) (E prev) ++ encAux E n f (xorBytes (List.take n p) (E prev)) (List.drop n p)).isEmpty = false := by
        have : 0 < (xorBytes (List.take n p) (E prev)).length := by rw [hlen]; omega
        cases hx : xorBytes (List.take n p) (E prev) with
        | nil => simp [hx] at this
        | cons a as => simp
      simp only [hne, Bool.false_eq_true, if_false]
      have htake : (xorBytes (List.take n p) (E prev) ++ encAux E n f (xorBytes (List.take n p) (E prev)) (List.drop n p)).take n
          = xorBytes (List.take n p) (E prev) := by
        by_cases hle : n ≤ p.length
        · rw [List.take_append_of_le_length (by rw [hlen]; omega)]
          rw [List.take_of_length_le (by rw [hlen]; omega)]
        · have hd : List.drop n p = [] := by simp; omega
          have he : encAux E n f (xorBytes (List.take n p) (E prev)) (List.drop n p) = [] := by
            rw [hd]; cases f <;> simp [encAux]
          rw [he]; simp; rw [List.take_of_length_le (by rw [hlen]; omega)]
      have hdrop : (xorBytes (List.take n p) (E prev) ++ encAux E n f (xorBytes (List.take n p) (E prev)) (List.drop n p)).drop n
          = encAux E n f (xorBytes (List.take n p) (E prev)) (List.drop n p) := by
        by_cases hle : n ≤ p.length
        · rw [List.drop_append_of_le_length (by rw [hlen]; omega)]
          rw [List.drop_of_length_le (by rw [hlen]; omega)]; simp
        · have hd : List.drop n p = [] := by simp; omega
          have he : encAux E n f (xorBytes (List.take n p) (E prev)) (List.drop n p) = [] := by
            rw [hd]; cases f <;> simp [encAux]
          rw [he]; simp; rw [hlen]; omega
      rw [htake, hdrop, xorBytes_cancel _ _ h1, ih _ _ (by simp; omega)]
      simp

/-- CFB decryption inverts CFB encryption: for ANY block function with fixed output size,
    any iv and any plaintext of any length. -/
theorem dec_enc (hn : 0 < n) (hE : ∀ b, (E b).length = n) (iv : Block) (p : List Byte) :
    dec E n iv (enc E n iv p) = p := by
  unfold dec enc
  rw [encAux_length E n hn hE _ _ _ (Nat.le_refl _)]
  exact decAux_encAux E n hn hE _ _ _ (Nat.le_refl _)

/-- the sealing round trip of EncryptBytesAES / DecryptBytesAES -/
theorem unseal_seal (hn : 0 < n) (hE : ∀ b, (E b).length = n) (iv : Block) (hiv : iv.length = n) (p : List Byte) :
    unsealBytes E n (sealBytes E n iv p) = some p := by
  unfold unsealBytes sealBytes
  have : ¬ (iv ++ enc E n iv p).length < n := by simp; omega
  simp only [this, if_false]
  rw [List.take_append_of_le_length (by omega), List.take_of_length_le (by omega)]
  rw [List.drop_append_of_le_length (by omega), List.drop_of_length_le (by omega)]
  simp [dec_enc E n hn hE]

end Cfb
