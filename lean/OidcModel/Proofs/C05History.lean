/-
  C05, history level: the registrations (and the provider's flags) CHANGE between requests - a client is registered or removed, its
  secret is rotated, its authentication method is changed, a grant type is added to or removed from its registration - while
  everything else the storage holds (codes, refresh tokens, approved device authorizations: the grant MATERIAL made under the old
  registration) stays.  Every request of such a history is judged by the registration that is CURRENT when it arrives:

  * `c05_history_partial` (induction over the operation list): the monitor `C05.judge`, configured with the registrations of the
    moment, accepts every response of the regenerated endpoint layer, for every history;
  * `run_append` / `c05_history_state`: "the registrations of the moment" are the initial ones with every administrative operation
    that precedes the request applied, in order - nothing of an older registration survives in the judgement;
  * the consequences for the three kinds of change, for the request that FOLLOWS the change (from an arbitrary state, hence at
    any point of any history): `c05_rotated_secret_next_request` (the old secret no longer yields tokens),
    `c05_removed_grant_next_request` (no tokens through the removed grant, whatever material exists),
    `c05_method_changed_next_request` (after a change to private_key_jwt a secret no longer yields tokens).

  Concrete histories on the demo provider (both routers), and finding F-C05i (`c05_method_change_compare_only_witness`): with a
  storage that only compares secrets the Provider router still serves the secret of a client switched to private_key_jwt.

  Layer 2 only: built on `c05_auth_required_partial` / `c05_tokens_only_authenticated` (Proofs/C05Endpoint.lean); no regenerated
  definition is unfolded here.
-/
import OidcModel.Proofs.C05Endpoint
namespace C05
open Go Gen Hand Flow

def updClient (f : OPClient → OPClient) (id : String) (cs : List OPClient) : List OPClient :=
  cs.map fun c => if c.id == id then f c else c

inductive HOp
  | register (c : OPClient)
  | unregister (id : String)
  | rotateSecret (id secret : String)
  | setAuthMethod (id method : String)
  | addGrant (id grant : String)
  | removeGrant (id grant : String)
  | setConfig (cfg : EPConfig)
  | request (now : Int) (rt : Router) (o : EPOracles) (e : EP.Endpoint) (r : EPRequest)

/-- the provider with other registrations; codes, refresh tokens, device authorizations, keys of the storage are kept -/
def withClients (x : EPProvider) (cs : List OPClient) : EPProvider :=
  { x with storage := { x.storage with base := { x.storage.base with clients := cs } } }

def admin (x : EPProvider) : HOp → EPProvider
  | .register c => withClients x (c :: x.storage.base.clients.filter (·.id != c.id))
  | .unregister id => withClients x (x.storage.base.clients.filter (·.id != id))
  | .rotateSecret id s => withClients x (updClient (fun c => { c with secret := s }) id x.storage.base.clients)
  | .setAuthMethod id m => withClients x (updClient (fun c => { c with auth := m }) id x.storage.base.clients)
  | .addGrant id g => withClients x (updClient (fun c => { c with grants := g :: c.grants }) id x.storage.base.clients)
  | .removeGrant id g => withClients x (updClient (fun c => { c with grants := c.grants.filter (· != g) }) id x.storage.base.clients)
  | .setConfig cfg => { x with config := cfg }
  | .request .. => x

/-- one answered request of a history, with the provider as it was when the request arrived -/
structure HEvent where
  x : EPProvider
  now : Int
  rt : Router
  o : EPOracles
  e : EP.Endpoint
  r : EPRequest
  resp : EPResp

/-- run a history: every request is answered by the regenerated endpoint layer on the CURRENT provider -/
def run : EPProvider → List HOp → List HEvent
  | _, [] => []
  | x, op :: ops =>
    match op with
    | .request now rt o e r => ⟨x, now, rt, o, e, r, EP.endpointDecision now rt x o e r⟩ :: run x ops
    | op => run (admin x op) ops

/-- the hypotheses of `c05_auth_required_partial` (findings F-C05e, g, h), at every request of the history, for the provider of
    that moment -/
def Assumed : EPProvider → List HOp → Prop
  | _, [] => True
  | x, op :: ops =>
    match op with
    | .request _ rt _ e r => Assumptions rt x e r ∧ Assumed x ops
    | op => Assumed (admin x op) ops

/-- the monitor's verdict on an event: judged with the registrations and flags of the provider AT THAT MOMENT -/
def HEvent.verdict (ev : HEvent) : Option String :=
  judge (cfgOf ev.x) ev.now (specEndpoint ev.e ev.r) (credsOf ev.o ev.r) (obsOf ev.resp)

/-- **C05 over histories (partial: outside the findings left on record).**  Whatever sequence of registrations, removals, secret
    rotations, method changes, grant additions / removals, flag changes and requests (both routers, all endpoints, all oracle
    answers) a provider goes through: every response is accepted by the monitor configured with the registrations CURRENT at
    that request. -/
theorem c05_history_partial (x : EPProvider) (ops : List HOp) (h : Assumed x ops) : ∀ ev ∈ run x ops, ev.verdict = none := by
  induction ops generalizing x with
  | nil => intro ev hev; simp [run] at hev
  | cons op ops ih =>
    cases op with
    | request now rt o e r =>
      obtain ⟨ha, hrest⟩ := h
      intro ev hev
      simp only [run, List.mem_cons] at hev
      rcases hev with rfl | hev
      · exact c05_auth_required_partial now rt x o e r ha
      · exact ih x hrest ev hev
    | _ => exact ih _ h

def after (x : EPProvider) (ops : List HOp) : EPProvider := ops.foldl admin x

theorem run_append (x : EPProvider) (pre post : List HOp) : run x (pre ++ post) = run x pre ++ run (after x pre) post := by
  induction pre generalizing x with
  | nil => simp [run, after]
  | cons op pre ih =>
    cases op <;> simp [run, after, admin, ih] <;> rfl

/-- **the judgement uses the current registration and nothing else**: a request that arrives after the operations `pre` is
    answered by, and judged with, the initial provider with exactly those operations applied in order -/
theorem c05_history_state (x : EPProvider) (pre post : List HOp) (now : Int) (rt : Router) (o : EPOracles) (e : EP.Endpoint) (r : EPRequest) :
    ∃ evs, run x (pre ++ .request now rt o e r :: post) =
      run x pre ++ ⟨after x pre, now, rt, o, e, r, EP.endpointDecision now rt (after x pre) o e r⟩ :: evs := by
  rw [run_append]
  exact ⟨run (after x pre) post, by simp [run]⟩

/-! ## what the three kinds of change mean for the NEXT request -/

theorem find_updClient {f : OPClient → OPClient} (hf : ∀ c, (f c).id = c.id) (id id' : String) (cs : List OPClient) :
    (updClient f id cs).find? (·.id == id') = (cs.find? (·.id == id')).map (fun c => if c.id == id then f c else c) := by
  induction cs with
  | nil => rfl
  | cons c cs ih =>
    have hid : (if c.id == id then f c else c).id = c.id := by split <;> simp [hf]
    simp only [updClient, List.map_cons, List.find?_cons, hid] at ih ⊢
    cases h : c.id == id' with
    | true => rfl
    | false => exact ih

theorem find_updClient_self {f : OPClient → OPClient} (hf : ∀ c, (f c).id = c.id) {id : String} {cs : List OPClient} {cl' : OPClient}
    (h : (updClient f id cs).find? (·.id == id) = some cl') : ∃ cl, cs.find? (·.id == id) = some cl ∧ cl' = f cl := by
  rw [find_updClient hf] at h
  cases hreg : cs.find? (·.id == id) with
  | none => simp [hreg] at h
  | some cl => exact ⟨cl, rfl, by simpa [hreg, Store.find_id hreg] using h.symm⟩

/-- a credential that fits a registration with a secret method carries that registration's id and ITS (current) secret -/
theorem credsFit_secret {c : Cfg} {now : Int} {cl : OPClient} {k : Creds} (hfit : credsFit c now cl k = true)
    (hm : cl.auth = "client_secret_basic" ∨ cl.auth = "client_secret_post") :
    ∃ p, k.primary = some p ∧ p.clientID = cl.id ∧ p.secret = cl.secret := by
  rcases credsFit_iff.1 hfit with ⟨hk, _⟩ | ⟨p, hp, hid, hn | ⟨_, hs, _⟩⟩
  · rcases hm with h | h <;> (rw [h] at hk; exact absurd hk (by decide))
  · rcases hm with h | h <;> (rw [h] at hn; exact absurd hn (by decide))
  · exact ⟨p, hp, hid, hs⟩

/-- a credential that fits a private_key_jwt registration is an assertion that proves that client -/
theorem credsFit_pkjwt {c : Cfg} {now : Int} {cl : OPClient} {k : Creds} (hfit : credsFit c now cl k = true)
    (hm : cl.auth = "private_key_jwt") :
    ∃ t, k.assertion = some t ∧
      C14.provesClient c.base.issuer c.base.jwtMaxAgeIAT c.base.jwtOffset (C04.registry c.base.clients) t now = some cl.id := by
  rcases credsFit_iff.1 hfit with ⟨_, h⟩ | ⟨_, _, _, hn | ⟨hk, _⟩⟩
  · exact h
  · rw [hm] at hn; exact absurd hn (by decide)
  · exact absurd hm hk

@[simp] theorem withClients_clients (x : EPProvider) (cs : List OPClient) : (withClients x cs).storage.base.clients = cs := rfl

/-- **secret rotated**: the request that follows the rotation of a secret-authenticated client's secret gets tokens for that
    client (code, refresh, token exchange, device grant; either router) only if it presents the NEW secret - codes, refresh
    tokens and device codes obtained under the old secret do not help -/
theorem c05_rotated_secret_next_request (x : EPProvider) (id snew : String) (now : Int) (rt : Router) (o : EPOracles) (r : EPRequest)
    (h : Assumptions rt (admin x (.rotateSecret id snew)) .token r)
    (hb : grantOf r ≠ Const.GrantTypeBearer) (hcc : grantOf r ≠ Const.GrantTypeClientCredentials)
    {cl : OPClient} (hreg : x.storage.base.clients.find? (·.id == id) = some cl)
    (hm : cl.auth = "client_secret_basic" ∨ cl.auth = "client_secret_post")
    (hold : ∀ p, (credsOf o r).primary = some p → p.secret ≠ snew) (g : String) :
    EP.endpointDecision now rt (admin x (.rotateSecret id snew)) o .token r ≠ .ok (.tokens g id) := by
  intro hresp
  obtain ⟨cl', hf, hfit, _, _⟩ := c05_tokens_only_authenticated now rt _ o r h hresp hb hcc
  obtain ⟨cl0, hreg0, rfl⟩ := find_updClient_self (f := fun c => { c with secret := snew }) (fun _ => rfl) hf
  cases hreg.symm.trans hreg0
  obtain ⟨p, hp, _, hs⟩ := credsFit_secret hfit hm
  exact hold p hp hs

/-- **grant removed**: the request that follows the removal of grant `g` from a client's registration gets no tokens for that
    client through `g`, whatever material (code, refresh token, approved device code) exists from before -/
theorem c05_removed_grant_next_request (x : EPProvider) (id : String) (now : Int) (rt : Router) (o : EPOracles) (r : EPRequest)
    (h : Assumptions rt (admin x (.removeGrant id (grantOf r))) .token r)
    (hb : grantOf r ≠ Const.GrantTypeBearer) (hcc : grantOf r ≠ Const.GrantTypeClientCredentials) (g : String) :
    EP.endpointDecision now rt (admin x (.removeGrant id (grantOf r))) o .token r ≠ .ok (.tokens g id) := by
  intro hresp
  obtain ⟨cl', hf, _, _, hg⟩ := c05_tokens_only_authenticated now rt _ o r h hresp hb hcc
  obtain ⟨cl, _, rfl⟩ := find_updClient_self (f := fun c => { c with grants := c.grants.filter (· != grantOf r) }) (fun _ => rfl) hf
  simp at hg

/-- **authentication method changed to private_key_jwt**: the request that follows gets tokens for that client only with a
    `client_assertion` that proves it; its (still stored) secret no longer counts -/
theorem c05_method_changed_next_request (x : EPProvider) (id : String) (now : Int) (rt : Router) (o : EPOracles) (r : EPRequest)
    (h : Assumptions rt (admin x (.setAuthMethod id "private_key_jwt")) .token r)
    (hb : grantOf r ≠ Const.GrantTypeBearer) (hcc : grantOf r ≠ Const.GrantTypeClientCredentials) {g : String}
    (hresp : EP.endpointDecision now rt (admin x (.setAuthMethod id "private_key_jwt")) o .token r = .ok (.tokens g id)) :
    C14.provesClient x.issuer (3600 * Go.second) Go.second
      (C04.registry (admin x (.setAuthMethod id "private_key_jwt")).storage.base.clients) (o.tokenOf (r.Form.last "client_assertion")) now = some id := by
  obtain ⟨cl', hf, hfit, _, _⟩ := c05_tokens_only_authenticated now rt _ o r h hresp hb hcc
  obtain ⟨cl, hreg, rfl⟩ := find_updClient_self (f := fun c => { c with auth := "private_key_jwt" }) (fun _ => rfl) hf
  obtain ⟨t, ht, hp⟩ := credsFit_pkjwt hfit rfl
  cases ht
  have hiss : (admin x (.setAuthMethod id "private_key_jwt")).issuer = x.issuer := rfl
  simpa [cfgOf, Store.find_id hreg, hiss] using hp

/-! ## non-vacuity: concrete histories on the demo provider (both routers) -/

namespace Demo

/-- the responses of a history: served? / refused with an error status? -/
def outcomes (x : EPProvider) (ops : List HOp) : List (Bool × Bool) :=
  (run x ops).map fun ev => ((obsOf ev.resp).success, decide ((obsOf ev.resp).status ≥ 400))
def verdicts (x : EPProvider) (ops : List HOp) : List (Option String) := (run x ops).map HEvent.verdict

def newBasic : Option (String × String) := some ("web", "s-new")
def refreshNew := req newBasic [("grant_type", "refresh_token"), ("refresh_token", "rt1")]
def codeNew := req newBasic [("grant_type", "authorization_code"), ("code", "c1"), ("redirect_uri", "https://rp.example/cb")]

/-- refresh served; secret rotated; the old secret is refused (401 / 400) and the new one served, on both routers; all accepted by the monitor -/
def rotateHistory (rt : Router) : List HOp :=
  [.request 0 rt {} .token refreshReq, .rotateSecret "web" "s-new", .request 0 rt {} .token refreshReq, .request 0 rt {} .token refreshNew]

example : [Router.provider, Router.legacy].all (fun rt =>
    outcomes provider (rotateHistory rt) == [(true, false), (false, true), (true, false)] &&
    (verdicts provider (rotateHistory rt)).all (·.isNone)) = true := by decide +kernel

/-- the code was issued while `web` had the authorization_code grant; the grant is removed; the exchange is refused (400) -/
def removeHistory (rt : Router) : List HOp :=
  [.removeGrant "web" Const.GrantTypeCode, .request 0 rt {} .token codeReq, .addGrant "web" Const.GrantTypeCode, .request 0 rt {} .token codeReq]

example : [Router.provider, Router.legacy].all (fun rt =>
    outcomes provider (removeHistory rt) == [(false, true), (true, false)] &&
    (verdicts provider (removeHistory rt)).all (·.isNone)) = true := by decide +kernel

/-- `web` is switched to private_key_jwt: its secret is refused; switched back to client_secret_basic: accepted; the client is
    removed: refused -/
def methodHistory (rt : Router) : List HOp :=
  [.setAuthMethod "web" "private_key_jwt", .request 0 rt {} .token refreshReq, .setAuthMethod "web" "client_secret_basic",
   .request 0 rt {} .token refreshReq, .unregister "web", .request 0 rt {} .token refreshReq]

example : [Router.provider, Router.legacy].all (fun rt =>
    (outcomes provider (methodHistory rt)).map (·.1) == [false, true, false] &&
    (verdicts provider (methodHistory rt)).all (·.isNone)) = true := by decide +kernel

/-- the hypotheses of the history theorem are satisfiable for these histories -/
example : Assumed provider (rotateHistory .legacy) := by
  refine ⟨⟨?_, ?_, ?_, ?_, ?_⟩, ⟨?_, ?_, ?_, ?_, ?_⟩, ⟨?_, ?_, ?_, ?_, ?_⟩, trivial⟩ <;> intro h <;> first | (cases h; done) | (intro h2; cases h2)

end Demo

/-! ## finding F-C05i (a history manifestation of F-C05h; hypothesis `compareOnly` of `c05_auth_required_partial`)

  A client is switched from client_secret_basic to private_key_jwt; its secret stays in the storage (nobody deletes a column when
  a method changes).  With a storage whose `AuthorizeClientIDSecret` only compares the stored secret, the Provider router keeps
  accepting the OLD way of authenticating at introspection / revocation / token exchange / the device_code grant: the next
  request, presenting the secret in a Basic header, is served although the CURRENT registration demands an assertion.  The Server
  router (VerifyClient switches on the registered method) and a storage that checks the method refuse it. -/

namespace Witness
def methodHistory (rt : Router) : List HOp :=
  [.request 0 rt {} .introspect Demo.tokenReq, .setAuthMethod "web" "private_key_jwt", .request 0 rt {} .introspect Demo.tokenReq]
def cmpDemo : EPProvider := { Demo.provider with storage := { Demo.provider.storage with secretCompareOnly := true } }
end Witness

open Witness in
theorem c05_method_change_compare_only_witness :
    (run cmpDemo (methodHistory .provider)).map HEvent.verdict = [none, some "secret-accepted-for-a-private_key_jwt-client"] := by
  decide +kernel

/-- the same history at the Server router's introspection endpoint (`authenticateResourceClient` asks the storage directly: the
    guard "a secret or an assertion is present" is met by the old secret - hypothesis `stray` of the partial theorem) -/
theorem c05_method_change_compare_only_witness_legacy :
    (run Witness.cmpDemo (Witness.methodHistory .legacy)).map HEvent.verdict = [none, some "secret-accepted-for-a-private_key_jwt-client"] := by
  decide +kernel

/-- judged by the current registration and REFUSED after the change: every endpoint over a storage that checks the registered
    method (both routers), and revocation / the token endpoint of the Server router (VerifyClient switches on the registered
    method) even over the comparing storage -/
example : [Router.provider, Router.legacy].all (fun rt => [EP.Endpoint.introspect, .revoke, .token].all fun e =>
      let r := if e == .token then Demo.refreshReq else Demo.tokenReq
      (run Demo.provider [.request 0 rt {} e r, .setAuthMethod "web" "private_key_jwt", .request 0 rt {} e r]).map
        (fun ev => ((obsOf ev.resp).success, ev.verdict)) == [(true, none), (false, none)]) = true ∧
    [EP.Endpoint.revoke, .token].all (fun e =>
      let r := if e == .token then Demo.refreshReq else Demo.tokenReq
      (run Witness.cmpDemo [.request 0 .legacy {} e r, .setAuthMethod "web" "private_key_jwt", .request 0 .legacy {} e r]).map
        (fun ev => ((obsOf ev.resp).success, ev.verdict)) == [(true, none), (false, none)]) = true := by
  decide +kernel

end C05
