/-
  C02: WHICH verifier object judges a token at the token-consuming endpoints, and what a verification
  leaves behind in the object it was handed.

  Layer 1 (characterisation lemmas, one per regenerated definition of Generated/VerifiersC02.lean): what the functional
  options, the constructors, the provider's per-request getters, `revocationKeySet.verifier` / `.VerifySignature`, the readers
  of a presented access token and the state-returning twins of the verification functions compute.
  Layer 2 (uses only layer 1 and the theorems of Proofs/C02.lean): every verifier an endpoint uses is the CONFIGURED
  one (allow-list and key set of the provider, issuer of the request); a reader believes a JWT only under the monitor's
  conditions for that configuration; a verifier object (and a key-set object) that is reused for any sequence of
  tokens answers each of them as a fresh one would.
-/
import OidcModel.Proofs.C02
import OidcModel.Generated.VerifiersC02
import OidcModel.GoTac
namespace C02
open Go Gen Hand

/-! ## the configuration an endpoint's verifier must carry (hand-readable spec) -/

/-- the options of a list applied in order, as Go's `for _, opt := range opts { opt(verifier) }` -/
def applyOpts (opts : List C02VerifierOpt) (v : Verifier) : Verifier := opts.foldl (fun v o => o v) v

/-- the access-token verifier a provider is CONFIGURED with, for a request addressed to `iss`: the provider's key set and
    whatever its option list sets (`WithAccessTokenVerifierOpts`) -/
def configuredAT (iss : String) (p : C02Provider) : Verifier :=
  applyOpts p.accessTokenVerifierOpts { Issuer := iss, KeySet := p.accessTokenKeySet }

def configuredHint (iss : String) (p : C02Provider) : Verifier :=
  applyOpts p.idTokenHintVerifierOpts { Issuer := iss, KeySet := p.idTokenHinKeySet }

/-! ## layer 1: characterisation lemmas -/

theorem withSupportedAccessTokenSigningAlgorithms_spec (now : Int) (algs : List String) (v : Verifier) :
    GenC02.WithSupportedAccessTokenSigningAlgorithms now algs v = { v with SupportedSignAlgs := algs } := by
  unfold GenC02.WithSupportedAccessTokenSigningAlgorithms; go_leaf

theorem withSupportedIDTokenHintSigningAlgorithms_spec (now : Int) (algs : List String) (v : Verifier) :
    GenC02.WithSupportedIDTokenHintSigningAlgorithms now algs v = { v with SupportedSignAlgs := algs } := by
  unfold GenC02.WithSupportedIDTokenHintSigningAlgorithms; go_leaf

/-- `op.SubjectCheck(check)` replaces the subject check and nothing else (issuer, storage and key set stay) -/
theorem subjectCheck_spec (now : Int) (check : Option (Claims → Go.R Unit)) (v : JWTProfileVerifier) :
    GenC02.SubjectCheck now check v = { v with CheckSubject := check } := by
  unfold GenC02.SubjectCheck; go_leaf

theorem newAccessTokenVerifier_spec (now : Int) (iss : String) (ks : KeySet) (opts : List C02VerifierOpt) :
    GenC02.NewAccessTokenVerifier now iss ks opts = applyOpts opts { Issuer := iss, KeySet := ks } := by
  unfold GenC02.NewAccessTokenVerifier GoX.foldList applyOpts; go_leaf

theorem newIDTokenHintVerifier_spec (now : Int) (iss : String) (ks : KeySet) (opts : List C02VerifierOpt) :
    GenC02.NewIDTokenHintVerifier now iss ks opts = applyOpts opts { Issuer := iss, KeySet := ks } := by
  unfold GenC02.NewIDTokenHintVerifier GoX.foldList applyOpts; go_leaf

theorem withAccessTokenVerifierOpts_spec (now : Int) (opts : List C02VerifierOpt) (p : C02Provider) :
    GenC02.WithAccessTokenVerifierOpts now opts p = .ok { p with accessTokenVerifierOpts := opts } := by
  unfold GenC02.WithAccessTokenVerifierOpts; go_leaf

theorem withIDTokenHintVerifierOpts_spec (now : Int) (opts : List C02VerifierOpt) (p : C02Provider) :
    GenC02.WithIDTokenHintVerifierOpts now opts p = .ok { p with idTokenHintVerifierOpts := opts } := by
  unfold GenC02.WithIDTokenHintVerifierOpts; go_leaf

theorem withAccessTokenKeySet_spec (now : Int) (ks : KeySet) (p : C02Provider) :
    GenC02.WithAccessTokenKeySet now ks p = .ok { p with accessTokenKeySet := ks } := by
  unfold GenC02.WithAccessTokenKeySet; go_leaf

theorem withIDTokenHintKeySet_spec (now : Int) (ks : KeySet) (p : C02Provider) :
    GenC02.WithIDTokenHintKeySet now ks p = .ok { p with idTokenHinKeySet := ks } := by
  unfold GenC02.WithIDTokenHintKeySet; go_leaf

/-- `Provider.AccessTokenVerifier(ctx)` builds the configured verifier -/
theorem providerAccessTokenVerifier_configured (now : Int) (iss : String) (p : C02Provider) :
    GenC02.ProviderAccessTokenVerifier now iss p = configuredAT iss p := by
  unfold GenC02.ProviderAccessTokenVerifier configuredAT
  exact newAccessTokenVerifier_spec ..

/-- `Provider.IDTokenHintVerifier(ctx)` builds the configured verifier -/
theorem providerIDTokenHintVerifier_configured (now : Int) (iss : String) (p : C02Provider) :
    GenC02.ProviderIDTokenHintVerifier now iss p = configuredHint iss p := by
  unfold GenC02.ProviderIDTokenHintVerifier configuredHint
  exact newIDTokenHintVerifier_spec ..

/-- `revocationKeySet.verifier(v)`: the derived verifier IS `v` (every option `v` was built with survives; as a key set
    the recorder is the key set of `v`), and the recorder holds `v`'s key set -/
theorem revocationKeySetVerifier_spec (now : Int) (k : C02RevocationKeySet) (v : Verifier) :
    GenC02.revocationKeySetVerifier now k v = (v, { k with KeySet := v.KeySet }) := by
  unfold GenC02.revocationKeySetVerifier; go_leaf

/-- `revocationKeySet.VerifySignature`: answers exactly what its inner key set answers (it only records a key-storage failure) -/
theorem revocationKeySet_transparent (now : Int) (k : C02RevocationKeySet) (jws : JWS) :
    (GenC02.revocationKeySetVerifySignature now k jws).1 = Hand.c02VerifySignaturePair k.KeySet jws ∧
    (GenC02.revocationKeySetVerifySignature now k jws).2.KeySet = k.KeySet := by
  unfold GenC02.revocationKeySetVerifySignature; go_leaf

/-- the reader of userinfo / introspection (both routers) on a string that does not decrypt: it believes exactly what
    `VerifyAccessToken` under the provider's per-request verifier believes -/
theorem getTokenIDAndSubject_jwt (now : Int) (iss : String) (p : C02Provider) (s : String) (e : String)
    (hd : p.crypto.Decrypt s = .error e) :
    GenC02.getTokenIDAndSubject now iss p s =
      match Gen.OPVerifyAccessToken now (p.tokenOf s) (GenC02.ProviderAccessTokenVerifier now iss p) with
      | .ok c => (p.jtiOf s, c.sub, true)
      | .error _ => ("", "", false) := by
  unfold GenC02.getTokenIDAndSubject Hand.c02VerifyAccessToken C02ATClaims.Subject; go_leaf

/-- a new `revocationKeySet` has recorded no key-storage failure -/
theorem newRevocationKeySet_noErr : Go.notNil (default : C02RevocationKeySet).err = false := rfl

/-- the reader of the revocation endpoint (both routers), same statement; the verifier is the one DERIVED by
    `revocationKeySet.verifier` from the provider's per-request verifier -/
theorem getTokenIDAndSubjectForRevocation_jwt (now : Int) (iss : String) (p : C02Provider) (s : String) (e : String)
    (hd : p.crypto.Decrypt s = .error e) :
    GenC02.getTokenIDAndSubjectForRevocation now iss p s =
      match Gen.OPVerifyAccessToken now (p.tokenOf s)
          (GenC02.revocationKeySetVerifier now default (GenC02.ProviderAccessTokenVerifier now iss p)).1 with
      | .ok c => .ok (p.jtiOf s, c.sub, true)
      | .error _ => .ok ("", "", false) := by
  unfold GenC02.getTokenIDAndSubjectForRevocation Hand.c02VerifyAccessToken Hand.c02Derived C02ATClaims.Subject
  go_leaf [newRevocationKeySet_noErr]

/-- the access-token arm of the token-exchange reader -/
theorem getTokenIDAndClaims_jwt (now : Int) (iss : String) (p : C02Provider) (s : String) (e : String)
    (hd : p.crypto.Decrypt s = .error e) :
    GenC02.getTokenIDAndClaims now iss p s =
      match Gen.OPVerifyAccessToken now (p.tokenOf s) (GenC02.ProviderAccessTokenVerifier now iss p) with
      | .ok c => (p.jtiOf s, c.sub, { base := c, JWTID := p.jtiOf s }, true)
      | .error _ => ("", "", C02ATClaims.none, false) := by
  unfold GenC02.getTokenIDAndClaims Hand.c02VerifyAccessToken C02ATClaims.Subject; go_leaf

/-- the verification functions do not write to the verifier they are handed, and their answer is the stateless
    function the C02 theorems are about -/
theorem opVerifyAccessTokenSt_frame (now : Int) (t : Token) (v : Verifier) :
    GenC02.OPVerifyAccessTokenSt now t v = (Gen.OPVerifyAccessToken now t v, v) := by
  unfold GenC02.OPVerifyAccessTokenSt Gen.OPVerifyAccessToken; go_leaf

theorem verifyIDTokenHintSt_frame (now : Int) (t : Token) (v : Verifier) :
    GenC02.VerifyIDTokenHintSt now t v = (Gen.VerifyIDTokenHint now t v, v) := by
  unfold GenC02.VerifyIDTokenHintSt Gen.VerifyIDTokenHint; go_leaf

theorem verifyIDTokenSt_frame (now : Int) (t : Token) (v : Verifier) :
    GenC02.VerifyIDTokenSt now t v = (Gen.VerifyIDToken now t v, v) := by
  unfold GenC02.VerifyIDTokenSt Gen.VerifyIDToken; go_leaf

theorem verifyJWTAssertionSt_frame (now : Int) (t : Token) (v : JWTProfileVerifier) :
    GenC02.VerifyJWTAssertionSt now t v = (Gen.VerifyJWTAssertion now t v, v) := by
  unfold GenC02.VerifyJWTAssertionSt Gen.VerifyJWTAssertion; go_leaf

/-- the two storage-backed key-set objects do not write to themselves either (a key set that remembered the keys it was
    handed once would keep believing a key the storage has withdrawn) -/
theorem openIDKeySetSt_frame (now : Int) (o : C02KeyStorage) (j : JWS) :
    GenC02.OpenIDKeySetVerifySignatureSt now o j = (GenC02.OpenIDKeySetVerifySignature now o j, o) := by
  unfold GenC02.OpenIDKeySetVerifySignatureSt GenC02.OpenIDKeySetVerifySignature; go_leaf

theorem jwtProfileKeySetSt_frame (now : Int) (k : C02JwtProfileKeySet) (j : JWS) :
    GenC02.JwtProfileKeySetVerifySignatureSt now k j = (GenC02.JwtProfileKeySetVerifySignature now k j, k) := by
  unfold GenC02.JwtProfileKeySetVerifySignatureSt GenC02.JwtProfileKeySetVerifySignature; go_leaf

/-! ## layer 2: the property at the endpoints -/

/-- the monitor accepts only tokens whose (single) signature names an algorithm of the allow-list in force -/
theorem monitor_alg_allowed {algs : List String} {ks : KeySet} {t : Token} {c : Claims}
    (h : monitor algs ks t (some c) = none) :
    ∃ j s, t.jws = some j ∧ j.Signatures = [s] ∧ (allowed algs).contains s.Header.Algorithm = true := by
  obtain ⟨_, j, s, _, _, hj, hs, ha, _⟩ := acceptedOK_none (monitor_some.mp h).1
  exact ⟨j, s, hj, hs, ha⟩

/-- a provider whose option list is `WithAccessTokenVerifierOpts(WithSupportedAccessTokenSigningAlgorithms(algs...))`
    (and nothing after it) is configured with exactly this allow-list, its key set and the request's issuer -/
theorem configuredAT_restricted (now : Int) (iss : String) (p0 p : C02Provider) (algs : List String)
    (h : GenC02.WithAccessTokenVerifierOpts now [GenC02.WithSupportedAccessTokenSigningAlgorithms now algs] p0 = .ok p) :
    (configuredAT iss p).SupportedSignAlgs = algs ∧ (configuredAT iss p).KeySet = p0.accessTokenKeySet ∧
      (configuredAT iss p).Issuer = iss := by
  rw [withAccessTokenVerifierOpts_spec] at h
  cases h
  simp [configuredAT, applyOpts, withSupportedAccessTokenSigningAlgorithms_spec]

theorem configuredHint_restricted (now : Int) (iss : String) (p0 p : C02Provider) (algs : List String)
    (h : GenC02.WithIDTokenHintVerifierOpts now [GenC02.WithSupportedIDTokenHintSigningAlgorithms now algs] p0 = .ok p) :
    (configuredHint iss p).SupportedSignAlgs = algs ∧ (configuredHint iss p).KeySet = p0.idTokenHinKeySet ∧
      (configuredHint iss p).Issuer = iss := by
  rw [withIDTokenHintVerifierOpts_spec] at h
  cases h
  simp [configuredHint, applyOpts, withSupportedIDTokenHintSigningAlgorithms_spec]

/-- THE statement for derived verifiers: every verifier a token-consuming endpoint uses carries the provider's configured
    allow-list and key set (and the request's issuer): the per-request getters build the configured verifier, and the
    verifier the revocation endpoint derives from it is that verifier again -/
theorem c02_endpoint_verifiers (now : Int) (iss : String) (p : C02Provider) (k : C02RevocationKeySet) :
    GenC02.ProviderAccessTokenVerifier now iss p = configuredAT iss p ∧
    GenC02.ProviderIDTokenHintVerifier now iss p = configuredHint iss p ∧
    (GenC02.revocationKeySetVerifier now k (GenC02.ProviderAccessTokenVerifier now iss p)).1 = configuredAT iss p := by
  refine ⟨providerAccessTokenVerifier_configured .., providerIDTokenHintVerifier_configured .., ?_⟩
  rw [revocationKeySetVerifier_spec, providerAccessTokenVerifier_configured]

/-- userinfo / introspection (both routers): a JWT is believed only under the monitor's conditions for the CONFIGURED
    allow-list and key set; the subject handed on is the one of the signed payload -/
theorem c02_reader_userinfo (now : Int) (iss : String) (p : C02Provider) (s e id sub : String)
    (hd : p.crypto.Decrypt s = .error e) (h : GenC02.getTokenIDAndSubject now iss p s = (id, sub, true)) :
    ∃ c, monitor (configuredAT iss p).SupportedSignAlgs (configuredAT iss p).KeySet (p.tokenOf s) (some c) = none ∧
      c.sub = sub ∧ id = p.jtiOf s := by
  rw [getTokenIDAndSubject_jwt now iss p s e hd, providerAccessTokenVerifier_configured] at h
  cases hv : Gen.OPVerifyAccessToken now (p.tokenOf s) (configuredAT iss p) with
  | error e' => simp [hv] at h
  | ok c =>
    simp [hv] at h
    exact ⟨c, (opVerifyAccessToken_checked hv).monitor, h.2, h.1.symm⟩

/-- revocation (both routers) -/
theorem c02_reader_revocation (now : Int) (iss : String) (p : C02Provider) (s e id sub : String)
    (hd : p.crypto.Decrypt s = .error e) (h : GenC02.getTokenIDAndSubjectForRevocation now iss p s = .ok (id, sub, true)) :
    ∃ c, monitor (configuredAT iss p).SupportedSignAlgs (configuredAT iss p).KeySet (p.tokenOf s) (some c) = none ∧
      c.sub = sub ∧ id = p.jtiOf s := by
  rw [getTokenIDAndSubjectForRevocation_jwt now iss p s e hd, (c02_endpoint_verifiers now iss p default).2.2] at h
  cases hv : Gen.OPVerifyAccessToken now (p.tokenOf s) (configuredAT iss p) with
  | error e' => simp [hv] at h
  | ok c =>
    simp [hv] at h
    exact ⟨c, (opVerifyAccessToken_checked hv).monitor, h.2, h.1.symm⟩

/-- token exchange, subject / actor token of type access_token -/
theorem c02_reader_exchange (now : Int) (iss : String) (p : C02Provider) (s e id sub : String) (cl : C02ATClaims)
    (hd : p.crypto.Decrypt s = .error e) (h : GenC02.getTokenIDAndClaims now iss p s = (id, sub, cl, true)) :
    ∃ c, monitor (configuredAT iss p).SupportedSignAlgs (configuredAT iss p).KeySet (p.tokenOf s) (some c) = none ∧
      c.sub = sub ∧ id = p.jtiOf s ∧ cl.base = c := by
  rw [getTokenIDAndClaims_jwt now iss p s e hd, providerAccessTokenVerifier_configured] at h
  cases hv : Gen.OPVerifyAccessToken now (p.tokenOf s) (configuredAT iss p) with
  | error e' => simp [hv] at h
  | ok c =>
    simp [hv] at h
    obtain ⟨h1, h2, h3⟩ := h
    exact ⟨c, (opVerifyAccessToken_checked hv).monitor, h2, h1.symm, by rw [← h3]⟩

/-- the restricted allow-list at the revocation endpoint: a provider configured with
    `WithAccessTokenVerifierOpts(WithSupportedAccessTokenSigningAlgorithms(algs...))`, `algs` not empty, does not believe a JWT
    whose signature names an algorithm outside `algs` - whoever signed it -/
theorem c02_revocation_restricted (now : Int) (iss : String) (p0 p : C02Provider) (algs : List String) (s e id sub : String)
    (hc : GenC02.WithAccessTokenVerifierOpts now [GenC02.WithSupportedAccessTokenSigningAlgorithms now algs] p0 = .ok p)
    (hne : algs ≠ []) (hd : p.crypto.Decrypt s = .error e)
    (h : GenC02.getTokenIDAndSubjectForRevocation now iss p s = .ok (id, sub, true)) :
    ∃ j sg, (p.tokenOf s).jws = some j ∧ j.Signatures = [sg] ∧ algs.contains sg.Header.Algorithm = true := by
  obtain ⟨c, hm, _, _⟩ := c02_reader_revocation now iss p s e id sub hd h
  obtain ⟨j, sg, hj, hs, ha⟩ := monitor_alg_allowed hm
  rw [(configuredAT_restricted now iss p0 p algs hc).1] at ha
  refine ⟨j, sg, hj, hs, ?_⟩
  have : algs.isEmpty = false := by cases algs <;> simp_all
  simpa [allowed, this] using ha

/-! ## reuse: one verifier object (and one key-set object) for many tokens -/

/-- assertions run through ONE `*JWTProfileVerifier`, each call working on what the previous one left behind -/
def runAssertions (v : JWTProfileVerifier) : List (Int × Token) → List (Go.R Claims) × JWTProfileVerifier
  | [] => ([], v)
  | (now, t) :: rest =>
    let r := GenC02.VerifyJWTAssertionSt now t v
    let rs := runAssertions r.2 rest
    (r.1 :: rs.1, rs.2)

/-- access tokens run through ONE `*AccessTokenVerifier` -/
def runAccessTokens (v : Verifier) : List (Int × Token) → List (Go.R Claims) × Verifier
  | [] => ([], v)
  | (now, t) :: rest =>
    let r := GenC02.OPVerifyAccessTokenSt now t v
    let rs := runAccessTokens r.2 rest
    (r.1 :: rs.1, rs.2)

/-- id_token_hints run through ONE `*IDTokenHintVerifier` -/
def runHints (v : Verifier) : List (Int × Token) → List (Go.R HintOut) × Verifier
  | [] => ([], v)
  | (now, t) :: rest =>
    let r := GenC02.VerifyIDTokenHintSt now t v
    let rs := runHints r.2 rest
    (r.1 :: rs.1, rs.2)

/-- whatever was verified before: every assertion is answered as a FRESH verifier would answer it, and the object is
    left as it was -/
theorem runAssertions_fresh (v : JWTProfileVerifier) (ops : List (Int × Token)) :
    runAssertions v ops = (ops.map fun o => Gen.VerifyJWTAssertion o.1 o.2 v, v) := by
  induction ops with
  | nil => rfl
  | cons o rest ih => simp only [runAssertions, verifyJWTAssertionSt_frame, ih, List.map]

theorem runAccessTokens_fresh (v : Verifier) (ops : List (Int × Token)) :
    runAccessTokens v ops = (ops.map fun o => Gen.OPVerifyAccessToken o.1 o.2 v, v) := by
  induction ops with
  | nil => rfl
  | cons o rest ih => simp only [runAccessTokens, opVerifyAccessTokenSt_frame, ih, List.map]

theorem runHints_fresh (v : Verifier) (ops : List (Int × Token)) :
    runHints v ops = (ops.map fun o => Gen.VerifyIDTokenHint o.1 o.2 v, v) := by
  induction ops with
  | nil => rfl
  | cons o rest ih => simp only [runHints, verifyIDTokenHintSt_frame, ih, List.map]

/-- C02 for a REUSED JWT-profile verifier: in any sequence of assertions (of any issuers) through one verifier object,
    every accepted assertion satisfies the monitor for the key set of ITS OWN issuer -/
theorem c02_assertion_reuse (v : JWTProfileVerifier) (ops : List (Int × Token)) (i : Nat) (c : Claims)
    (h : (runAssertions v ops).1[i]? = some (.ok c)) :
    ∃ o, ops[i]? = some o ∧ ∃ iss, payloadIssuer o.2 = some iss ∧ monitor [] (assertionKeySet v iss) o.2 (some c) = none := by
  rw [runAssertions_fresh, List.getElem?_map, Option.map_eq_some_iff] at h
  obtain ⟨o, ho, h⟩ := h
  exact ⟨o, ho, c02_assertion o.1 o.2 v c h⟩

/-- C02 for a reused access-token verifier (and with it a reused key-set object) -/
theorem c02_accessToken_reuse (v : Verifier) (ops : List (Int × Token)) (i : Nat) (c : Claims)
    (h : (runAccessTokens v ops).1[i]? = some (.ok c)) :
    ∃ o, ops[i]? = some o ∧ monitor v.SupportedSignAlgs v.KeySet o.2 (some c) = none := by
  rw [runAccessTokens_fresh, List.getElem?_map, Option.map_eq_some_iff] at h
  obtain ⟨o, ho, h⟩ := h
  exact ⟨o, ho, (opVerifyAccessToken_checked h).monitor⟩

/-- C02 for a reused id_token_hint verifier -/
theorem c02_idTokenHint_reuse (v : Verifier) (ops : List (Int × Token)) (i : Nat) (out : HintOut)
    (h : (runHints v ops).1[i]? = some (.ok out)) :
    ∃ o, ops[i]? = some o ∧ monitor v.SupportedSignAlgs v.KeySet o.2 (some out.claims) = none := by
  rw [runHints_fresh, List.getElem?_map, Option.map_eq_some_iff] at h
  obtain ⟨o, ho, h⟩ := h
  exact ⟨o, ho, (verifyIDTokenHint_checked h).monitor⟩

/-! ## non-vacuity -/

/-- an OP that only allows ES256 while its key set still holds the RSA key `a` (the example token `exT` is RS256 by `a`) -/
def exProv0 : C02Provider := { accessTokenKeySet := exKS, idTokenHinKeySet := exKS, tokenOf := fun _ => exT, jtiOf := fun _ => "at1" }
def exProvES : C02Provider :=
  match GenC02.WithAccessTokenVerifierOpts 0 [GenC02.WithSupportedAccessTokenSigningAlgorithms 0 ["ES256"]] exProv0 with
  | .ok p => p
  | .error _ => exProv0
def exNow : Int := 2000000100 * Go.second

-- default allow-list: the RS256 token by a trusted key is believed at all three readers …
example : GenC02.getTokenIDAndSubject exNow "https://op" exProv0 "jwt" = ("at1", "u", true) := by decide +kernel
example : (GenC02.getTokenIDAndSubjectForRevocation exNow "https://op" exProv0 "jwt").toOption = some ("at1", "u", true) := by decide +kernel
example : (GenC02.getTokenIDAndClaims exNow "https://op" exProv0 "jwt").2.2.2 = true := by decide +kernel
-- … restricted to ES256 it is refused at all three (revocation included), although `a` is still a key of the set
example : (GenC02.ProviderAccessTokenVerifier exNow "https://op" exProvES).SupportedSignAlgs = ["ES256"] := by decide +kernel
example : (GenC02.revocationKeySetVerifier exNow default (GenC02.ProviderAccessTokenVerifier exNow "https://op" exProvES)).1.SupportedSignAlgs = ["ES256"] := by decide +kernel
example : GenC02.getTokenIDAndSubject exNow "https://op" exProvES "jwt" = ("", "", false) := by decide +kernel
example : (GenC02.getTokenIDAndSubjectForRevocation exNow "https://op" exProvES "jwt").toOption = some ("", "", false) := by decide +kernel
example : (GenC02.getTokenIDAndClaims exNow "https://op" exProvES "jwt").2.2.2 = false := by decide +kernel
-- what the monitor says about believing it nevertheless
example : monitor ["ES256"] exKS exT (some (exC.SetSignatureAlgorithm "RS256")) = some "accepted:alg-not-allowed" := by decide +kernel

-- reuse: client M's assertion first, then an assertion that NAMES client A but is signed with M's key, through one verifier
def exKeyM : JWK := { KeyID := "m", Use := "sig", kty := .rsa, keyNo := 7 }
def exAsrtC (iss : String) : Claims := { iss := iss, sub := iss, aud := ["https://op"], exp := 2000000600, iat := 2000000000 }
def exAsrtT (iss : String) (bytes : Nat) : Token :=
  let p : Payload := { bytes := bytes, claims := some (exAsrtC iss) }
  let h : JHeader := { Algorithm := "RS256", KeyID := "m" }
  { segs := 3, middle := some p, jws := some { Signatures := [{ Header := h, signer := some 7, signedAlg := "RS256", signedBytes := bytes, signedHdr := h }], payload := p } }
def exJV : JWTProfileVerifier := { Issuer := "https://op", MaxAgeIAT := 3600 * Go.second, Offset := Go.second, Storage := [("client-M", exKeyM), ("client-A", exKeyA)] }
example : (runAssertions exJV [(exNow, exAsrtT "client-M" 11), (exNow, exAsrtT "client-A" 12)]).1.map (·.toOption.isSome) = [true, false] := by decide +kernel
example : monitor [] (assertionKeySet exJV "client-A") (exAsrtT "client-A" 12) (some (exAsrtC "client-A")) = some "accepted:no-trusted-key" := by decide +kernel

end C02
