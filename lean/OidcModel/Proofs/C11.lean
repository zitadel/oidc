/-
  C11 — authorization response parameters arrive intact and cannot inject markup: the property theorems.

  The model is the code regenerated from /repo by `factgen` on every run (`GenWire.AuthResponseURL`,
  `GenWire.mergeQueryParams`, `GenWire.setFragment`, `GenWire.formPostTemplate`, `GenWire.formPostAutoescape`) on top of the
  byte-level model of net/url and html/template (Model/AuthResponse.lean).  The monitor is Spec/C11.lean.

  * query mode: the monitor accepts the model's answer for ALL inputs                      (`c11_holds_query`)
  * fragment mode: the monitor accepts the model's answer for ALL inputs                   (`c11_holds_fragment`);
    the raw fragment is the encoded response itself, escaped once (`c11_fragment_wire`, `c11_fragment_roundtrip` of
    Proofs/C11Url.lean); both through the mode decision of `AuthResponseURL`                (`c11_holds_url`)
  * form_post: for ALL redirect URIs and values the page tokenises to exactly the expected tags, nothing can
    break out (`c11_form_tags`), the decoded submission is the listed parameters unchanged (`c11_form_submission`),
    every parameter of an authorization response is listed (`template_lists_required`), and the monitor accepts
    the page whenever html/template's URL filter lets the redirect URI's scheme through
    (`c11_holds_form_partial`); FALSE as a whole: custom schemes lose the action (F-C11b,
    witness `c11_form_custom_scheme_witness`)
  * where the parameters come from (regenerated `GenErr.*`, `Gen.CopyRequestObjectToAuthRequest`): `error` / `error_description`
    are the failing component's, verbatim (`c11_error_description_verbatim`), an error redirect is accepted with source
    tracing (`c11_error_redirect_holds`), `state` is the request object's or else the plain parameter's (`c11_state_source`)
-/
import OidcModel.Proofs.C11Html
import OidcModel.Proofs.C11Text
import OidcModel.Generated.AuthError
import OidcModel.Generated.RequestObject

namespace C11
open UA

/-- the template `factgen` read from pkg/op/form_post.html.tmpl has the shape the tokenizer lemmas need:
    evaluated by the kernel on the regenerated definition -/
theorem formPostTemplate_ok : templateOK GenWire.formPostTemplate = true := by decide +kernel

/-- pkg/op/auth_request.go renders it with html/template -/
theorem formPostAutoescape_on : GenWire.formPostAutoescape = true := by decide

/-- names of the success responses that the template does NOT carry: pinned, so that a template change shows up here -/
def notInTemplate (names : List AR.Bytes) : List AR.Bytes :=
  names.filter fun n => !(GenWire.formPostTemplate.any fun nd => match nd with | .withParam m _ _ => m == n | _ => false)

/-- what the form leaves out of the code response struct and of what `AuthResponseToken` encodes: `refresh_token` and
    `scope` — neither is a parameter of an authorization response the statement names (`required`) -/
theorem template_missing_params :
    notInTemplate (GenWire.codeResponseParams ++ GenWire.implicitResponseParams)
      = [AR.ascii "refresh_token", AR.ascii "scope"] := by decide +kernel

/-- **every parameter the statement names that a success response can carry is in the form** (regenerated template
    against the regenerated `schema` names of the code response struct and of what `AuthResponseToken` encodes;
    error responses always travel in a Location value) -/
theorem template_lists_required :
    (notInTemplate (GenWire.codeResponseParams ++ GenWire.implicitResponseParams)).filter required = [] := by decide +kernel

/-- the implicit-flow response carries the session state next to the token response, as the code response does -/
theorem implicit_response_has_session_state :
    GenWire.implicitResponseParams.contains (AR.ascii "session_state") = true
    ∧ GenWire.codeResponseParams.contains (AR.ascii "session_state") = true
    ∧ GenWire.errorResponseParams.contains (AR.ascii "session_state") = true := by decide +kernel

/-- **which channel `AuthResponseURL` uses** (regenerated decision): query mode on request, fragment mode on
    request, otherwise the fragment exactly for the implicit response types — the channel the monitor expects -/
theorem authResponseURL_channel (now : Int) (parse : AR.Bytes → Go.R AR.URL) (uri : AR.Bytes) (rtype mode : String)
    (resp : AR.Values) (u : AR.URL) (hu : parse uri = .ok u) :
    GenWire.AuthResponseURL now parse uri rtype mode resp () =
      .ok (if mode == "query" then GenWire.mergeQueryParams now u resp
           else if mode == "fragment" then GenWire.setFragment now u resp
           else if implicitType rtype then GenWire.setFragment now u resp
           else GenWire.mergeQueryParams now u resp) := by
  simp only [GenWire.AuthResponseURL, hu, AR.URLEncodeParams, AR.ResponseModeQuery, AR.ResponseModeFragment,
    AR.ResponseTypeIDToken, AR.ResponseTypeIDTokenOnly, implicitType]
  by_cases h1 : mode == "query" <;> by_cases h2 : mode == "fragment" <;>
    by_cases h3 : (rtype == "id_token token" || rtype == "id_token") <;> simp [h1, h2, h3]

theorem authResponseURL_unparsable (now : Int) (parse : AR.Bytes → Go.R AR.URL) (uri : AR.Bytes) (rtype mode : String)
    (resp : AR.Values) (e : String) (hu : parse uri = .error e) :
    GenWire.AuthResponseURL now parse uri rtype mode resp () = .error "ErrServerError" := by
  simp [GenWire.AuthResponseURL, hu]

/-- **C11, form_post, all redirect URIs and all values (without CR): no markup injection.**  The page rendered
    from the regenerated template tokenises to exactly the page frame, ONE form tag and the hidden inputs of
    the listed parameters; attribute values are the escaped strings, which contain no `"`, `'`, `<`, `>`
    (`c11_attr_no_breakout`). -/
theorem c11_form_tags (uri : Bytes) (params : AR.Values) (hv : ∀ name, ∀ v ∈ params.get name, ∀ c ∈ v, c ≠ 0x0D) :
    tokenize (AR.render GenWire.formPostAutoescape GenWire.formPostTemplate uri params)
      = pageFrame ++ formTag (AR.attrEscape (AR.urlNormalize (AR.urlFilter uri)))
          :: restTags AR.attrEscape params (GenWire.formPostTemplate.drop 3) := by
  rw [formPostAutoescape_on]
  exact tokenize_render _ formPostTemplate_ok uri params hv

/-- the literal text of the regenerated template has no character data outside tags (evaluated by the kernel) -/
theorem formPostTemplate_textOK : templateTextOK GenWire.formPostTemplate = true := by decide +kernel

/-- **C11, form_post: nothing before, after or between the tags.**  For every redirect URI and all values (without CR) the page
    rendered from the regenerated template has no character data outside its tags: no value ends up as text, nothing
    precedes or follows the document. -/
theorem c11_form_no_text (uri : Bytes) (params : AR.Values) (hv : ∀ name, ∀ v ∈ params.get name, ∀ c ∈ v, c ≠ 0x0D) :
    pageText (AR.render GenWire.formPostAutoescape GenWire.formPostTemplate uri params) = [] := by
  rw [formPostAutoescape_on]
  exact pageText_render _ formPostTemplate_ok formPostTemplate_textOK uri params hv

theorem pageFrame_decoded : pageFrame.map decodeTag = pageFrame := by decide +kernel

theorem attrUnescape_post : attrUnescape (s "post") = s "post" := by decide
theorem attrUnescape_hidden : attrUnescape (s "hidden") = s "hidden" := by decide

theorem restOK_names (rest : List AR.Node) (h : restOK rest = true) : ∀ name ∈ nodeNames rest, attrUnescape name = name := by
  induction rest with
  | nil => simp [nodeNames]
  | cons n rest ih =>
    cases n with
    | text t =>
      simp only [restOK, Bool.and_eq_true] at h
      exact ih h.2
    | redirectURI => simp [restOK] at h
    | withParam name pre post =>
      simp only [restOK, Bool.and_eq_true, beq_iff_eq] at h
      simpa [nodeNames] using ⟨h.1.2, ih h.2⟩

theorem restTags_decoded (params : AR.Values) (hv : ∀ name, ∀ v ∈ params.get name, ∀ c ∈ v, c ≠ 0)
    (rest : List AR.Node) (h : restOK rest = true) :
    (restTags AR.attrEscape params rest).map decodeTag = restTags id params rest := by
  rw [restTags, restTags, List.map_map]
  refine List.map_congr_left fun p hp => ?_
  obtain ⟨hn, hp2⟩ := mem_restFields hp
  simp [decodeTag, inputTag, attrUnescape_hidden, restOK_names rest h _ hn, c11_attr_roundtrip _ (hv _ _ hp2)]

theorem isInput_inputTag (n v : Bytes) : isInput (inputTag n v) = some (n, v) := by
  simp [isInput, inputTag]

theorem restTags_inputs (params : AR.Values) (rest : List AR.Node) :
    (restTags id params rest).find? (fun t => (isInput t).isNone) = none
    ∧ (restTags id params rest).filterMap isInput = restFields params rest := by
  constructor
  · simp [restTags, isInput_inputTag]
  · simp [restTags, List.filterMap_map, Function.comp_def, isInput_inputTag]

theorem restOK_drop (tmpl : List AR.Node) (h : templateOK tmpl = true) : restOK (tmpl.drop 3) = true := by
  obtain ⟨_, _, rest, rfl, _, _, _, _, _, hr⟩ := templateOK_cases tmpl h
  exact hr

/-- the decoded start tags of the whole page: frame, ONE form, the hidden inputs -/
theorem decoded_tags (uri : Bytes) (params : AR.Values)
    (hv : ∀ name, ∀ v ∈ params.get name, ∀ c ∈ v, c ≠ 0x0D ∧ c ≠ 0) :
    (tokenize (AR.render GenWire.formPostAutoescape GenWire.formPostTemplate uri params)).map decodeTag
      = pageFrame ++ formTag (AR.urlNormalize (AR.urlFilter uri)) :: restTags id params (GenWire.formPostTemplate.drop 3) := by
  have haction : attrUnescape (AR.attrEscape (AR.urlNormalize (AR.urlFilter uri))) = AR.urlNormalize (AR.urlFilter uri) :=
    c11_attr_roundtrip _ (fun c hc => (urlNormalize_clean _ c hc).2)
  rw [c11_form_tags uri params (fun n v hm c hc => (hv n v hm c hc).1), List.map_append, List.map_cons, pageFrame_decoded,
    restTags_decoded params (fun n v hm c hc => (hv n v hm c hc).2) _ (restOK_drop _ formPostTemplate_ok)]
  simp [decodeTag, formTag, attrUnescape_post, haction]

/-- **C11, form_post, what the user agent submits, all inputs.**  For every redirect URI and every
    response whose values contain neither NUL nor CR: the decoded page is accepted as an auto-submitting form
    (`formOf`), its action is the URL-normalised redirect URI (`#ZgotmplZ` if html/template's URL filter rejects
    the scheme — F-C11b), and its fields are exactly the template-listed parameters with their values UNCHANGED
    (which names are listed: `formPostTemplate_names`, `template_lists_required`). -/
theorem c11_form_submission (uri : Bytes) (params : AR.Values)
    (hv : ∀ name, ∀ v ∈ params.get name, ∀ c ∈ v, c ≠ 0x0D ∧ c ≠ 0) :
    formOf ((tokenize (AR.render GenWire.formPostAutoescape GenWire.formPostTemplate uri params)).map decodeTag)
      = .ok (AR.urlNormalize (AR.urlFilter uri), restFields params (GenWire.formPostTemplate.drop 3)) := by
  obtain ⟨hi1, hi2⟩ := restTags_inputs params (GenWire.formPostTemplate.drop 3)
  rw [decoded_tags uri params hv]
  unfold formOf
  rw [show ∀ l : List Tag, (pageFrame ++ l).take 4 = pageFrame from fun l => by simp [pageFrame],
    show ∀ l : List Tag, (pageFrame ++ l).drop 4 = l from fun l => by simp [pageFrame]]
  simp [formTag, hi1, hi2]

theorem valuesOf_eq_nil {k : Bytes} {ps : List (Bytes × Bytes)} : valuesOf k ps = [] ↔ k ∉ keysOf ps := by
  simp only [valuesOf, keysOf, List.map_eq_nil_iff, List.filter_eq_nil_iff, List.mem_map, beq_iff_eq]
  exact ⟨fun h ⟨p, hp, e⟩ => h p hp e, fun h p hp e => h ⟨p, hp, e⟩⟩

/-- the monitor's clause is satisfied as soon as every name decodes to its existing values followed by the produced ones -/
theorem paramsArrive_none (what : String) (produced existing got : List (Bytes × Bytes))
    (h : ∀ k, valuesOf k got = valuesOf k existing ++ valuesOf k produced) :
    paramsArrive what produced existing got = none := by
  simp only [paramsArrive, firstSome, Option.orElse_eq_orElse, Option.orElse_eq_or, Option.or_eq_none_iff, List.findSome?_eq_none_iff]
  refine ⟨fun k _ => by simp [h k], fun k _ => ?_, fun k hk => ?_⟩
  · by_cases hk : k ∈ keysOf produced
    · simp [hk]
    · simp [h k, valuesOf_eq_nil.mpr hk]
  · by_cases hp : k ∈ keysOf produced
    · simp [hp]
    · by_cases he : k ∈ keysOf existing
      · simp [he]
      · -- a name under which something was decoded has values among the existing or the produced ones
        exact absurd hk (valuesOf_eq_nil.mp (by rw [h k, valuesOf_eq_nil.mpr hp, valuesOf_eq_nil.mpr he]; rfl))

/-- the parameters the provider produced agree with their SOURCE: the state is the one the client sent (request object
    first, see `Source.state`), error code and description are the ones the provider produced.  Trivial for inputs
    without source tracing; for the provider's own error path it is `c11_error_source` / `c11_state_source`. -/
def SourceOK (i : Input) : Prop :=
  match i.source with
  | none => True
  | some src =>
    valuesOf (s "state") i.params = (if src.state.isEmpty then [] else [src.state]) ∧
    (∀ d, src.desc = some d → valuesOf (s "error_description") i.params = (if d.isEmpty then [] else [d])) ∧
    (∀ c, src.code = some c → valuesOf (s "error") i.params = [c])

/-- source equality holds as soon as every name decodes to its existing values followed by the produced ones -/
theorem sourceArrives_none (what : String) (i : Input) (existing got : List (Bytes × Bytes)) (hs : SourceOK i)
    (h : ∀ k, valuesOf k got = valuesOf k existing ++ valuesOf k i.params) :
    sourceArrives what i existing got = none := by
  unfold sourceArrives
  unfold SourceOK at hs
  cases hsrc : i.source with
  | none => rfl
  | some src =>
    rw [hsrc] at hs
    obtain ⟨h1, h2, h3⟩ := hs
    cases hdesc : src.desc <;> cases hcode : src.code <;> simp_all [sourceValue]

/-- what the theorems assume about `url.Parse`'s answer `u` for the redirect URI (the driver evaluates these
    three conditions on the oracle values of every harness case and reports them as `hyp=`): the part in front
    of the query is rendered without `?`/`#` and addresses the same target, `RawQuery` is the URI's query text -/
structure ParseOK (uri : Bytes) (u : AR.URL) : Prop where
  base : BaseOK u
  rawQuery : locationQuery uri = u.RawQuery
  target : sameTarget u.base (locationBase uri) = true

theorem ParseOK.nohash {uri : Bytes} {u : AR.URL} (h : ParseOK uri u) : ∀ b ∈ u.RawQuery, b ≠ 0x23 := by
  rw [← h.rawQuery]; exact locationQuery_nohash uri

/-- **C11 holds in query mode, for all inputs.**  Whatever the redirect URI (with query, with fragment, custom
    scheme, …), the response (any names, any byte strings) and whatever url.Parse answered within `ParseOK`:
    the monitor accepts the Location value the regenerated `mergeQueryParams` produces — every parameter is
    recovered unchanged by the user agent's decoder, the redirect URI's own query parameters are preserved,
    nothing is invented, the target is the redirect URI. -/
theorem c11_holds_query (now : Int) (i : Input) (u : AR.URL) (resp : AR.Values)
    (hpar : ParseOK i.uri u) (hresp : i.params = flatten resp.entries) (hd : DistinctKeys resp.entries)
    (hch : (channels i).contains Channel.query = true) (hsrc : SourceOK i) :
    monitor i (.redirect (GenWire.mergeQueryParams now u resp)) = none := by
  have hq := hpar.nohash
  simp only [monitor, hch, if_true, checkQuery]
  rw [c11_query_base now u resp hpar.base hq, hpar.target]
  simp only [Bool.not_true, Bool.false_eq_true, if_false]
  have hall : ∀ k, valuesOf k (parseQuery (locationQuery (GenWire.mergeQueryParams now u resp)))
      = valuesOf k (parseQuery (locationQuery i.uri)) ++ valuesOf k i.params := by
    intro k
    rw [c11_query_roundtrip now u resp hpar.base hq hd k, hpar.rawQuery, hresp, valuesOf_flatten_get k _ hd]
  rw [paramsArrive_none _ _ _ _ hall, sourceArrives_none _ _ _ _ hsrc hall]
  simp [unreadKept, c11_query_unread_kept now u resp hpar.base hq, hpar.rawQuery]

/-- **C11 holds in fragment mode, for all inputs.**  Whatever the redirect URI (with query, with its own fragment,
    custom scheme, …), the response (any names, any byte strings: `+ / = & % # ?`, spaces, quotes, non-ASCII, invalid
    UTF-8) and whatever url.Parse answered within `ParseOK`: the monitor accepts the Location value the regenerated
    `setFragment` produces — parsing the raw text after `#` ONCE as form data recovers every parameter unchanged,
    nothing is invented, the redirect URI's own query is untouched, the target is the redirect URI. -/
theorem c11_holds_fragment (now : Int) (i : Input) (u : AR.URL) (resp : AR.Values)
    (hpar : ParseOK i.uri u) (hresp : i.params = flatten resp.entries) (hd : DistinctKeys resp.entries)
    (hnq : (channels i).contains Channel.query = false) (hch : (channels i).contains Channel.fragment = true)
    (hsrc : SourceOK i) :
    monitor i (.redirect (GenWire.setFragment now u resp)) = none := by
  have hq := hpar.nohash
  obtain ⟨hf, hlq, hlb⟩ := c11_fragment_wire now u resp hpar.base hq
  simp only [monitor, hnq, hch, if_true, Bool.false_eq_true, if_false, checkFragment]
  rw [hlb, hpar.target, hf, hlq]
  simp only [Bool.not_true, Bool.false_eq_true, if_false]
  have hall : ∀ k, valuesOf k (parseQuery resp.Encode) = valuesOf k [] ++ valuesOf k i.params := by
    intro k
    rw [valuesOf_parseQuery_Encode resp hd k, hresp, valuesOf_flatten_get k _ hd]; rfl
  by_cases hne : resp.Encode = []
  · have hnil : i.params = [] := by rw [hresp]; exact Encode_nil_flatten resp hd hne
    rw [hne, parseQuery_nil] at hall
    simp [hne, hnil, sourceArrives_none _ _ _ _ hsrc hall]
  · simp only [hne, if_false]
    have h2 : paramsArrive "query" [] (parseQuery (locationQuery i.uri)) (parseQuery u.RawQuery) = none := by
      apply paramsArrive_none
      intro k
      rw [hpar.rawQuery]; simp [valuesOf]
    rw [paramsArrive_none _ _ _ _ hall, h2, sourceArrives_none _ _ _ _ hsrc hall]
    simp [unreadKept, hpar.rawQuery]

/-- **every answer that travels in a Location value**: whatever the mode string (`query`, `fragment`, none, anything else: the
    response type's default; for an error answer also `form_post`, which then travels in the default channel), the Location value
    of the regenerated `AuthResponseURL` is accepted — the channel it decides for is the one the monitor expects -/
theorem c11_holds_url (now : Int) (parse : AR.Bytes → Go.R AR.URL) (i : Input) (u : AR.URL) (resp : AR.Values)
    (hu : parse i.uri = .ok u) (hpar : ParseOK i.uri u) (hresp : i.params = flatten resp.entries) (hd : DistinctKeys resp.entries)
    (hch : i.mode ≠ "form_post" ∨ i.isError = true) (hsrc : SourceOK i) :
    ∃ loc, GenWire.AuthResponseURL now parse i.uri i.rtype i.mode resp () = .ok loc ∧ monitor i (.redirect loc) = none := by
  rw [authResponseURL_channel now parse i.uri i.rtype i.mode resp u hu]
  by_cases h1 : i.mode = "query"
  · exact ⟨_, by simp [h1], c11_holds_query now i u resp hpar hresp hd (by simp [channels, h1]) hsrc⟩
  by_cases h2 : i.mode = "fragment"
  · exact ⟨_, by simp [h2], c11_holds_fragment now i u resp hpar hresp hd (by simp [channels, h2]) (by simp [channels, h2]) hsrc⟩
  -- neither requested: the default channel of the response type, on both sides
  have hdflt : channels i = [if implicitType i.rtype then .fragment else .query]
      ∨ channels i = [.form, if implicitType i.rtype then .fragment else .query] := by
    rcases hch with h4 | h4
    · exact Or.inl (by simp [channels, h1, h2, h4])
    · by_cases h5 : i.mode = "form_post"
      · exact Or.inr (by simp [channels, h5, h4])
      · exact Or.inl (by simp [channels, h1, h2, h5])
  by_cases h3 : implicitType i.rtype = true
  · exact ⟨_, by simp [h1, h2, h3], c11_holds_fragment now i u resp hpar hresp hd
      (by rcases hdflt with h | h <;> simp [h, h3]) (by rcases hdflt with h | h <;> simp [h, h3]) hsrc⟩
  · exact ⟨_, by simp [h1, h2, h3], c11_holds_query now i u resp hpar hresp hd (by rcases hdflt with h | h <;> simp [h, h3]) hsrc⟩

/-- `c11_holds_url` when the mode is `query`, or absent with a response type whose default is the query -/
theorem c11_holds_query_mode (now : Int) (parse : AR.Bytes → Go.R AR.URL) (i : Input) (u : AR.URL) (resp : AR.Values)
    (hu : parse i.uri = .ok u) (hpar : ParseOK i.uri u) (hresp : i.params = flatten resp.entries) (hd : DistinctKeys resp.entries)
    (hmode : i.mode = "query" ∨ (i.mode = "" ∧ implicitType i.rtype = false)) (hsrc : SourceOK i) :
    ∃ loc, GenWire.AuthResponseURL now parse i.uri i.rtype i.mode resp () = .ok loc ∧ monitor i (.redirect loc) = none := by
  apply c11_holds_url now parse i u resp hu hpar hresp hd _ hsrc
  rcases hmode with h | ⟨h, _⟩ <;> rw [h] <;> exact Or.inl (by decide)

/-- `c11_holds_url` when the mode is `fragment`, or absent with a response type whose default is the fragment -/
theorem c11_holds_fragment_mode (now : Int) (parse : AR.Bytes → Go.R AR.URL) (i : Input) (u : AR.URL) (resp : AR.Values)
    (hu : parse i.uri = .ok u) (hpar : ParseOK i.uri u) (hresp : i.params = flatten resp.entries) (hd : DistinctKeys resp.entries)
    (hmode : i.mode = "fragment" ∨ (i.mode = "" ∧ implicitType i.rtype = true)) (hsrc : SourceOK i) :
    ∃ loc, GenWire.AuthResponseURL now parse i.uri i.rtype i.mode resp () = .ok loc ∧ monitor i (.redirect loc) = none := by
  apply c11_holds_url now parse i u resp hu hpar hresp hd _ hsrc
  rcases hmode with h | ⟨h, _⟩ <;> rw [h] <;> exact Or.inl (by decide)

/-- the hidden inputs of the regenerated template, in order -/
theorem formPostTemplate_names :
    nodeNames (GenWire.formPostTemplate.drop 3)
      = [s "state", s "code", s "id_token", s "access_token", s "token_type", s "expires_in", s "session_state"] := by decide +kernel

theorem valuesOf_restFields (params : AR.Values) (nodes : List AR.Node) (hn : (nodeNames nodes).Nodup) (k : Bytes) :
    valuesOf k (restFields params nodes) = if (nodeNames nodes).contains k then (params.get k).take 1 else [] := by
  unfold restFields
  generalize nodeNames nodes = names at hn ⊢
  induction names with
  | nil => rfl
  | cons n names ih =>
    rw [List.nodup_cons] at hn
    rw [List.flatMap_cons, valuesOf_append, valuesOf_entry, ih hn.2, List.contains_cons]
    by_cases hk : n = k
    · subst hk
      simp [hn.1]
    · simp [hk, Ne.symm hk]

theorem get_nil_or_mem (es : Entries) (k : Bytes) :
    AR.Values.get ⟨es⟩ k = [] ∨ ∃ e ∈ es, e.1 = k ∧ AR.Values.get ⟨es⟩ k = e.2 := by
  unfold AR.Values.get
  cases h : es.find? (·.1 == k) with
  | none => exact Or.inl rfl
  | some e => exact Or.inr ⟨e, List.mem_of_find?_eq_some h, by simpa using List.find?_some h, rfl⟩

/-- **C11 holds in form_post mode whenever the form's action survives** (partial: F-C11b).  For every redirect URI
    whose scheme html/template's URL filter lets through (no scheme, http, https, mailto) and every response of
    template-listed parameters (one value each, no NUL / CR): the monitor accepts the page rendered from the
    regenerated template — it is exactly the auto-submitting form, its action addresses the redirect URI, every
    parameter is submitted with its value unchanged, nothing else is in the page. -/
theorem c11_holds_form_partial (i : Input) (resp : AR.Values)
    (hsafe : AR.isSafeURL i.uri = true)
    (hresp : i.params = flatten resp.entries) (hd : DistinctKeys resp.entries)
    (hv : ∀ name, ∀ v ∈ resp.get name, ∀ c ∈ v, c ≠ 0x0D ∧ c ≠ 0)
    (hlisted : ∀ e ∈ resp.entries, e.1 ∈ nodeNames (GenWire.formPostTemplate.drop 3) ∧ e.2.length ≤ 1)
    (hch : (channels i).contains Channel.form = true) (hsrc : SourceOK i) :
    monitor i (.form (AR.render GenWire.formPostAutoescape GenWire.formPostTemplate i.uri resp)
      ((tokenize (AR.render GenWire.formPostAutoescape GenWire.formPostTemplate i.uri resp)).map decodeTag)) = none := by
  simp only [monitor, hch, if_true, checkForm, bne_self_eq_false, Bool.false_eq_true, if_false,
    c11_form_no_text i.uri resp (fun n v hm c hc => (hv n v hm c hc).1), List.isEmpty_nil, Bool.not_true]
  rw [c11_form_submission i.uri resp hv]
  simp only [c11_form_action_target i.uri hsafe, Bool.not_true, Bool.false_eq_true, if_false]
  suffices hall : ∀ k, valuesOf k (restFields resp (GenWire.formPostTemplate.drop 3)) = valuesOf k [] ++ valuesOf k i.params by
    rw [paramsArrive_none _ _ _ _ hall, sourceArrives_none _ _ _ _ hsrc hall]; rfl
  intro k
  have hnodup : (nodeNames (GenWire.formPostTemplate.drop 3)).Nodup := by rw [formPostTemplate_names]; decide
  rw [valuesOf_restFields resp _ hnodup k, hresp, valuesOf_flatten_get k _ hd]
  simp only [valuesOf, List.filter_nil, List.map_nil, List.nil_append]
  rcases get_nil_or_mem resp.entries k with h0 | ⟨e, he, rfl, hg⟩
  · simp [h0]
  · obtain ⟨hl1, hl2⟩ := hlisted e he
    have hl1' : (nodeNames (GenWire.formPostTemplate.drop 3)).contains e.1 = true := by simpa using hl1
    rw [hg, hl1', if_pos rfl, List.take_of_length_le hl2]

def wUri : Bytes := s "https://rp.example/cb?tenant=acme#/app"
def wURL : AR.URL := { base := s "https://rp.example/cb", RawQuery := s "tenant=acme", Fragment := s "/app" }
def wResp : AR.Values := ⟨[(s "code", [s "a+b/c=&%#? \"<>"]), (s "state", [[0xE2, 0x82, 0xAC, 0x20, 0xFF]])]⟩

/-- the hypotheses of `c11_holds_query` are satisfiable: a redirect URI with query AND fragment, values with
    every kind of awkward byte -/
example : ParseOK wUri wURL := ⟨by decide +kernel, by decide +kernel, by decide +kernel⟩
example : DistinctKeys wResp.entries := by decide +kernel
set_option maxRecDepth 1000000 in
/-- … and the monitor really evaluates to "ok" on that case (concrete accepted case) -/
example : monitor { uri := wUri, uriOK := true, mode := "query", rtype := "code", isError := false, params := flatten wResp.entries }
    (.redirect (GenWire.mergeQueryParams 0 wURL wResp)) = none := by decide +kernel
set_option maxRecDepth 1000000 in
/-- a concrete rejected case: the same Location with one value altered is flagged -/
example : monitor { uri := wUri, uriOK := true, mode := "query", rtype := "code", isError := false, params := [(s "code", s "a b")] }
    (.redirect (s "https://rp.example/cb?code=a-b&tenant=acme#/app")) = some "query-param-altered:code" := by decide +kernel

def wPlain : Bytes := s "https://rp.example/cb"
def wPlainURL : AR.URL := { base := wPlain }
def wPage (uri : Bytes) (resp : AR.Values) : Bytes := AR.render GenWire.formPostAutoescape GenWire.formPostTemplate uri resp
def wForm (uri : Bytes) (resp : AR.Values) : Observed := .form (wPage uri resp) ((tokenize (wPage uri resp)).map decodeTag)

set_option maxRecDepth 1000000 in
/-- fragment mode with a value that needs a percent escape: `state=a+b` is on the wire as `#state=a%2Bb`, the user
    agent recovers `a+b` (concrete accepted case) -/
example : monitor { uri := wPlain, uriOK := true, mode := "fragment", rtype := "code", isError := false, params := [(s "state", s "a+b")] }
    (.redirect (GenWire.setFragment 0 wPlainURL ⟨[(s "state", [s "a+b"])]⟩)) = none := by decide +kernel

set_option maxRecDepth 1000000 in
/-- … on a redirect URI with query and fragment of its own, every kind of awkward byte in the values -/
example : monitor { uri := wUri, uriOK := true, mode := "", rtype := "id_token", isError := false, params := flatten wResp.entries }
    (.redirect (GenWire.setFragment 0 wURL wResp)) = none := by decide +kernel

set_option maxRecDepth 1000000 in
/-- a concrete rejected case: a Location whose fragment was escaped a second time is flagged -/
example : monitor { uri := wPlain, uriOK := true, mode := "fragment", rtype := "code", isError := false, params := [(s "state", s "a+b")] }
    (.redirect (s "https://rp.example/cb#state=a%252Bb")) = some "fragment-param-encoded-twice:state" := by decide +kernel

set_option maxRecDepth 1000000 in
/-- a concrete rejected case: a Location that lost the setting `a;b=1` of the redirect URI's query (what rebuilding the
    query from `url.Values` does) is flagged -/
example : monitor { uri := s "https://rp.example/cb?a;b=1&ok=1", uriOK := true, mode := "query", rtype := "code", isError := false, params := [(s "code", s "c1")] }
    (.redirect (s "https://rp.example/cb?code=c1&ok=1")) = some "existing-query-not-preserved:unread-setting" := by decide +kernel

set_option maxRecDepth 1000000 in
/-- query mode keeps the parts of the redirect URI's query no decoder accepts (`a;b=1`, `%zz`) byte for byte -/
example : GenWire.mergeQueryParams 0 { base := wPlain, RawQuery := s "a;b=1&%zz=2&ok=1" } ⟨[(s "code", [s "c 1"])]⟩
    = s "https://rp.example/cb?a;b=1&%zz=2&ok=1&code=c+1" := by decide +kernel

/-- **F-C11b (witness): form_post with a custom-scheme redirect URI posts to `#ZgotmplZ`** -/
theorem c11_form_custom_scheme_witness :
    monitor { uri := s "myapp://callback", uriOK := true, mode := "form_post", rtype := "code", isError := false, params := [(s "code", s "c1")] }
      (wForm (s "myapp://callback") ⟨[(s "code", [s "c1"])]⟩) = some "form-action-differs" := by decide +kernel

set_option maxRecDepth 1000000 in
/-- the form carries `session_state` (concrete accepted case) -/
example : monitor { uri := wPlain, uriOK := true, mode := "form_post", rtype := "code", isError := false,
                    params := [(s "code", s "c1"), (s "state", s "x"), (s "session_state", s "ss")] }
    (wForm wPlain ⟨[(s "code", [s "c1"]), (s "state", [s "x"]), (s "session_state", [s "ss"])]⟩) = none := by decide +kernel

set_option maxRecDepth 1000000 in
/-- form_post is accepted when the scheme is http(s) and the response has only listed parameters — with values
    that try to break out (concrete accepted case) -/
example : monitor { uri := s "https://rp.example/cb?a=\"x\"&b='y'", uriOK := true, mode := "form_post", rtype := "code", isError := false,
                    params := [(s "code", s "\"><script>alert(1)</script>"), (s "state", s "&amp;&#34;' <b>")] }
    (wForm (s "https://rp.example/cb?a=\"x\"&b='y'") ⟨[(s "code", [s "\"><script>alert(1)</script>"]), (s "state", [s "&amp;&#34;' <b>"])]⟩) = none := by decide +kernel

set_option maxRecDepth 1000000 in
/-- … and a page in which a value DID break out of its attribute is rejected (the monitor is not vacuous) -/
example : (monitor { uri := wPlain, uriOK := true, mode := "form_post", rtype := "code", isError := false, params := [(s "code", s "\"><script>")] }
    (let page := AR.render false GenWire.formPostTemplate wPlain ⟨[(s "code", [s "\"><script>"])]⟩
     .form page ((tokenize page).map decodeTag))).isSome = true := by decide +kernel

/-! The wire theorems above start from the parameters the provider hands to the transport code.  This part is about how
    those parameters come about, on the definitions regenerated from pkg/oidc/error.go, pkg/op/error.go and
    pkg/op/auth_request.go (`GenErr.*`, `Gen.CopyRequestObjectToAuthRequest`). -/

theorem sprintf0_nopct (t : Bytes) : ∀ fuel, t.length ≤ fuel → (0x25 : UInt8) ∉ t → AR.sprintf0 fuel .text false t = t := by
  induction t with
  | nil => intro fuel _ _; cases fuel <;> rfl
  | cons c r ih =>
    intro fuel hf hp
    cases fuel with
    | zero => simp at hf
    | succ n =>
      simp only [List.mem_cons, not_or] at hp
      simp [AR.sprintf0, Ne.symm hp.1, ih n (by simpa using hf) hp.2]

/-- `fmt.Sprintf(text)` gives the text back when it contains no `%` … -/
theorem sprintf_nopct (t : Bytes) (h : (0x25 : UInt8) ∉ t) : AR.Sprintf t = t := by
  simp [AR.Sprintf, sprintf0_nopct t (t.length + 1) (by omega) h]

/-- … and not otherwise: a text is a FORMAT there (`100% full` comes out as `100%!f(MISSING)ull`) -/
theorem sprintf_pct_witness :
    AR.Sprintf (AR.ascii "disk is 100% full") = AR.ascii "disk is 100%!f(MISSING)ull"
    ∧ AR.Sprintf (AR.ascii "a%2Fb") = AR.ascii "a%!F(MISSING)b"
    ∧ AR.Sprintf (AR.ascii "usage at 93%") = AR.ascii "usage at 93%!(NOVERB)"
    ∧ AR.Sprintf (AR.ascii "100%% sure") = AR.ascii "100% sure" := by decide +kernel

/-- the description the failing component REPORTED: the text of a plain error, the description of an OAuth error
    (its own, or the one found in its chain) -/
def srcDesc : AR.GoErr → Bytes
  | .plain t => t
  | .oidc e => e.Description
  | .wraps _ e => e.Description

/-- … and the error code: `server_error` for a plain error, the OAuth error's own otherwise -/
def srcCode : AR.GoErr → String
  | .plain _ => "server_error"
  | .oidc e => e.ErrorType
  | .wraps _ e => e.ErrorType

/-- the regenerated `(*oidc.Error).WithDescription`: a printf — the description becomes `Sprintf(desc, args...)` -/
theorem withDescription_eq (now : Int) (e : AR.OidcError) (desc : Bytes) (args : List AR.FmtArg) :
    GenErr.WithDescription now e desc args = { e with Description := AR.Sprintf desc args } := rfl

/-- the regenerated `oidc.DefaultToServerError`: an OAuth error (also one found in the chain) is answered as it is;
    anything else as `server_error` with the description handed over, UNCHANGED -/
theorem defaultToServerError_eq (now : Int) (err : AR.GoErr) (description : Bytes) :
    GenErr.DefaultToServerError now err description =
      match err with
      | .plain _ => { ErrorType := "server_error", Description := description, Parent := ⟨err.Error⟩ }
      | .oidc e => e
      | .wraps _ e => e := by
  cases err <;> rfl

/-- **the description put on the wire is the error's own text / the OAuth error's description, verbatim** — for every
    error value and every text (any bytes: `%`, `%s`, `%!`, `%%`, a trailing `%`, UTF-8): the error that
    `AuthRequestError` / `TryErrorRedirect` encode, `DefaultToServerError(err, err.Error())`, carries exactly the
    description and the code the failing component reported.  (No `Sprintf` in between: with the description passed
    through `WithDescription` this is false, `sprintf_pct_witness`.) -/
theorem c11_error_description_verbatim (now : Int) (err : AR.GoErr) :
    (GenErr.DefaultToServerError now err (AR.errText err)).Description = srcDesc err
    ∧ (GenErr.DefaultToServerError now err (AR.errText err)).ErrorType = srcCode err := by
  rw [defaultToServerError_eq]
  cases err <;> exact ⟨rfl, rfl⟩

/-- a call site that hands over its own wording (`DefaultToServerError(err, "unable to save auth request")`): that
    wording is the description of a plain error, an OAuth error keeps its own -/
theorem c11_error_description_own_wording (now : Int) (err : AR.GoErr) (wording : Bytes) :
    (GenErr.DefaultToServerError now err wording).Description
      = (match err with | .plain _ => wording | .oidc e => e.Description | .wraps _ e => e.Description) := by
  rw [defaultToServerError_eq]
  cases err <;> rfl

/-- the error as `AuthRequestError` / `TryErrorRedirect` complete it: state and session state of the request -/
def errorOf (now : Int) (authReq : AR.ErrReq) (err : AR.GoErr) : AR.OidcError :=
  { GenErr.DefaultToServerError now err (AR.errText err) with
    State := authReq.state,
    SessionState := if authReq.is_AuthRequestSessionState then authReq.sessionState else [] }

/-- the response mode the error paths ask `AuthResponseURL` for -/
def errMode (authReq : AR.ErrReq) : String := if authReq.is_has_GetResponseMode then authReq.responseMode else ""

/-- **the regenerated `AuthRequestError`, for a request it redirects**: the Location value is `AuthResponseURL` of the
    redirect URI and the schema encoding of `errorOf` — `error`, `error_description`, `state`, `session_state` -/
theorem authRequestError_eq (now : Int) (urlParse : Bytes → Go.R AR.URL) (authReq : AR.ErrReq) (err : AR.GoErr) (authorizer : AR.ErrAuthorizer)
    (hnn : authReq.nilp = false) (huri : authReq.redirectURI ≠ [])
    (hrd : (GenErr.DefaultToServerError now err (AR.errText err)).redirectDisabled = false) :
    GenErr.AuthRequestError now urlParse authReq err authorizer =
      match GenWire.AuthResponseURL now urlParse authReq.redirectURI authReq.responseType (errMode authReq)
          (AR.encodeError (errorOf now authReq err)) () with
      | .ok url => [.redirect url]
      | .error e => [.page 400 (AR.ascii e)] := by
  have huri' : (authReq.redirectURI == ([] : Bytes)) = false := by simpa using huri
  have hrd' : (GenErr.DefaultToServerError now err err.Error).redirectDisabled = false := hrd
  unfold GenErr.AuthRequestError errorOf errMode
  simp only [Go.isNil, Go.Nilable.isNil, hnn, Bool.false_eq_true, if_false, AR.ErrReq.GetRedirectURI, coe_empty, huri',
    AR.OidcError.IsRedirectDisabled, AR.ErrReq.GetState, AR.ErrReq.GetSessionState, AR.ErrReq.GetResponseMode,
    AR.ErrReq.GetResponseType, AR.ErrAuthorizer.Encoder, AR.httpRedirect, AR.httpError, List.append_nil, AR.errText, AR.ErrText.errText]
  by_cases h1 : authReq.is_AuthRequestSessionState = true <;> by_cases h2 : authReq.is_has_GetResponseMode = true <;>
    simp only [h1, h2, hrd', if_true, if_false, Bool.false_eq_true, Bool.or_self] <;>
    (generalize GenWire.AuthResponseURL _ _ _ _ _ _ _ = X; cases X <;> rfl)

/-- the regenerated `TryErrorRedirect` (Server router) builds the same Location value from the same error -/
theorem tryErrorRedirect_eq (now : Int) (urlParse : Bytes → Go.R AR.URL) (authReq : AR.ErrReq) (err : AR.GoErr)
    (hnn : authReq.nilp = false) (huri : authReq.redirectURI ≠ [])
    (hrd : (GenErr.DefaultToServerError now err (AR.errText err)).redirectDisabled = false) :
    GenErr.TryErrorRedirect now urlParse authReq err () () =
      match GenWire.AuthResponseURL now urlParse authReq.redirectURI authReq.responseType (errMode authReq)
          (AR.encodeError (errorOf now authReq err)) () with
      | .ok url => .ok ⟨url⟩
      | .error e => .error e := by
  have huri' : (authReq.redirectURI == ([] : Bytes)) = false := by simpa using huri
  have hrd' : (GenErr.DefaultToServerError now err err.Error).redirectDisabled = false := hrd
  unfold GenErr.TryErrorRedirect errorOf errMode
  simp only [Go.isNil, Go.Nilable.isNil, hnn, Bool.false_eq_true, if_false, AR.ErrReq.GetRedirectURI, coe_empty, huri',
    AR.OidcError.IsRedirectDisabled, AR.ErrReq.GetState, AR.ErrReq.GetSessionState, AR.ErrReq.GetResponseMode,
    AR.ErrReq.GetResponseType, AR.NewRedirect, AR.AsStatusError, AR.ErrName.errName, AR.errText, AR.ErrText.errText]
  by_cases h1 : authReq.is_AuthRequestSessionState = true <;> by_cases h2 : authReq.is_has_GetResponseMode = true <;>
    simp only [h1, h2, hrd', if_true, if_false, Bool.false_eq_true, Bool.or_self] <;>
    (generalize GenWire.AuthResponseURL _ _ _ _ _ _ _ = X; cases X <;> rfl)

theorem encodeError_distinct (e : AR.OidcError) : DistinctKeys (AR.encodeError e).entries := by
  unfold AR.encodeError DistinctKeys
  by_cases h1 : e.Description.isEmpty = true <;> by_cases h2 : e.State.isEmpty = true <;> by_cases h3 : e.SessionState.isEmpty = true <;>
    simp only [h1, h2, h3, if_true, if_false, Bool.false_eq_true, List.append_nil, List.cons_append, List.nil_append, List.map_cons, List.map_nil] <;>
    decide

theorem ne_nil_of_isEmpty_false {b : Bytes} (h : ¬ b.isEmpty = true) : b.isEmpty = false := by simpa using h

theorem encodeError_values (e : AR.OidcError) :
    valuesOf (s "state") (flatten (AR.encodeError e).entries) = (if e.State.isEmpty then [] else [e.State])
    ∧ valuesOf (s "error_description") (flatten (AR.encodeError e).entries) = (if e.Description.isEmpty then [] else [e.Description])
    ∧ valuesOf (s "error") (flatten (AR.encodeError e).entries) = [AR.ascii e.ErrorType] := by
  unfold AR.encodeError
  -- eight shapes of the entry list; which of the four names equal the one asked for is evaluated
  cases e.Description.isEmpty <;> cases e.State.isEmpty <;> cases e.SessionState.isEmpty <;>
    simp +decide [flatten, valuesOf]

/-- what the monitor is asked about an error answer to the request `authReq` in which the failing component reported
    `err`: the parameters are what the error path encodes; the SOURCE is the state the request holds and the
    description / code that component reported -/
def errInput (now : Int) (authReq : AR.ErrReq) (err : AR.GoErr) : Input :=
  { uri := authReq.redirectURI, uriOK := true, mode := errMode authReq, rtype := authReq.responseType, isError := true,
    params := flatten (AR.encodeError (errorOf now authReq err)).entries,
    source := some { statePlain := authReq.state, stateRO := [], roHonoured := false,
                     desc := some (srcDesc err), code := some (AR.ascii (srcCode err)) } }

/-- the error path's parameters agree with their source (`c11_error_description_verbatim`) -/
theorem c11_error_source (now : Int) (authReq : AR.ErrReq) (err : AR.GoErr) : SourceOK (errInput now authReq err) := by
  obtain ⟨hd, hc⟩ := c11_error_description_verbatim now err
  obtain ⟨v1, v2, v3⟩ := encodeError_values (errorOf now authReq err)
  have e1 : (errorOf now authReq err).State = authReq.state := rfl
  have e2 : (errorOf now authReq err).Description = srcDesc err := hd
  have e3 : (errorOf now authReq err).ErrorType = srcCode err := hc
  rw [e1] at v1; rw [e2] at v2; rw [e3] at v3
  refine ⟨?_, ?_, ?_⟩
  · simpa [errInput, Source.state] using v1
  · intro d hd'; cases hd'; exact v2
  · intro c hc'; cases hc'; exact v3

/-- an error answer through `AuthResponseURL`, whatever the requested mode (an error answer to a form_post request
    travels in the response type's default channel): the monitor accepts the Location value -/
theorem c11_holds_error_url (now : Int) (parse : AR.Bytes → Go.R AR.URL) (i : Input) (u : AR.URL) (resp : AR.Values)
    (hu : parse i.uri = .ok u) (hpar : ParseOK i.uri u) (hresp : i.params = flatten resp.entries) (hd : DistinctKeys resp.entries)
    (herr : i.isError = true) (hsrc : SourceOK i) :
    ∃ loc, GenWire.AuthResponseURL now parse i.uri i.rtype i.mode resp () = .ok loc ∧ monitor i (.redirect loc) = none :=
  c11_holds_url now parse i u resp hu hpar hresp hd (Or.inr herr) hsrc

/-- **C11 for the provider's error path, from the source to the user agent** (`AuthRequestError`, Provider router and
    the callback of both routers): for every request it redirects, every error value the failing component reported
    (plain, OAuth, wrapped; any text) and every requested mode, the answer is a redirect whose Location value the
    monitor accepts WITH source tracing — the user agent decodes `error` and `error_description` exactly as reported,
    `state` exactly as the request holds it, nothing else is altered or invented. -/
theorem c11_error_redirect_holds (now : Int) (parse : AR.Bytes → Go.R AR.URL) (authReq : AR.ErrReq) (err : AR.GoErr) (authorizer : AR.ErrAuthorizer)
    (u : AR.URL) (hu : parse authReq.redirectURI = .ok u) (hpar : ParseOK authReq.redirectURI u)
    (hnn : authReq.nilp = false) (huri : authReq.redirectURI ≠ [])
    (hrd : (GenErr.DefaultToServerError now err (AR.errText err)).redirectDisabled = false) :
    ∃ loc, GenErr.AuthRequestError now parse authReq err authorizer = [.redirect loc]
      ∧ GenErr.TryErrorRedirect now parse authReq err () () = .ok ⟨loc⟩
      ∧ monitor (errInput now authReq err) (.redirect loc) = none := by
  obtain ⟨loc, hloc, hmon⟩ := c11_holds_error_url now parse (errInput now authReq err) u (AR.encodeError (errorOf now authReq err))
    hu hpar rfl (encodeError_distinct _) rfl (c11_error_source now authReq err)
  have hloc' : GenWire.AuthResponseURL now parse authReq.redirectURI authReq.responseType (errMode authReq)
      (AR.encodeError (errorOf now authReq err)) () = .ok loc := hloc
  refine ⟨loc, ?_, ?_, hmon⟩
  · rw [authRequestError_eq now parse authReq err authorizer hnn huri hrd, hloc']
  · rw [tryErrorRedirect_eq now parse authReq err hnn huri hrd, hloc']

/-- **the state stored on the authorization request is the request object's when it carries one, else the plain
    parameter's** — for all requests and all request objects (regenerated `CopyRequestObjectToAuthRequest`); this is
    `Source.state` of the monitor, on the model's strings -/
theorem c11_state_source (now : Int) (a : AuthRequestIn) (ro : Claims) :
    (Gen.CopyRequestObjectToAuthRequest now a ro).State = (if ro.State != "" then ro.State else a.State) := by
  unfold Gen.CopyRequestObjectToAuthRequest
  simp only [apply_ite AuthRequestIn.State, ite_self]

/-- … also through the regenerated `ParseRequestObject`: an accepted request object leaves the request with that state,
    a refused one leaves no request at all (the error is answered directly, never redirected) -/
theorem c11_state_source_parsed (now : Int) (a a' : AuthRequestIn) (st : Store) (issuer : String)
    (h : Gen.ParseRequestObject now a st issuer = .ok a') :
    ∃ ro : Claims, a'.State = (if ro.State != "" then ro.State else a.State) := by
  unfold Gen.ParseRequestObject at h
  repeat' (split at h <;> try (simp at h))
  rename_i ro _
  exact ⟨ro, by rw [← h]; exact c11_state_source now a ro⟩

/-- without a request object in play the state is the plain parameter's (nothing else writes `State` before the
    request is stored): `Source.state` with `roHonoured = false` -/
example (plain ro : Bytes) : Source.state { statePlain := plain, stateRO := ro, roHonoured := false } = plain := rfl
example (plain : Bytes) : Source.state { statePlain := plain, stateRO := s "r", roHonoured := true } = s "r" := by
  have : (s "r").isEmpty = false := by decide
  simp [Source.state, this]
example (plain : Bytes) : Source.state { statePlain := plain, stateRO := [], roHonoured := true } = plain := rfl

-- (a concrete instance of `c11_error_redirect_holds` — real Location bytes, accepted; the printf-mangled one, rejected — is
--  evaluated by the kernel in Proofs/C11Examples.lean)

set_option maxRecDepth 1000000 in
/-- … and when the provider handed the mangled text to the transport code itself (so that nothing is altered on the wire),
    the source clause catches it -/
example : monitor { uri := wPlain, uriOK := true, mode := "query", rtype := "code", isError := true,
                    params := [(s "error", s "server_error"), (s "error_description", s "100%!f(MISSING)ull")],
                    source := some { statePlain := [], stateRO := [], roHonoured := false, desc := some (s "100% full"), code := some (s "server_error") } }
    (.redirect (s "https://rp.example/cb?error=server_error&error_description=100%25%21f%28MISSING%29ull"))
      = some "query-error_description-not-the-one-the-provider-produced" := by decide +kernel

set_option maxRecDepth 1000000 in
/-- a state sent as plain parameter next to a request object WITHOUT state has to come back (accepted / rejected) -/
example : monitor { uri := wPlain, uriOK := true, mode := "query", rtype := "code", isError := false,
                    params := [(s "code", s "c1"), (s "state", s "st1")],
                    source := some { statePlain := s "st1", stateRO := [], roHonoured := true } }
    (.redirect (s "https://rp.example/cb?code=c1&state=st1")) = none := by decide +kernel
set_option maxRecDepth 1000000 in
example : monitor { uri := wPlain, uriOK := true, mode := "query", rtype := "code", isError := false,
                    params := [(s "code", s "c1")],
                    source := some { statePlain := s "st1", stateRO := [], roHonoured := true } }
    (.redirect (s "https://rp.example/cb?code=c1")) = some "query-state-not-the-one-the-client-sent" := by decide +kernel
set_option maxRecDepth 1000000 in
/-- both channels: the request object's state wins -/
example : monitor { uri := wPlain, uriOK := true, mode := "query", rtype := "code", isError := false,
                    params := [(s "code", s "c1"), (s "state", s "plain")],
                    source := some { statePlain := s "plain", stateRO := s "from-ro", roHonoured := true } }
    (.redirect (s "https://rp.example/cb?code=c1&state=plain")) = some "query-state-not-the-one-the-client-sent" := by decide +kernel

end C11
