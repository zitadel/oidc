/-
  C09 — type assertions on decoded input (JOSE header parameters, members of map[string]any, `any` targets of decoders).

  * `assert_safe_sound`      : a site judged `safe` panics for NO dynamic type of its operand (∀ site, ∀ type);
  * `assert_unsafe_witness`  : … and an unsafe site does panic for some dynamic type (the judgement is not vacuous);
  * `input_asserts_guarded`  : on the regenerated sites, every assertion whose operand comes from decoded input is
                               in comma-ok form or dominated by a guard — NO audited exemption;
  * `unsafe_assert_sites_audited` : the unguarded single-value assertions are exactly the audited list (one, reflect);
  * `unchecked_list_is_unsafe_sites` : `uncheckedAsserts` is that same list;
  * `c09_assert_sites_total` : ∀ regenerated non-audited site, ∀ dynamic type: no panic;
  * `c09_input_asserts_total`: ∀ regenerated site on decoded input, ∀ dynamic type: no panic.
-/
import OidcModel.Model.C09Tie

namespace C09

theorem assert_safe_sound (s : AssertSite) (h : s.safe = true) (dyn : String) : s.panics dyn = false := by
  unfold AssertSite.safe at h
  unfold AssertSite.panics AssertSite.reaches
  by_cases hf : s.form = "single"
  · have hg : s.guards.isEmpty = false := by simpa [hf] using h
    by_cases hd : dyn = s.type <;> simp [hf, hg, hd]
  · simp [hf]

theorem assert_unsafe_witness (s : AssertSite) (h : s.safe = false) : s.panics (s.type ++ "?") = true := by
  unfold AssertSite.safe at h
  unfold AssertSite.panics AssertSite.reaches
  have hf : s.form = "single" := by
    by_cases hf : s.form = "single"
    · exact hf
    · simp [hf] at h
  have hg : s.guards.isEmpty = true := by simpa [hf] using h
  have hne : s.type ++ "?" ≠ s.type := by
    intro e
    have := congrArg String.length e
    simp [String.length_append] at this
  simp [hf, hg, hne]

/-- every assertion on decoded input is guarded: no exemption -/
theorem input_asserts_guarded : (GenC09.assertSites.filter fun s => s.fromInput && !s.safe) = [] := by decide +kernel

/-- the unguarded single-value assertions of the library are the audited ones -/
theorem unsafe_assert_sites_audited :
    ((GenC09.assertSites.filter fun s => !s.safe).map fun s => (s.fn, s.expr)) = auditedAsserts := by decide +kernel

theorem unchecked_list_is_unsafe_sites :
    GenC09.uncheckedAsserts = ((GenC09.assertSites.filter fun s => !s.safe).map fun s => (s.fn, s.expr)) :=
  (rfl : GenC09.uncheckedAsserts = auditedAsserts).trans unsafe_assert_sites_audited.symm

theorem mem_unsafe_of_not_safe {l : List AssertSite} {s : AssertSite} (hs : s ∈ l) (h : s.safe = false) :
    (s.fn, s.expr) ∈ ((l.filter fun s => !s.safe).map fun s => (s.fn, s.expr)) := by
  apply List.mem_map.mpr
  exact ⟨s, List.mem_filter.mpr ⟨hs, by simp [h]⟩, rfl⟩

/-- **C09 (type assertions)**: no regenerated, non-audited assertion panics, whatever the dynamic type of its operand -/
theorem c09_assert_sites_total (s : AssertSite) (hs : s ∈ GenC09.assertSites)
    (hna : (s.fn, s.expr) ∉ auditedAsserts) (dyn : String) : s.panics dyn = false := by
  apply assert_safe_sound
  cases h : s.safe with
  | true => rfl
  | false =>
    exfalso; apply hna
    rw [← unsafe_assert_sites_audited]
    exact mem_unsafe_of_not_safe hs h

/-- **C09 (decoded input)**: an assertion on a JOSE header parameter / a member of a decoded document / an `any`
    parameter never panics — for every JSON type the sender chose (no audited exemption) -/
theorem c09_input_asserts_total (s : AssertSite) (hs : s ∈ GenC09.assertSites) (hi : s.fromInput = true)
    (dyn : String) : s.panics dyn = false := by
  apply assert_safe_sound
  cases h : s.safe with
  | true => rfl
  | false =>
    exfalso
    have hm : s ∈ GenC09.assertSites.filter (fun s => s.fromInput && !s.safe) :=
      List.mem_filter.mpr ⟨hs, by simp [hi, h]⟩
    rw [input_asserts_guarded] at hm
    cases hm

/-! non-vacuity: an unchecked assertion on a header element (`typ, ok := header.ExtraHeaders[jose.HeaderType]; … typ.(string)`) and its guarded forms -/
def siteTypUnchecked : AssertSite :=
  { fn := "oidc.headerType", expr := "typ.(string)", operand := "typ", type := "string", form := "single", origin := "element", guards := [] }
example : siteTypUnchecked.fromInput = true := by decide +kernel
example : siteTypUnchecked.safe = false := by decide +kernel
example : siteTypUnchecked.panics "float64" = true := by decide +kernel
example : siteTypUnchecked.panics "string" = false := by decide +kernel
example : ({ siteTypUnchecked with form := "commaok" } : AssertSite).panics "float64" = false := by decide +kernel
example : ({ siteTypUnchecked with guards := ["commaok-return"] } : AssertSite).safe = true := by decide +kernel
example : ({ siteTypUnchecked with guards := ["switch-case"] } : AssertSite).panics "bool" = false := by decide +kernel
/-- the regenerated list has assertions on decoded input, and more than 40 sites in all -/
example : (GenC09.assertSites.filter (·.fromInput)).length > 0 := by decide +kernel
example : GenC09.assertSites.length > 40 := by decide +kernel

end C09
