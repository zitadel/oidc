/-
  C05, wire level: "authenticated in the way it is registered" decided from the BYTES an onlooker sees (Spec/C05Wire.lean: the
  Authorization header value parsed by the monitor itself - scheme, base64, first colon, form-urlencoding, text - and the form),
  instead of from what net/http and url.QueryUnescape reported.

  * `credsOfWire_eq`: when the abstract request of the model (`r.basic`, the oracle `o.unescape`) is what the wire-level reading
    yields, the wire-level credentials ARE the credentials `credsOf` of the theorems - so
  * `c05_wire_partial`: the monitor, fed with the credentials read off the wire, accepts every response of the regenerated
    endpoint layer (both routers, all endpoints, all configurations / registrations / oracle answers);
  * `wire_header_wins`, `wire_unparsed_header_is_no_credential`, `wire_malformed_fits_nobody`: the precedence rules of the monitor.
  That net/http and url.QueryUnescape do read the header as Spec/C05Wire.lean does is checked per case by the correspondence stream
  (`wireAgrees` of Driver/C05Mon.lean: hex of `r.BasicAuth()` and `url.QueryUnescape` against the monitor's own parse; a
  difference is a divergence).  A password whose unescaped bytes are not UTF-8 is a string that equals no registered secret (`Wire.textOrMark`; a public client
  named by the user name is still identified); a user name that is not UTF-8 names nobody.
  Layer 2 only: nothing regenerated is unfolded here.
-/
import OidcModel.Proofs.C05Endpoint
import OidcModel.Spec.C05Wire
namespace C05
open Go Gen Hand Flow

/-- the model's abstract request / oracle answers are what the wire-level reading of the header yields -/
structure WireReads (hdr : Option String) (o : EPOracles) (r : EPRequest) : Prop where
  /-- no Basic credential in the header: `r.BasicAuth()` reports none -/
  none : hdr.bind Wire.basicOfHeader = none → r.basic = none
  /-- a Basic credential: `r.BasicAuth()` reports a user name and a password, and `url.QueryUnescape` of each is (an error counting as
      nothing; the user name as text, the password as text or as the marker string for bytes that are no text) the monitor's
      form-urldecoding of the bytes -/
  some : ∀ u p, hdr.bind Wire.basicOfHeader = some (u, p) → ∃ us ps, r.basic = some (us, ps) ∧
    (o.unescape us).toOption = (Wire.queryUnescape u).bind Wire.text ∧ (o.unescape ps).toOption = (Wire.queryUnescape p).map Wire.textOrMark

theorem credsOfWire_eq {hdr : Option String} {o : EPOracles} {r : EPRequest} (h : WireReads hdr o r) :
    Wire.credsOfWire o.tokenOf hdr r.Form = credsOf o r := by
  unfold Wire.credsOfWire credsOf Wire.primaryOfWire
  cases hb : hdr.bind Wire.basicOfHeader with
  | none => simp [h.none hb]
  | some up =>
    obtain ⟨u, p⟩ := up
    obtain ⟨us, ps, hr, hu, hp⟩ := h.some u p hb
    simp only [hr]
    rw [← hu, ← hp]
    cases o.unescape us <;> cases o.unescape ps <;> simp [Except.toOption]

/-- **C05 from the bytes on the wire (partial: outside the findings left on record).**  The monitor, deciding from the
    Authorization header as sent and the form which credential the request presents, accepts every response of the regenerated
    endpoint layer. -/
theorem c05_wire_partial (now : Int) (rt : Router) (x : EPProvider) (o : EPOracles) (e : EP.Endpoint) (r : EPRequest)
    (hdr : Option String) (hw : WireReads hdr o r) (h : Assumptions rt x e r) :
    judge (cfgOf x) now (specEndpoint e r) (Wire.credsOfWire o.tokenOf hdr r.Form) (obsOf (EP.endpointDecision now rt x o e r)) = none := by
  rw [credsOfWire_eq hw]
  exact c05_auth_required_partial now rt x o e r h

/-- header before form: a header that parses as a Basic credential decides alone; `client_id` / `client_secret` of the form
    (whatever they say, however often they are repeated) are not the secret-type credential -/
theorem wire_header_wins {h : String} {up : List UInt8 × List UInt8} (hb : Wire.basicOfHeader h = some up) (f1 f2 : EPValues) :
    Wire.primaryOfWire (some h) f1 = Wire.primaryOfWire (some h) f2 := by
  unfold Wire.primaryOfWire
  simp [hb]

/-- a header that is no Basic credential (another scheme, two spaces, a tab, broken or unpadded or URL-safe base64, no colon) is
    no credential at all: the request presents what its form says -/
theorem wire_unparsed_header_is_no_credential {h : String} (hb : Wire.basicOfHeader h = none) (f : EPValues) :
    Wire.primaryOfWire (some h) f = Wire.primaryOfWire none f := by
  unfold Wire.primaryOfWire
  simp [hb]

/-- a Basic credential with a malformed (`%zz`, trailing `%`) user name or password, or a user name that is no text, fits no
    registration with a secret method or none - and does NOT fall back to the form -/
theorem wire_malformed_fits_nobody {c : Cfg} {now : Int} {cl : OPClient} {tokenOf : String → Token} {h : String} {f : EPValues}
    {u p : List UInt8} (hb : Wire.basicOfHeader h = some (u, p))
    (hbad : (Wire.queryUnescape u).bind Wire.text = none ∨ Wire.queryUnescape p = none)
    (hm : cl.auth = "client_secret_basic" ∨ cl.auth = "client_secret_post" ∨ cl.auth = "none") :
    credsFit c now cl (Wire.credsOfWire tokenOf (some h) f) = false := by
  have hprim : (Wire.credsOfWire tokenOf (some h) f).primary = none := by
    unfold Wire.credsOfWire Wire.primaryOfWire
    rcases hbad with hx | hx
    · simp [hb, hx]
    · simp only [Option.bind_some, hb, hx, Option.map_none]
      cases (Wire.queryUnescape u).bind Wire.text <;> rfl
  cases hfit : credsFit c now cl (Wire.credsOfWire tokenOf (some h) f) with
  | false => rfl
  | true =>
    rcases credsFit_iff.1 hfit with ⟨hk, _⟩ | ⟨p, hp, _⟩
    · rcases hm with h | h | h <;> (rw [h] at hk; exact absurd hk (by decide))
    · rw [hprim] at hp; cases hp

end C05
