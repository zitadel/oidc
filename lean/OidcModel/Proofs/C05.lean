/-
  C05 proofs over the REGENERATED client-authentication functions: LegacyServer.VerifyClient,
  withClient (grant registration), AuthorizeTokenExchangeClient, AuthorizeClientCredentialsClient
  (AuthorizeCodeClient / AuthorizeRefreshClient are in Proofs/C04 and C07, AuthorizePrivateJWTKey in C14).
  Each `…_ok` / `…_auth` lemma says what a successful call establishes about the registered client (`AuthAs`: the credentials fit
  its registration; `withClient_grant`: the grant is registered for it), read off the frozen texts of Proofs/C05ShapeTok.lean.
-/
import OidcModel.Spec.C05
import OidcModel.Proofs.C14
import OidcModel.Proofs.C07
import OidcModel.Proofs.C05ShapeTok
import OidcModel.Proofs.Store
namespace C05
open Go Gen Hand Flow

/-- storage-level meaning of a correct secret: the registered client has a secret method and this secret -/
theorem secret_ok {s : Store} {id sec : String} (h : s.AuthorizeClientIDSecret id sec = .ok ()) :
    ∃ c, s.clients.find? (·.id == id) = some c ∧ (c.auth = Const.AuthMethodBasic ∨ c.auth = Const.AuthMethodPost) ∧ c.secret = sec :=
  Store.authSecret_ok_iff.mp h

theorem getClient_ok {s : Store} {id : String} {c : OPClient} (h : s.GetClientByClientID id = .ok c) :
    s.clients.find? (·.id == id) = some c ∧ c.id = id :=
  have hc := Store.getClient_ok_iff.mp h
  ⟨hc, Store.find_id hc⟩

theorem guard_ok {α : Type} {c : Prop} [Decidable c] {e : String} {rest : Go.R α} {v : α}
    (h : (if c then .error e else rest) = .ok v) : ¬ c ∧ rest = .ok v := by
  by_cases hc : c
  · rw [if_pos hc] at h; cases h
  · rw [if_neg hc] at h; exact ⟨hc, h⟩

theorem ite_ok {α : Type} {c : Prop} [Decidable c] {a b : Go.R α} {v : α}
    (h : (if c then a else b) = .ok v) : (c ∧ a = .ok v) ∨ (¬ c ∧ b = .ok v) := by
  by_cases hc : c
  · rw [if_pos hc] at h; exact .inl ⟨hc, h⟩
  · rw [if_neg hc] at h; exact .inr ⟨hc, h⟩

theorem authorizeSecret_ok {now : Int} {id sec : String} {s : Store} {u : Unit} (h : AuthorizeClientIDSecret now id sec s = .ok u) :
    s.AuthorizeClientIDSecret id sec = .ok () := by
  rw [SpecTok.AuthorizeClientIDSecret_eq] at h
  exact C04.match_secret h

/-- how the token endpoint authenticates a client (`AuthorizeCodeClient`, `AuthorizeRefreshClient`, `LegacyServer.VerifyClient`)
    from the id, secret and assertion a request carries: a private_key_jwt client by a verified assertion naming it as issuer;
    any other client by its id - alone when it is public, with the secret the storage accepts otherwise -/
def AuthAs (now : Int) (p : Provider) (id sec : String) (t : Token) (c : OPClient) : Prop :=
  (∃ j, VerifyJWTAssertion now t p.JWTProfileVerifier = .ok j ∧ p.store.GetClientByClientID j.iss = .ok c ∧
      c.auth = Const.AuthMethodPrivateKeyJWT)
  ∨ (p.store.GetClientByClientID id = .ok c ∧
      (c.auth = Const.AuthMethodNone ∨
        ((c.auth = Const.AuthMethodPost → p.postSupported = true) ∧ p.store.AuthorizeClientIDSecret id sec = .ok ())))

theorem authAs_of_authenticated {now : Int} {p : Provider} {req : AccessTokenRequest} {c : OPClient}
    (h : C04.Authenticated now p req c) : AuthAs now p req.ClientID req.ClientSecret req.ClientAssertion c :=
  h.imp (fun h => h.2.2.2) (fun h => ⟨h.2.1, h.2.2.imp id And.right⟩)

/-- Server router: `VerifyClient` hands a `grant_type=client_credentials` request to the storage's `ClientCredentials` and
    authenticates every other one as the token endpoint does -/
theorem legacyVerifyClient_ok {now s r c} (h : LegacyVerifyClient now s r = .ok c) :
    (r.Form.Get "grant_type" = Const.GrantTypeClientCredentials ∧ s.provider.store.is_ClientCredentialsStorage = true ∧
        s.provider.store.ClientCredentials r.Data.ClientID r.Data.ClientSecret = .ok c)
    ∨ (r.Form.Get "grant_type" ≠ Const.GrantTypeClientCredentials ∧
        AuthAs now s.provider r.Data.ClientID r.Data.ClientSecret r.Data.ClientAssertion c) := by
  rw [SpecTok.LegacyVerifyClient_eq] at h; unfold SpecTok.LegacyVerifyClient at h
  rcases ite_ok h with ⟨hg, h⟩ | ⟨hg, h⟩
  · obtain ⟨hcap, h⟩ := guard_ok h
    exact .inl ⟨by simpa using hg, by simpa [Provider.Storage] using hcap, h⟩
  refine .inr ⟨by simpa using hg, ?_⟩
  rcases ite_ok h with ⟨_, h⟩ | ⟨_, h⟩
  · obtain ⟨_, h⟩ := guard_ok h
    obtain ⟨j, hv, hget, hpk, _⟩ := C14.c14_private_key_client h
    exact .inl ⟨j, hv, hget, hpk⟩
  split at h; · cases h
  rename_i c' hget
  refine .inr ?_
  rcases ite_ok h with ⟨hn, h⟩ | ⟨_, h⟩
  · cases h
    exact ⟨hget, .inl (by simpa [OPClient.AuthMethod] using hn)⟩
  obtain ⟨_, h⟩ := guard_ok h
  rcases ite_ok h with ⟨_, h⟩ | ⟨hp, h⟩
  · obtain ⟨hpost, h⟩ := guard_ok h
    split at h; · cases h
    rename_i hsec
    cases h
    exact ⟨hget, .inr ⟨fun _ => by simpa [Provider.AuthMethodPostSupported] using hpost, authorizeSecret_ok hsec⟩⟩
  · split at h; · cases h
    rename_i hsec
    cases h
    exact ⟨hget, .inr ⟨fun ha => absurd ha (by simpa [OPClient.AuthMethod] using hp), authorizeSecret_ok hsec⟩⟩

theorem authorizeRefreshClient_auth {now req p r c} (h : AuthorizeRefreshClient now req p = .ok (r, c)) :
    AuthAs now p req.ClientID req.ClientSecret req.ClientAssertion c := by
  rw [SpecTok.AuthorizeRefreshClient_eq] at h; unfold SpecTok.AuthorizeRefreshClient at h
  rcases ite_ok h with ⟨_, h⟩ | ⟨_, h⟩
  · obtain ⟨_, h⟩ := guard_ok h
    split at h; · cases h
    rename_i c' hpk
    obtain ⟨_, h⟩ := guard_ok h
    split at h; · cases h
    cases h
    obtain ⟨j, hv, hget, hpkj, _⟩ := C14.c14_private_key_client hpk
    exact .inl ⟨j, hv, hget, hpkj⟩
  · split at h; · cases h
    rename_i c' hget
    obtain ⟨_, h⟩ := guard_ok h
    obtain ⟨_, h⟩ := guard_ok h
    rcases ite_ok h with ⟨hnone, h⟩ | ⟨_, h⟩
    · split at h; · cases h
      cases h
      exact .inr ⟨hget, .inl (by simpa [OPClient.AuthMethod] using hnone)⟩
    · obtain ⟨hpost, h⟩ := guard_ok h
      split at h; · cases h
      rename_i hsec
      split at h; · cases h
      cases h
      refine .inr ⟨hget, .inr ⟨fun ha => ?_, authorizeSecret_ok hsec⟩⟩
      simpa [OPClient.AuthMethod, ha, Provider.AuthMethodPostSupported] using hpost

theorem validateRefresh_auth {now req p r c} (h : ValidateRefreshTokenRequest now req p = .ok (r, c)) :
    AuthAs now p req.ClientID req.ClientSecret req.ClientAssertion c ∧ Const.GrantTypeRefreshToken ∈ c.grants := by
  rw [SpecTok.ValidateRefreshTokenRequest_eq] at h; unfold SpecTok.ValidateRefreshTokenRequest at h
  obtain ⟨_, h⟩ := guard_ok h
  split at h; · cases h
  rename_i r0 c' hac
  obtain ⟨_, h⟩ := guard_ok h
  split at h; · cases h
  cases h
  exact ⟨authorizeRefreshClient_auth hac, (C07.authorizeRefreshClient_ok hac).2⟩

/-- `withClient`: additionally the grant must be registered for the authenticated client -/
theorem withClient_grant {now p g cc ha c} (h : withClient now p g cc ha = .ok c) (hg : g ≠ "") : g ∈ c.grants := by
  unfold withClient at h
  split at h; · simp at h
  split at h; · simp at h
  split at h
  · simp at h
  · rename_i c' _ hcond
    simp at h; subst h
    simp [hg] at hcond
    exact C04.validateGrantType_iff.1 hcond

/-- Provider router, token exchange: secret-authenticated client -/
theorem authorizeTokenExchangeClient_ok {now id sec p c} (h : AuthorizeTokenExchangeClient now id sec p = .ok c) :
    p.store.AuthorizeClientIDSecret id sec = .ok () ∧ p.store.GetClientByClientID id = .ok c := by
  rw [SpecTok.AuthorizeTokenExchangeClient_eq] at h; unfold SpecTok.AuthorizeTokenExchangeClient at h; simp only [SpecTok.AuthorizeClientIDSecret_eq] at h; unfold SpecTok.AuthorizeClientIDSecret at h
  simp only [Provider.Storage] at h
  repeat' (split at h <;> try (simp at h))
  subst h
  exact ⟨C04.match_secret (by assumption), by assumption⟩

/-- client_credentials: the storage authenticates, and the grant must be registered -/
theorem authorizeClientCredentialsClient_ok {now rq st c} (h : AuthorizeClientCredentialsClient now rq st = .ok c) :
    st.ClientCredentials rq.ClientID rq.ClientSecret = .ok c ∧ Const.GrantTypeClientCredentials ∈ c.grants := by
  rw [SpecTok.AuthorizeClientCredentialsClient_eq] at h; unfold SpecTok.AuthorizeClientCredentialsClient at h
  repeat' (split at h <;> try (simp at h))
  subst h
  exact ⟨by assumption, (C04.validateGrantType_iff (now := now)).1 (by simp_all)⟩

end C05
