/-
  C08 proofs: TIME and STORAGE FAULTS as dimensions of the histories, and delegation.

  (a) time
  * `c08_exp_claim_is_storage_expiration` — REGENERATED `CreateAccessToken` / `CreateJWT` (pkg/op/token.go, namespace `GenC06`): the `exp` claim
    signed into a JWT access token is `oidc.FromTime` of the expiration the STORAGE returned (no clock skew, nothing else added), its `jti`
    is the storage's token id; for every request, client (any `ClockSkew()`), storage and signer.
  * `c08_jwt_dies_with_storage_expiration` — a token the regenerated `VerifyAccessToken` accepts at `now`, carrying that claim, is presented
    before the storage's expiration; `c08_jwt_honoured_before_storage_expiry`: so a JWT access token is honoured (userinfo, introspection,
    exchange; either router) only while the storage's expiration has not passed - also by a storage that keeps no expiry index of its own.
  * `expired_not_honoured` — timed machine (`stepT`): whatever is honoured has an expiration the clock of the request has not passed (stored
    tokens; JWTs under `expiryByClaim` excepted, they are covered by the line above); `revocation_sticksT`: deadness survives every TIMED history.
  (b) faults
  * `revoke_ok_took_effect_at` / `_rt` — for EVERY set of failing storage methods: a revocation the owner is answered 200 for has killed the token.
    `revoke_fault_refused`: a failing `RevokeToken` / `GetRefreshTokenInfo` is never answered 200 and changes nothing.
  * `refresh_fault_not_honoured` — a failing `TokenRequestByRefreshToken` honours nothing (refresh grant, exchange).
  * `c08_terminate_error_never_redirects` — REGENERATED `EndSession` and `LegacyServer.EndSession` behind `webServer.endSessionHandler`
    (Generated/Session.lean): when the storage call that ends the session fails, NEITHER router answers with a redirect; conversely
    `c08_redirect_means_terminated`.  `logout_sticks`: after a logout answered with the redirect, no access token of
    that session is honoured in ANY later (timed) history.
  (c) delegation
  * `exchange_getters` — the REGENERATED getters of `op.tokenExchangeRequest` (Generated/ResourceTE.lean) hand out the like-named fields.
  * `c08_exchange_ids_reach_policy` — REGENERATED `CreateTokenExchangeRequest` (Generated/TokenExchangeTE.lean): the request the storage
    policy is asked about carries, behind `GetExchangeSubjectTokenIDOrToken()` / `GetExchangeActorTokenIDOrToken()`, the ids the SUBJECT
    resp. the ACTOR token resolved to (and their declared types) - for every provider, storage and oracle.
  * `exchangeD_live`, `dead_actor_refused`, `exchangeD_actor_id` — a delegation exchange succeeds only when subject AND actor are live.
-/
import OidcModel.Proofs.C08
import OidcModel.Model.ResourceTime
import OidcModel.Generated.IssueC06
import OidcModel.Generated.TokenExchangeTE
namespace Res
open Go Hand

/-- `oidc.Time` keeps whole seconds: what `FromTime` stores never lies after the instant it was made from -/
theorem asTime_fromTime_le (x : Int) : Go.asTime (Go.fromTime x) ≤ x := by
  unfold Go.asTime Go.fromTime Go.tIsZero Go.tUnix Go.tToUnix Go.second Go.zeroTime
  by_cases h0 : x = -62135596800000000000
  · subst h0; decide
  · have hb : (x == -62135596800000000000) = false := by simpa using h0
    simp only [hb, Bool.false_eq_true, if_false]
    by_cases h1 : x / 1000000000 = 0
    · simp only [h1, beq_self_eq_true, if_true]; omega
    · have hb1 : (x / 1000000000 == 0) = false := by simpa using h1
      simp only [hb1, Bool.false_eq_true, if_false]; omega

/-- characterisation of the regenerated `CreateJWT`: what is signed carries the expiration and token id it was GIVEN -/
theorem createJWT_claims {now : Int} {issuer : String} {req : IssRequest} {exp : Int} {id : String} {client : IssClient}
    {storage : IssStorage} {tok : String} (h : GenC06.CreateJWT now issuer req exp id client storage = .ok tok) :
    ∃ key claims, storage.SigningKey = .ok key ∧ key.signAT claims = .ok tok ∧
      claims.Expiration = Go.fromTime exp ∧ claims.JWTID = id ∧ claims.Issuer = issuer := by
  unfold GenC06.CreateJWT at h
  simp only [] at h
  split at h
  · simp at h
  · rename_i claims hclaims
    have hP : claims.Expiration = Go.fromTime exp ∧ claims.JWTID = id ∧ claims.Issuer = issuer := by
      repeat' (split at hclaims)
      all_goals first
        | (cases hclaims; exact ⟨rfl, rfl, rfl⟩)
        | (simp at hclaims)
    split at h
    · simp at h
    · rename_i key hkey
      simp only [Hand.issSignerFromKey, Hand.issSignAT] at h
      by_cases hok : key.signerOK = true
      · simp only [hok, if_true] at h
        refine ⟨key, _, hkey, h, ?_, ?_, ?_⟩
        · split <;> simp [hP.1]
        · split <;> simp [hP.2.1]
        · split <;> simp [hP.2.2]
      · simp [hok] at h

/-- C08 (time, issuance): the `exp` claim of a JWT access token IS the storage's expiration.  Whatever `CreateAccessToken` hands out as a
    JWT was signed over claims whose `exp` is `FromTime` of the expiration the storage returned from `CreateAccessToken` /
    `CreateAccessAndRefreshTokens` and whose `jti` is the storage's token id - for every request, every client (ANY clock skew), every
    storage and signer.  (The clock skew only enters `expires_in`, `iat` and `nbf`.) -/
theorem c08_exp_claim_is_storage_expiration (now : Int) (request : IssRequest) (creator : IssCreator) (client : IssClient)
    (cur at' rt : String) (validity : Int)
    (h : GenC06.CreateAccessToken now request IssConst.AccessTokenTypeJWT creator client cur = .ok (at', rt, validity)) :
    ∃ id exp key claims, GenC06.createTokens now request creator.Storage cur client = .ok (id, rt, exp) ∧
      creator.Storage.SigningKey = .ok key ∧ key.signAT claims = .ok at' ∧
      claims.Expiration = Go.fromTime exp ∧ claims.JWTID = id := by
  unfold GenC06.CreateAccessToken at h
  simp only [] at h
  split at h
  · simp at h
  · rename_i id rt' exp hct
    simp only [beq_self_eq_true, if_true] at h
    split at h
    · simp at h
    · rename_i tok hj
      simp only [Except.ok.injEq, Prod.mk.injEq] at h
      obtain ⟨rfl, rfl, _⟩ := h
      obtain ⟨key, claims, hk, hs, he, hi, _⟩ := createJWT_claims hj
      exact ⟨id, exp, key, claims, hct, hk, hs, he, hi⟩

/-- a token the regenerated `VerifyAccessToken` accepts at `now` whose `exp` claim was made from the storage's expiration `exp`
    (`c08_exp_claim_is_storage_expiration`) is presented BEFORE that expiration -/
theorem c08_jwt_dies_with_storage_expiration {now : Int} {t : Token} {v : Verifier} {c : Claims} {exp : Int}
    (h : Gen.OPVerifyAccessToken now t v = .ok c) (hexp : c.exp = Go.fromTime exp) : now + v.Offset < exp := by
  obtain ⟨_, _, _, _, _, he⟩ := opVerifyAccessToken_ok h
  have h1 := C01.checkExpiration_ok.mp he
  have h2 := asTime_fromTime_le exp
  simp only [C01.ns, hexp] at h1
  omega

/-- the claims the verifier hands back are the parsed ones with the signature algorithm noted: same `exp` -/
theorem opVerifyAccessToken_exp {now : Int} {t : Token} {v : Verifier} {c : Claims} (h : Gen.OPVerifyAccessToken now t v = .ok c) :
    ∃ p c0, ParseToken now t = .ok (p, c0) ∧ c.exp = c0.exp := by
  obtain ⟨p, c0, hp, _, hs, _⟩ := opVerifyAccessToken_ok h
  obtain ⟨_, s, _, _, _, _, _, hc⟩ := C01.checkSignature_ok hs
  exact ⟨p, c0, hp, by rw [hc]; rfl⟩

/-- C08 (time, use): a JWT access token (a presented string that is not an opaque token) whose `exp` claim is the one the provider wrote for
    the storage's expiration `exp` is honoured - userinfo claims, `active:true`, accepted exchange subject; either router; ANY storage
    state, in particular a storage that does not look at the clock for self-contained tokens - only by requests made BEFORE `exp` -/
theorem c08_jwt_honoured_before_storage_expiry (atp : ResATProvider) (s : St) (op : Op) (x : Ref) (e : Env) (tok : String) (exp : Int)
    (hp : presentedAt op = some (e, tok)) (hd : ∀ pl, e.decrypt tok ≠ .ok pl) (h : (step atp s op).2 = some x)
    (hclaim : ∀ p c0, ParseToken e.now (e.tokenOf tok) = .ok (p, c0) → c0.exp = Go.fromTime exp) :
    e.now < exp := by
  obtain ⟨id, sub, hr, _⟩ := honoured_is_resolved atp s op x e tok hp h
  obtain ⟨c, hv, _⟩ := resolve_verified (p := provider atp e s) hd hr
  obtain ⟨p, c0, hpt, hce⟩ := opVerifyAccessToken_exp hv
  have := c08_jwt_dies_with_storage_expiration hv (by rw [hce]; exact hclaim p c0 hpt)
  rw [provider_verifier] at this
  simpa using this

theorem markTok_id (b : Bool) (n : Int) (t : Tok) : (markTok b n t).id = t.id := by unfold markTok; split <;> rfl

/-- looking at the clock revives nothing and renames nothing -/
theorem atTime_rewrites (s : St) (b : Bool) (n : Int) : Rewrites s (s.atTime b n) :=
  .of_marks rfl rfl (fun t => by unfold markTok; split <;> simp [Tok.live]) (fun r => by unfold markR; split <;> simp [RTok.live])

/-- a record the storage still calls live at `now` has an expiration that `now` has not passed (or is a JWT whose expiry the storage
    leaves to the exp claim) -/
theorem atTime_live_tok {s : St} {b : Bool} {n : Int} {t : Tok} (hm : t ∈ (s.atTime b n).toks) (hl : t.live = true) :
    ¬ t.exp < n ∨ (b = true ∧ t.jwt = true) := by
  simp only [St.atTime, List.mem_map] at hm
  obtain ⟨t0, _, rfl⟩ := hm
  unfold markTok at hl ⊢
  split
  · rename_i he; simp [he, Tok.live] at hl
  · rename_i he
    simp only [Tok.expiredAt, Bool.and_eq_true, decide_eq_true_eq, Bool.not_eq_true', Bool.and_eq_false_iff, not_and] at he
    by_cases hx : t0.exp < n
    · right
      have := he hx
      cases b <;> cases hj : t0.jwt <;> simp_all
    · left; exact hx

theorem atTime_live_rt {s : St} {b : Bool} {n : Int} {r : RTok} (hm : r ∈ (s.atTime b n).rtoks) (hl : r.live = true) : ¬ r.exp < n := by
  simp only [St.atTime, List.mem_map] at hm
  obtain ⟨r0, _, rfl⟩ := hm
  unfold markR at hl ⊢
  split
  · rename_i he; simp [he, RTok.live] at hl
  · rename_i he; simpa [RTok.expiredAt] using he

/-- the token was handed out with an expiration that the instant `n` has not passed -/
def Unexpired (s : St) (byClaim : Bool) (n : Int) : Ref → Prop
  | .at id => ∃ t, t ∈ s.toks ∧ t.id = id ∧ t.live = true ∧ (¬ t.exp < n ∨ (byClaim = true ∧ t.jwt = true))
  | .rt tok => ∃ r, r ∈ s.rtoks ∧ r.token = tok ∧ r.live = true ∧ ¬ r.exp < n

theorem tick_clock_ge (x : Timed) (n : Int) : n ≤ (x.tick n).clock := by
  unfold Timed.tick; simp only []; split <;> omega

/-- C08 (time): in the timed machine whatever a request made at `n` gets honoured - userinfo claims, `active:true`, an exchange subject,
    a refresh grant; either router; any oracle - is a live token whose storage expiration `n` has not passed; the one exception is a JWT
    access token at a storage that leaves its expiry to the exp claim, and that one is bounded by `c08_jwt_honoured_before_storage_expiry` -/
theorem expired_not_honoured (atp : ResATProvider) (x : Timed) (op : Op) (n : Int) (r : Ref)
    (ht : op.time = some n) (h : (stepT atp x op).2 = some r) :
    Unexpired (x.tick n).st x.expiryByClaim n r := by
  simp only [stepT, ht] at h
  have hl := honoured_implies_live atp (x.tick n).st op r h
  have hc := tick_clock_ge x n
  have hst : (x.tick n).st = x.st.atTime x.expiryByClaim (x.tick n).clock := by unfold Timed.tick; rfl
  cases r with
  | «at» id =>
    obtain ⟨t, hm, hi, hlive⟩ := hl
    refine ⟨t, hm, hi, hlive, ?_⟩
    rw [hst] at hm
    rcases atTime_live_tok hm hlive with h1 | h1
    · left; omega
    · right; exact h1
  | rt tok =>
    obtain ⟨t, hm, hi, hlive⟩ := hl
    refine ⟨t, hm, hi, hlive, ?_⟩
    rw [hst] at hm
    have := atTime_live_rt hm hlive
    omega

theorem tick_rewrites (x : Timed) (n : Int) : Rewrites x.st (x.tick n).st := by
  unfold Timed.tick; exact atTime_rewrites _ _ _

theorem dead_stepT (atp : ResATProvider) (x : Timed) (op : Op) (r : Ref) (h : Dead x.st r) (hk : Known x.st r) :
    (stepT atp x op).2 ≠ some r ∧ Dead (stepT atp x op).1.st r ∧ Known (stepT atp x op).1.st r := by
  unfold stepT
  cases ht : op.time with
  | none => exact ⟨dead_not_honoured atp x.st op r h, dead_step atp x.st op r h hk⟩
  | some n =>
    obtain ⟨h1, h2⟩ := (tick_rewrites x n).dead r h hk
    exact ⟨dead_not_honoured atp (x.tick n).st op r h1, dead_step atp (x.tick n).st op r h1 h2⟩

/-- C08 (2), timed: once a known access or refresh token is dead (revoked, logged out, rotated away, or seen expired), NO later history -
    any operations, at any instants, with any storage faults, either router - gets it honoured again -/
theorem revocation_sticksT (atp : ResATProvider) (ops : List Op) (x : Timed) (r : Ref) (h : Dead x.st r) (hk : Known x.st r) :
    ∀ o, o ∈ (runT atp x ops).2 → o ≠ some r := by
  induction ops generalizing x with
  | nil => intro o ho; simp [runT] at ho
  | cons op rest ih =>
    intro o ho
    simp only [runT, List.mem_cons] at ho
    obtain ⟨h0, h1, h2⟩ := dead_stepT atp x op r h hk
    rcases ho with rfl | ho
    · exact h0
    · exact ih (stepT atp x op).1 h1 h2 o ho

/-- an access token whose expiration has passed when a request looks at it is dead from then on (at a storage that checks it) -/
theorem expired_is_dead (x : Timed) (n : Int) (id : String) (hu : ∀ t, t ∈ x.st.toks → t.id = id → t.exp < n ∧ (x.expiryByClaim && t.jwt) = false) :
    Dead (x.tick n).st (.at id) := by
  intro t hm hi
  have hc := tick_clock_ge x n
  unfold Timed.tick at hm
  simp only [St.atTime, List.mem_map] at hm
  obtain ⟨t0, hm0, rfl⟩ := hm
  have hid : t0.id = id := by rw [← markTok_id]; exact hi
  obtain ⟨he, hb⟩ := hu t0 hm0 hid
  unfold markTok
  have : t0.expiredAt x.expiryByClaim (if x.clock < n then n else x.clock) = true := by
    simp only [Tok.expiredAt, hb, Bool.not_false, Bool.and_true, decide_eq_true_eq]
    split <;> omega
  simp [this, Tok.live]

/-- while `RevokeToken` or `GetRefreshTokenInfo` fails, both revocation handlers end in an error and leave the storage alone -/
theorem refRevoke_fault (now : Int) (p : ResProvider) (e : Env) (s : St) (tok cid : String) (hf : ¬ NoRevocationFault e) :
    ∃ err, refRevoke now p (worldOf e s) tok cid = (worldOf e s, .error err) := by
  unfold refRevoke
  by_cases hg : e.faults.contains "GetRefreshTokenInfo" = true
  · have h2 : revokeTarget now p (worldOf e s) tok cid = .error "ErrServerError" := by
      simp only [revokeTarget, ResWorld.GetRefreshTokenInfo, worldOf, hg, if_true]
      simp [Hand.resErrorsIs]
    rw [h2]; exact ⟨_, rfl⟩
  · have hr : e.faults.contains "RevokeToken" = true := by
      cases hr : e.faults.contains "RevokeToken"
      · exact absurd ⟨hr, by simpa using hg⟩ hf
      · rfl
    rcases revokeTarget now p (worldOf e s) tok cid with err | ⟨t, sub⟩
    · exact ⟨err, rfl⟩
    · exact ⟨"ErrServerError", by simp only [ResWorld.RevokeToken, worldOf, hr, if_true]⟩

/-- a failing `RevokeToken` or `GetRefreshTokenInfo` is never answered 200, and nothing is changed - on both routers, whatever the string is -/
theorem revoke_fault_refused (rt : Router) (atp : ResATProvider) (e : Env) (s : St) (cid hint tok : String)
    (hf : ¬ NoRevocationFault e) : revoke rt atp e s (some cid) hint tok = (s, .refused) := by
  rw [revoke_spec]
  obtain ⟨err, h⟩ := refRevoke_fault e.now (provider atp e s) e s tok cid hf
  simp only [h]; rfl

/-- C08 (faults, 3a): what was answered 200 has taken effect.  Whatever storage methods fail while the request is served: when the owner's
    revocation of an ACCESS token is answered 200, the token is dead - on both routers, every hint, every oracle -/
theorem revoke_ok_took_effect_at (rt : Router) (atp : ResATProvider) (e : Env) (s : St) (cid hint tok id sub : String) (t : Tok)
    (hr : resolve e.now (provider atp e s) tok = some (id, sub)) (hl : s.lookup e.issuer id = some t) (hown : t.client = cid)
    (hnr : s.lookupR e.issuer tok = none) (hok : (revoke rt atp e s (some cid) hint tok).2 = .ok) :
    Dead (revoke rt atp e s (some cid) hint tok).1 (.at id) := by
  by_cases hf : NoRevocationFault e
  · exact (revoke_kills_at rt atp e s cid hint tok id sub t hf hr hl hown hnr).2
  · rw [revoke_fault_refused rt atp e s cid hint tok hf] at hok; cases hok

/-- C08 (faults, 3b): likewise for a REFRESH token - answered 200 means the refresh token and the access token of its grant are dead -/
theorem revoke_ok_took_effect_rt (rt : Router) (atp : ResATProvider) (e : Env) (s : St) (cid hint tok : String) (r : RTok)
    (hl : s.lookupR e.issuer tok = some r) (hown : r.client = cid) (hn : s.lookup e.issuer tok = none)
    (hok : (revoke rt atp e s (some cid) hint tok).2 = .ok) :
    Dead (revoke rt atp e s (some cid) hint tok).1 (.rt tok) ∧ Dead (revoke rt atp e s (some cid) hint tok).1 (.at r.access) := by
  by_cases hf : NoRevocationFault e
  · exact (revoke_kills_rt rt atp e s cid hint tok r hf hl hown hn).2
  · rw [revoke_fault_refused rt atp e s cid hint tok hf] at hok; cases hok

theorem stepT_revoke_st (atp : ResATProvider) (x : Timed) (rt : Router) (e : Env) (c : Option String) (hint tok : String) :
    (stepT atp x (.revoke rt e c hint tok)).1.st = (revoke rt atp e (x.tick e.now).st c hint tok).1 := rfl

/-- an access token whose revocation by the owner was answered 200 is never honoured again, in every later timed history (any
    operations, instants, faults) -/
theorem revoke_ok_sticks (rt : Router) (atp : ResATProvider) (e : Env) (x : Timed) (cid hint tok id sub : String) (t : Tok) (ops : List Op)
    (hr : resolve e.now (provider atp e (x.tick e.now).st) tok = some (id, sub)) (hl : (x.tick e.now).st.lookup e.issuer id = some t)
    (hown : t.client = cid) (hnr : (x.tick e.now).st.lookupR e.issuer tok = none)
    (hok : (revoke rt atp e (x.tick e.now).st (some cid) hint tok).2 = .ok) :
    ∀ o, o ∈ (runT atp (stepT atp x (.revoke rt e (some cid) hint tok)).1 ops).2 → o ≠ some (.at id) := by
  have hd := revoke_ok_took_effect_at rt atp e (x.tick e.now).st cid hint tok id sub t hr hl hown hnr hok
  have hk : Known (x.tick e.now).st (.at id) := ⟨t, (lookup_some hl).1, (lookup_some hl).2.1⟩
  have hk' := (revoke_rewrites rt atp e (x.tick e.now).st (some cid) hint tok).known (.at id) hk
  exact revocation_sticksT atp ops _ (.at id) (by rw [stepT_revoke_st]; exact hd) (by rw [stepT_revoke_st]; exact hk')

/-- a failing `TokenRequestByRefreshToken` honours nothing: neither the refresh grant nor a refresh token as exchange subject -/
theorem refresh_fault_not_honoured (atp : ResATProvider) (s : St) (e : Env) (tok : String)
    (hf : e.faults.contains "TokenRequestByRefreshToken" = true) :
    step atp s (.refresh e tok) = (s, none) ∧ (step atp s (.exchange e true tok)).2 = none := by
  simp only [step, exchange, tokenRequestByRefreshToken, hf, if_true, and_self]

/-- characterisation of BOTH regenerated end_session handlers (`op.EndSession`; `webServer.endSessionHandler` → `LegacyServer.EndSession`):
    a redirect is written iff the request validates AND the storage call that ends the session succeeds -/
theorem handle_redirect_iff (rt : Sess.Router) (now : Int) (o : SessOracles) (r : EndSessionReq) (e : SessionEnder) (loc : String) :
    Sess.handle rt now o (.ok r) e = .redirect loc ↔
      ∃ sess, Gen.ValidateEndSessionRequest now o r e = .ok sess ∧ e.store.termOK sess.UserID sess.ClientID = true ∧ sess.RedirectURI = loc := by
  cases rt <;>
    simp only [Sess.handle, Gen.EndSession, Gen.LegacyEndSessionHandler, Gen.LegacyEndSession, Hand.parseEndSessionRequest, Hand.decodeEndSession,
      Hand.newRequest, SessionEnder.Storage, Hand.sessNewRedirect, SessStore.TerminateSession, SessStore.TerminateSessionFromRequest] <;>
    (cases hv : Gen.ValidateEndSessionRequest now o r e with
     | error err =>
       simp only [SessResp.canon]
       constructor
       · intro h; split at h <;> cases h
       · rintro ⟨_, h, _⟩; cases h
     | ok sess =>
       by_cases hcan : e.store.is_CanTerminateSessionFromRequest = true <;>
         by_cases ht : e.store.termOK sess.UserID sess.ClientID = true <;>
         simp [hcan, ht, SessResp.canon] <;> (try split) <;> simp)
/-- C08 (faults, logout): a `TerminateSession` / `TerminateSessionFromRequest` error is NEVER answered with a redirect - on neither router,
    for every request, provider configuration and storage -/
theorem c08_terminate_error_never_redirects (rt : Sess.Router) (now : Int) (o : SessOracles) (r : EndSessionReq) (e : SessionEnder)
    (sess : EndSessionRequest) (hv : Gen.ValidateEndSessionRequest now o r e = .ok sess)
    (hfail : e.store.termOK sess.UserID sess.ClientID = false) (loc : String) :
    Sess.handle rt now o (.ok r) e ≠ .redirect loc := by
  intro h
  obtain ⟨s', hv', ht, _⟩ := (handle_redirect_iff rt now o r e loc).mp h
  rw [hv] at hv'; cases hv'
  rw [hfail] at ht; cases ht

/-- ... and an undecodable request is not answered with a redirect either -/
theorem handle_undecodable (rt : Sess.Router) (now : Int) (o : SessOracles) (err : String) (e : SessionEnder) (loc : String) :
    Sess.handle rt now o (.error err) e ≠ .redirect loc := by
  cases rt <;> simp [Sess.handle, Gen.EndSession, Gen.LegacyEndSessionHandler, Hand.parseEndSessionRequest, Hand.decodeEndSession, SessResp.canon] <;>
    (try split) <;> simp

/-- C08 (faults, logout): the success redirect means the session HAS been terminated.  With the storage methods `faults` failing: when
    either router answers an end_session request with a redirect, the storage has ended the session the request names (all its access and
    refresh tokens, at the issuer the request is addressed to) -/
theorem c08_redirect_means_terminated (rt : Sess.Router) (now : Int) (o : SessOracles) (rq : Go.R EndSessionReq) (ender : SessionEnder)
    (faults : List String) (iss : String) (s : St) (loc : String)
    (h : (logout rt now o rq ender faults iss s).2 = .redirect loc) :
    ∃ r sess, rq = .ok r ∧ Gen.ValidateEndSessionRequest now o r (logoutEnder ender faults) = .ok sess ∧
      faults.contains (terminateCall ender.store) = false ∧
      (logout rt now o rq ender faults iss s).1 = s.TerminateSession iss sess.UserID sess.ClientID := by
  unfold logout at h ⊢
  cases rq with
  | error err => exact absurd h (handle_undecodable rt now o err _ loc)
  | ok r =>
    obtain ⟨sess, hv, ht, _⟩ := (handle_redirect_iff rt now o r _ loc).mp h
    refine ⟨r, sess, rfl, hv, ?_, ?_⟩
    · simp only [logoutEnder, Bool.and_eq_true, Bool.not_eq_true'] at ht; exact ht.2
    · simp only [hv, ht, if_true]

/-- C08 (faults, logout, histories): after a logout that either router answered with the success redirect - whatever storage methods
    failed - an access token of that session (known under one id only, shown under the issuer of the logout) is never honoured again:
    in NO later timed history, at any endpoint of either router, under any faults -/
theorem logout_sticks (rt : Sess.Router) (atp : ResATProvider) (now : Int) (o : SessOracles) (rq : Go.R EndSessionReq) (ender : SessionEnder)
    (faults : List String) (iss : String) (x : Timed) (loc : String) (ops : List Op) (id : String)
    (h : (logout rt now o rq ender faults iss x.st).2 = .redirect loc)
    (hk : Known x.st (.at id))
    (hsess : ∀ r sess, rq = .ok r → Gen.ValidateEndSessionRequest now o r (logoutEnder ender faults) = .ok sess →
      ∀ t, t ∈ x.st.toks → t.id = id → t.subject = sess.UserID ∧ t.client = sess.ClientID ∧ x.st.sees iss t.issuer = true) :
    ∀ ob, ob ∈ (runT atp { x with st := (logout rt now o rq ender faults iss x.st).1 } ops).2 → ob ≠ some (.at id) := by
  obtain ⟨r, sess, hrq, hv, _, hst⟩ := c08_redirect_means_terminated rt now o rq ender faults iss x.st loc h
  have hrw := terminate_rewrites x.st iss sess.UserID sess.ClientID
  have hdead : Dead (x.st.TerminateSession iss sess.UserID sess.ClientID) (.at id) := by
    intro t ht hi
    simp only [St.TerminateSession, List.mem_map] at ht
    obtain ⟨t0, ht0, rfl⟩ := ht
    have hid : t0.id = id := by
      revert hi; split <;> exact fun h => h
    obtain ⟨h1, h2, h3⟩ := hsess r sess hrq hv t0 ht0 hid
    simp [h1, h2, h3, Tok.live]
  refine revocation_sticksT atp ops _ (.at id) ?_ ?_
  · simp only [hst]; exact hdead
  · simp only [hst]; exact hrw.known (.at id) hk

/-- the REGENERATED getters of `op.tokenExchangeRequest` hand out the like-named fields: subject data for the subject getters, actor data
    for the actor getters -/
theorem exchange_getters (now : Int) (r : TEReq) :
    GenRes.GetExchangeSubjectTokenIDOrToken now r = r.exchangeSubjectTokenIDOrToken ∧ GenRes.GetExchangeSubject now r = r.exchangeSubject ∧
    GenRes.GetExchangeSubjectTokenType now r = r.exchangeSubjectTokenType ∧
    GenRes.GetExchangeActorTokenIDOrToken now r = r.exchangeActorTokenIDOrToken ∧ GenRes.GetExchangeActor now r = r.exchangeActor ∧
    GenRes.GetExchangeActorTokenType now r = r.exchangeActorTokenType := ⟨rfl, rfl, rfl, rfl, rfl, rfl⟩

theorem c08_exchange_ids_reach_policy (now : Int) (inp : TEIn) (client : OPClient) (ex : TEProvider) (req : TEReq)
    (h : GenTE.CreateTokenExchangeRequest now inp client ex = .ok req) :
    ∃ r0 r1, ex.Storage.ValidateTokenExchangeRequest r0 = .ok r1 ∧
      (GenTE.GetTokenIDAndSubjectFromToken now ex inp.SubjectToken inp.SubjectTokenType false).2.2.2 = true ∧
      GenRes.GetExchangeSubjectTokenIDOrToken now r0 = (GenTE.GetTokenIDAndSubjectFromToken now ex inp.SubjectToken inp.SubjectTokenType false).1 ∧
      GenRes.GetExchangeSubjectTokenType now r0 = inp.SubjectTokenType ∧
      (inp.ActorToken ≠ "" →
        (GenTE.GetTokenIDAndSubjectFromToken now ex inp.ActorToken inp.ActorTokenType true).2.2.2 = true ∧
        GenRes.GetExchangeActorTokenIDOrToken now r0 = (GenTE.GetTokenIDAndSubjectFromToken now ex inp.ActorToken inp.ActorTokenType true).1 ∧
        GenRes.GetExchangeActorTokenType now r0 = inp.ActorTokenType) := by
  unfold GenTE.CreateTokenExchangeRequest at h
  simp only [] at h
  split at h
  · simp at h
  · cases hs : GenTE.GetTokenIDAndSubjectFromToken now ex inp.SubjectToken inp.SubjectTokenType false with
    | mk sid rest =>
      obtain ⟨ssub, scl, sok⟩ := rest
      simp only [hs] at h
      split at h
      · simp at h
      · rename_i hsok
        split at h
        · rename_i hact
          cases ha : GenTE.GetTokenIDAndSubjectFromToken now ex inp.ActorToken inp.ActorTokenType true with
          | mk aid arest =>
            obtain ⟨asub, acl, aok⟩ := arest
            simp only [ha] at h
            split at h
            · simp at h
            · rename_i haok
              split at h
              · simp at h
              · rename_i r1 hv
                refine ⟨_, r1, hv, by simpa using hsok, rfl, rfl, fun _ => ⟨by simpa using haok, rfl, rfl⟩⟩
        · rename_i hact
          split at h
          · simp at h
          · rename_i r1 hv
            refine ⟨_, r1, hv, by simpa using hsok, rfl, rfl, fun hne => absurd (by simpa using hact) hne⟩

/-- a delegation exchange honours its subject as `exchange` does, and as actor the record behind the actor string (read like an
    access-token subject; the storage policy finds it through the regenerated getter) -/
theorem exchangeD_actor (atp : ResATProvider) (e : Env) (s : St) (asRefresh : Bool) (tok a : String) :
    exchangeD atp e s asRefresh tok (some a) =
      (exchange atp e s asRefresh tok).bind fun x => (honouredTok atp e s a).map fun t => (x, some (.at t.id)) := by
  have ha := step_exchange_at atp s e a
  simp only [step, exchange, Bool.false_eq_true, if_false] at ha
  unfold exchangeD
  rcases exchange atp e s asRefresh tok with _ | x
  · rfl
  · have hm : (honouredTok atp e s a).map (fun t => (x, some (Ref.at t.id))) =
        ((honouredTok atp e s a).map fun t => Ref.at t.id).map fun r => (x, some r) := by rw [Option.map_map]; rfl
    rw [Option.bind_some, hm, ← ha]
    dsimp only
    rcases GenRes.getTokenIDAndClaims e.now (provider atp e s) a with ⟨aid, asub, cl, _ | _⟩
    · rfl
    · dsimp only; rw [Option.map_map]; rfl

/-- C08 (delegation): a token exchange that carries an actor token succeeds only when BOTH the subject token and the actor token are
    live tokens the storage shows under the issuer of the request - for every oracle (whatever the two strings decrypt to) -/
theorem exchangeD_live (atp : ResATProvider) (e : Env) (s : St) (asRefresh : Bool) (tok a : String) (x : Ref) (y : Option Ref)
    (h : exchangeD atp e s asRefresh tok (some a) = some (x, y)) :
    VisibleLive s e.issuer x ∧ ∃ y', y = some y' ∧ VisibleLive s e.issuer y' := by
  rw [exchangeD_actor] at h
  obtain ⟨x', hx, h⟩ := Option.bind_eq_some_iff.mp h
  obtain ⟨t, ht, h⟩ := Option.map_eq_some_iff.mp h
  obtain ⟨rfl, rfl⟩ := Prod.mk.inj h
  obtain ⟨iss, hi, hv⟩ := honoured_visible atp s (.exchange e asRefresh tok) x' hx
  obtain rfl : e.issuer = iss := by simpa [requestIssuer] using hi
  obtain ⟨_, _, hl⟩ := honouredTok_some ht
  exact ⟨hv, _, rfl, t, liveTok_some hl⟩

/-- a revoked / expired / logged-out token is refused as ACTOR of a delegation exchange as it is refused as subject -/
theorem dead_actor_refused (atp : ResATProvider) (e : Env) (s : St) (asRefresh : Bool) (tok a : String) (x y : Ref)
    (hd : Dead s y) : exchangeD atp e s asRefresh tok (some a) ≠ some (x, some y) := by
  intro h
  obtain ⟨_, y', hy, hv⟩ := exchangeD_live atp e s asRefresh tok a x (some y) h
  cases hy
  cases y <;> (obtain ⟨t, ht, hi, hl, _⟩ := hv; rw [hd t ht hi] at hl; cases hl)

/-- the id the storage policy looks the actor up under is the id the ACTOR string resolved to (through the regenerated getter) -/
theorem exchangeD_actor_id (atp : ResATProvider) (e : Env) (s : St) (asRefresh : Bool) (tok a : String) (x y : Ref)
    (h : exchangeD atp e s asRefresh tok (some a) = some (x, some y)) :
    ∃ aid asub, resolve e.now (provider atp e s) a = some (aid, asub) ∧ y = .at aid := by
  rw [exchangeD_actor] at h
  obtain ⟨x', _, h⟩ := Option.bind_eq_some_iff.mp h
  obtain ⟨t, ht, h⟩ := Option.map_eq_some_iff.mp h
  obtain ⟨_, hy⟩ := Prod.mk.inj h
  obtain ⟨sub, hr, _⟩ := honouredTok_some ht
  exact ⟨t.id, sub, hr, (Option.some.inj hy).symm⟩

def exTokJ : Tok := { id := "atJ", client := "webjwt", subject := "u1", audience := ["webjwt"], exp := 1500 * Go.second, jwt := true }
def exTokO : Tok := { id := "at1", client := "web", subject := "u1", audience := ["web"], refresh := "rt1", exp := 1500 * Go.second }
def exRTO : RTok := { token := "rt1", client := "web", subject := "u1", access := "at1", exp := 9000 * Go.second }
def exTimed (byClaim : Bool) : Timed := { st := { toks := [exTokO, exTokJ], rtoks := [exRTO] }, expiryByClaim := byClaim }
def exEnvT (n : Int) : Env := { now := n * Go.second, decrypt := fun t => if t == "opaque1" then .ok "at1:u1" else .error "illegal base64 data" }
/-- a JWT access token of the provider for the stored token `atJ` with the given exp claim (seconds) -/
def exJWTok (exp : Int) : Token :=
  let p : Payload := { bytes := 1, claims := some { iss := "https://op", sub := "u1", aud := ["webjwt"], exp := exp } }
  { segs := 3, middle := some p,
    jws := some { Signatures := [{ Header := ⟨"RS256", "sig1"⟩, signer := some 0, signedAlg := "RS256", signedBytes := 1, signedHdr := ⟨"RS256", "sig1"⟩ }], payload := p } }
def exEnvJ (n exp : Int) : Env := { now := n * Go.second, issuer := "https://op", tokenOf := fun _ => exJWTok exp, jtiOf := fun _ => "atJ" }

-- an opaque token: honoured before its storage expiration, refused after it; the refresh token lives on
example : (runT {} (exTimed false) [.userinfo .provider (exEnvT 1000) "opaque1", .userinfo .provider (exEnvT 1501) "opaque1",
    .introspect .legacy (exEnvT 1502) (some "web") "opaque1", .exchange (exEnvT 1503) false "opaque1", .refresh (exEnvT 1504) "rt1"]).2
    = [some (.at "at1"), none, none, none, some (.rt "rt1")] := by decide +kernel
-- faults: a failing RevokeToken is refused and the token stays usable; the retry kills it; a failing refresh lookup honours nothing
example : (runT {} (exTimed false) [.revoke .provider { exEnvT 1000 with faults := ["RevokeToken"] } (some "web") "" "opaque1",
    .userinfo .legacy (exEnvT 1001) "opaque1", .revoke .legacy (exEnvT 1002) (some "web") "" "opaque1", .userinfo .provider (exEnvT 1003) "opaque1",
    .refresh { exEnvT 1004 with faults := ["TokenRequestByRefreshToken"] } "rt1"]).2 = [none, some (.at "at1"), none, none, none] := by decide +kernel
example : (revoke .legacy {} { exEnvT 1000 with faults := ["GetRefreshTokenInfo"] } (exTimed false).st (some "web") "" "rt1").2 = .refused := by decide +kernel
-- a JWT whose exp claim is the storage's expiration (1500 s) dies with it - at a storage that checks the clock and at one that leaves the
-- expiry of JWTs to the claim alike
example : (runT exATP (exTimed false) [.userinfo .provider (exEnvJ 1000 1500) "jwt", .userinfo .provider (exEnvJ 1501 1500) "jwt"]).2
    = [some (.at "atJ"), none] := by decide +kernel
example : (runT exATP (exTimed true) [.userinfo .legacy (exEnvJ 1000 1500) "jwt", .introspect .provider (exEnvJ 1501 1500) (some "webjwt") "jwt",
    .exchange (exEnvJ 1502 1500) false "jwt"]).2 = [some (.at "atJ"), none, none] := by decide +kernel
-- what `c08_exp_claim_is_storage_expiration` excludes: were the claim the storage's expiration PLUS a clock skew (1500 + 3600), the
-- claim-trusting storage would honour the token after the expiration it gave it
example : (runT exATP (exTimed true) [.userinfo .provider (exEnvJ 1501 5100) "jwt"]).2 = [some (.at "atJ")] := by decide +kernel
example : (runT exATP (exTimed false) [.userinfo .provider (exEnvJ 1501 5100) "jwt"]).2 = [none] := by decide +kernel
-- the regenerated issuance: the storage says 1500 s, the client has an hour of clock skew; the signer is shown the claims
example : (GenC06.CreateAccessToken (1000 * Go.second) {} IssConst.AccessTokenTypeJWT
    { Storage := { CreateAccessToken := fun _ => .ok ("atJ", 1500 * Go.second),
                   SigningKey := .ok { signAT := fun c => .ok (toString c.Expiration ++ "/" ++ c.JWTID) } } }
    { ClockSkew := 3600 * Go.second } "").toOption = some ("1500/atJ", "", 4100 * Go.second) := by decide +kernel
-- delegation: a live subject with a live actor is accepted, with a revoked actor refused (and the other way round)
def exEnv2 (n : Int) : Env := { now := n * Go.second, decrypt := fun t => if t == "opaque1" then .ok "at1:u1" else if t == "opaque2" then .ok "at2:u2" else .error "illegal base64 data" }
def exSt2 : St := { toks := [exTokO, { exTokO with id := "at2", subject := "u2", refresh := "" }], rtoks := [exRTO] }
example : exchangeD {} (exEnv2 1000) exSt2 false "opaque1" (some "opaque2") = some (.at "at1", some (.at "at2")) := by decide +kernel
example : exchangeD {} (exEnv2 1000) (revoke .provider {} (exEnv2 999) exSt2 (some "web") "" "opaque2").1 false "opaque1" (some "opaque2") = none := by decide +kernel
example : exchangeD {} (exEnv2 1000) (revoke .provider {} (exEnv2 999) exSt2 (some "web") "" "opaque2").1 false "opaque1" none = some (.at "at1", none) := by decide +kernel
example : exchangeD {} (exEnv2 1000) (revoke .legacy {} (exEnv2 999) exSt2 (some "web") "" "opaque1").1 false "opaque1" (some "opaque2") = none := by decide +kernel
example : exchangeD {} (exEnv2 1000) (exSt2.atTime false (1501 * Go.second)) true "rt1" (some "opaque2") = none := by decide +kernel
-- end_session: the legacy and the provider router, a storage without / with TerminateSessionFromRequest, a fault at the call
def exEnder (cap : Bool) : SessionEnder := { store := { is_CanTerminateSessionFromRequest := cap }, defaultLogoutURI := "https://op/out" }
def exSessO : SessOracles := { pathMatch := fun _ _ => .ok false, urlParse := fun _ => .error "x", tokenOf := fun _ => default }
example : (logout .legacy 0 exSessO (.ok {}) (exEnder false) ["TerminateSession"] "" (exTimed false).st).2 = .error 500 "server_error" := by decide +kernel
example : (logout .provider 0 exSessO (.ok {}) (exEnder false) ["TerminateSession"] "" (exTimed false).st).2 = .error 400 "server_error" := by decide +kernel
example : (logout .legacy 0 exSessO (.ok {}) (exEnder true) ["TerminateSession"] "" (exTimed false).st).2 = .redirect "https://op/out" := by decide +kernel
example : (logout .legacy 0 exSessO (.ok {}) (exEnder true) ["TerminateSessionFromRequest"] "" (exTimed false).st).2 = .error 500 "server_error" := by decide +kernel
example : (logout .provider 0 exSessO (.ok {}) (exEnder false) [] "" (exTimed false).st).2 = .redirect "https://op/out" := by decide +kernel

end Res
