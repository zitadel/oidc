/-
  C16 proofs: the REGENERATED CheckDeviceAuthorizationState as an ordering (`c16_order`), the formats of NewUserCode / NewDeviceCode,
  the complete verification URI (the monitor's form decoder inverts url.QueryEscape), and `c16_state_machine`: for ALL histories of
  device_authorization / approve / deny / expire / poll on both routers the reference monitor accepts every response of the model
  (regenerated handlers + stateful shell).
-/
import OidcModel.Spec.C16
import OidcModel.Model.DeviceFlow
import OidcModel.Proofs.Base64
import OidcModel.Proofs.Query
import OidcModel.Proofs.C16Char
import OidcModel.Proofs.Store

namespace C16
open Go Gen Hand

/-- the regenerated CheckDeviceAuthorizationState is exactly the ordering denied ≻ approved ≻ expired ≻ pending; a storage time-out
    ↦ slow_down, any other storage error ↦ access_denied -/
theorem c16_order (now : Int) (clientID code : String) (p : DevProvider) :
    CheckDeviceAuthorizationState now clientID code p =
      if p.deviceCap = false then .error "ErrUnsupportedGrantType" else
      match p.Storage.GetDeviceAuthorizatonState clientID code with
      | .error e => if e = Const.DeadlineExceeded then .error "ErrSlowDown" else .error "ErrAccessDenied"
      | .ok st =>
        if st.Denied = true then .error "ErrAccessDenied"
        else if st.Done = true then .ok st
        else if now > st.Expires then .error "ErrExpiredDeviceCode"
        else .error "ErrAuthorizationPending" := by
  rw [checkState_eq]; rfl

/-- tokens can only follow from a stored state that is approved and not denied -/
theorem checkState_ok {now clientID code p st} (h : CheckDeviceAuthorizationState now clientID code p = .ok st) :
    p.deviceCap = true ∧ p.Storage.GetDeviceAuthorizatonState clientID code = .ok st ∧ st.Denied = false ∧ st.Done = true := by
  rw [c16_order] at h
  split at h; · simp at h
  split at h
  · split at h <;> simp at h
  · rename_i st' hst
    split at h; · simp at h
    split at h
    · simp at h; subst h; simp_all
    · split at h <;> simp at h

/-- a denial wins over everything the user did before or after (approved, expired or not) -/
theorem denied_wins {now clientID code p st} (hcap : p.deviceCap = true)
    (h : p.Storage.GetDeviceAuthorizatonState clientID code = .ok st) (hd : st.Denied = true) :
    CheckDeviceAuthorizationState now clientID code p = .error "ErrAccessDenied" := by
  rw [c16_order]; simp [hcap, h, hd]

/-- an approval wins over expiry -/
theorem approved_wins_over_expiry {now clientID code p st} (hcap : p.deviceCap = true)
    (h : p.Storage.GetDeviceAuthorizatonState clientID code = .ok st) (hd : st.Denied = false) (ha : st.Done = true) :
    CheckDeviceAuthorizationState now clientID code p = .ok st := by
  rw [c16_order]; simp [hcap, h, hd, ha]

theorem timeout_is_slow_down {now clientID code p} (hcap : p.deviceCap = true) (h : p.fault = some Const.DeadlineExceeded) :
    CheckDeviceAuthorizationState now clientID code p = .error "ErrSlowDown" := by
  rw [c16_order]; simp [hcap, DevProvider.Storage, DevStore.GetDeviceAuthorizatonState, h]

example : CheckDeviceAuthorizationState 10 "tv" "dc" { devices := [{ deviceCode := "dc", state := { ClientID := "tv", Done := true, Denied := true, Expires := 5 } }] }
    = .error "ErrAccessDenied" := by rfl
example : CheckDeviceAuthorizationState 10 "tv" "dc" { devices := [{ deviceCode := "dc", state := { ClientID := "tv", Done := true, Expires := 5 } }] }
    = .ok { ClientID := "tv", Done := true, Expires := 5 } := by rfl
example : CheckDeviceAuthorizationState 10 "tv" "dc" { devices := [{ deviceCode := "dc", state := { ClientID := "tv", Expires := 5 } }] }
    = .error "ErrExpiredDeviceCode" := by rfl
example : CheckDeviceAuthorizationState 10 "other" "dc" { devices := [{ deviceCode := "dc", state := { ClientID := "tv", Done := true, Expires := 50 } }] }
    = .error "ErrAccessDenied" := by rfl

/-- the counter of the recogniser and the loop index of the generator agree about where a dash belongs -/
def Sync (d i g : Nat) : Prop := d = 0 ∨ (i = 0 ∧ g = 0) ∨ (0 < i ∧ 0 < g ∧ g ≤ d ∧ i % d = g % d)

/-- the recogniser expects a dash exactly where the generator writes one -/
theorem Sync.dash {d i g : Nat} (h : Sync d i g) : (d != 0 && g == d) = (d != 0 && i != 0 && i % d == 0) := by
  rcases h with rfl | ⟨rfl, rfl⟩ | ⟨hi, hg, hgd, hm⟩
  · rfl
  · cases d <;> simp
  · have : g = d ↔ i % d = 0 := by
      constructor
      · rintro rfl; rw [hm, Nat.mod_self]
      · intro h0
        rcases Nat.lt_or_eq_of_le hgd with hlt | rfl
        · rw [h0, Nat.mod_eq_of_lt hlt] at hm; omega
        · rfl
    rw [Bool.eq_iff_iff]
    simp [this, Nat.ne_of_gt hi]

theorem Sync.next {d i g : Nat} (h : Sync d i g) : Sync d (i + 1) (if (d != 0 && g == d) = true then 1 else g + 1) := by
  rcases h with rfl | ⟨rfl, rfl⟩ | ⟨hi, hg, hgd, hm⟩
  · exact .inl rfl
  · rcases Nat.eq_zero_or_pos d with rfl | hd
    · exact .inl rfl
    · rw [if_neg (by simp; omega)]
      exact .inr (.inr ⟨by omega, by omega, hd, rfl⟩)
  · have hm' : (i + 1) % d = (g + 1) % d := by rw [Nat.add_mod, hm, ← Nat.add_mod]
    split
    · obtain rfl : g = d := by simp_all
      rw [Nat.add_mod_left] at hm'
      exact .inr (.inr ⟨by omega, by omega, by omega, hm'⟩)
    · rename_i hne
      have : g ≠ d := by rintro rfl; apply hne; simp; omega
      exact .inr (.inr ⟨by omega, by omega, by omega, hm'⟩)

theorem userCodeFrom_wf (cs : List Char) (d : Nat) :
    ∀ (ks : List Nat) (i g : Nat), (∀ k ∈ ks, k < cs.length) → Sync d i g →
      ∃ s, userCodeFrom cs d i ks = some s ∧ userCodeWF cs d ks.length g s = true := by
  intro ks
  induction ks with
  | nil => intro i g _ _; exact ⟨[], rfl, by simp [userCodeWF]⟩
  | cons k ks ih =>
    intro i g hk hs
    have hklt : k < cs.length := hk k (by simp)
    have hcm : cs[k] ∈ cs := List.getElem_mem hklt
    obtain ⟨rest, hr, hw⟩ := ih (i + 1) _ (fun k' h => hk k' (by simp [h])) hs.next
    refine ⟨_, by rw [userCodeFrom, List.getElem?_eq_getElem hklt, hr], ?_⟩
    rw [List.length_cons, ← hs.dash]
    by_cases h : (d != 0 && g == d) = true
    · rw [if_pos h] at hw
      simp [userCodeWF, h, hcm, hw]
    · rw [if_neg h] at hw
      simp [userCodeWF, h, hcm, hw]

/-- the dashes written up to index `i` -/
theorem dash_count (d i : Nat) : (if (d != 0 && i != 0 && i % d == 0) = true then 1 else 0) + (i - 1) / d = i / d := by
  cases i with
  | zero => simp
  | succ j =>
    rw [Nat.add_sub_cancel, Nat.succ_div, Nat.add_comm]
    congr 1
    rcases Nat.eq_zero_or_pos d with rfl | hd
    · simp
    · simp [Nat.dvd_iff_mod_eq_zero, Nat.ne_of_gt hd]

theorem userCodeFrom_length (cs : List Char) (d : Nat) :
    ∀ (ks : List Nat) (i : Nat) (s : List Char), userCodeFrom cs d i ks = some s →
      s.length + (i - 1) / d = ks.length + (i + ks.length - 1) / d := by
  intro ks
  induction ks with
  | nil => intro i s h; cases h; simp
  | cons k ks ih =>
    intro i s h
    rw [userCodeFrom] at h
    split at h
    · rename_i c rest _ hr
      cases h
      have ih' := ih (i + 1) rest hr
      have e : i + 1 + ks.length - 1 = i + (ks.length + 1) - 1 := by omega
      rw [Nat.add_sub_cancel, e] at ih'
      have hd := dash_count d i
      simp only [List.length_append, List.length_cons, List.length_nil, apply_ite List.length, Nat.zero_add]
      omega
    · cases h

theorem newUserCode_some {cs : List Char} {amount dash : Nat} {idx : List Nat} {s : List Char} :
    NewUserCode cs amount dash idx = some s ↔ idx.length = amount ∧ userCodeFrom cs dash 0 idx = some s := by
  unfold NewUserCode
  split <;> simp_all

/-- a user code has `amount` characters and `(amount - 1) / dash` dashes -/
theorem userCode_length (cs : List Char) (amount dash : Nat) (idx : List Nat) (s : List Char)
    (h : NewUserCode cs amount dash idx = some s) : s.length = amount + (amount - 1) / dash := by
  obtain ⟨rfl, hs⟩ := newUserCode_some.1 h
  simpa using userCodeFrom_length cs dash idx 0 s hs

/-- NewUserCode yields a string of the configured format: for every alphabet, amount, dash interval and drawn indices in range -/
theorem userCode_wellformed (cs : List Char) (amount dash : Nat) (idx : List Nat)
    (hlen : idx.length = amount) (hrange : ∀ k ∈ idx, k < cs.length) :
    ∃ s, NewUserCode cs amount dash idx = some s ∧ userCodeOK cs amount dash s = true := by
  obtain ⟨s, hs, hw⟩ := userCodeFrom_wf cs dash idx 0 0 hrange (.inr (.inl ⟨rfl, rfl⟩))
  have hn := newUserCode_some.2 ⟨hlen, hs⟩
  refine ⟨s, hn, ?_⟩
  rw [userCodeOK, userCode_length _ _ _ _ _ hn, ← hlen, hw]
  cases dash <;> simp

example : NewUserCode "BCDFGHJKLMNPQRSTVWXZ".toList 8 4 [0, 1, 2, 3, 19, 18, 17, 16] = some "BCDF-ZXWV".toList := by decide +kernel
example : userCodeOK "BCDFGHJKLMNPQRSTVWXZ".toList 8 4 "BCDF-ZXWV".toList = true := by decide +kernel
example : userCodeOK "BCDFGHJKLMNPQRSTVWXZ".toList 8 4 "BCDFZ-XWV".toList = false := by decide +kernel
example : userCodeOK "BCDFGHJKLMNPQRSTVWXZ".toList 8 4 "BCDF-ZXWA".toList = false := by decide +kernel
example : NewUserCode "AB".toList 2 0 [0, 2] = none := by decide +kernel

theorem deviceCode_wellformed : ∀ bytes : List UInt8, deviceCodeOK bytes.length (B64.encode bytes) = true := by
  intro bytes
  simp only [deviceCodeOK, Bool.and_eq_true, beq_iff_eq, List.all_eq_true, List.contains_iff_mem]
  exact ⟨B64.encode_length bytes, B64.mem_encode bytes⟩

/-- the 16 bytes of op.RecommendedDeviceCodeBytes give 22 characters -/
example (bytes : List UInt8) (h : bytes.length = 16) : (B64.encode bytes).length = 22 := by
  rw [B64.encode_length, h]

theorem stripPrefix_append (a b : List Char) : stripPrefix a (a ++ b) = some b := by
  induction a with
  | nil => cases b <;> rfl
  | cons x xs ih => simp [stripPrefix, ih]

theorem splitFirst_absent (sep : Char) (s : List Char) (h : ∀ c ∈ s, c ≠ sep) : splitFirst sep s = (s, none) := by
  induction s with
  | nil => rfl
  | cons c cs ih =>
    have hc : (c == sep) = false := by simpa using h c (by simp)
    have := ih (fun c' hc' => h c' (by simp [hc']))
    simp [splitFirst, hc, this]

theorem splitFirst_append (sep : Char) (a t : List Char) (h : ∀ c ∈ a, c ≠ sep) : splitFirst sep (a ++ sep :: t) = (a, some t) := by
  induction a with
  | nil => simp [splitFirst]
  | cons c cs ih =>
    have hc : (c == sep) = false := by simpa using h c (by simp)
    have := ih (fun c' hc' => h c' (by simp [hc']))
    simp [splitFirst, hc, this]

theorem byteArray_loop (bs : ByteArray) (i : Nat) (r : List UInt8) :
    ByteArray.toList.loop bs i r = r.reverse ++ bs.data.toList.drop i := by
  fun_induction ByteArray.toList.loop bs i r with
  | case1 i r hlt ih =>
    have hlt' : i < bs.data.toList.length := hlt
    have hg : bs.get! i = bs.data.toList[i] := by simp [ByteArray.get!, getElem!_pos, hlt]
    rw [ih, List.drop_eq_getElem_cons hlt', hg]
    simp
  | case2 i r hge =>
    have : bs.data.toList.drop i = [] := List.drop_eq_nil_of_le (Nat.le_of_not_lt hge)
    simp [this]

theorem byteArray_toList (l : List UInt8) : l.toByteArray.toList = l := by
  simp [ByteArray.toList, byteArray_loop]

theorem charBytes_eq (c : Char) : charBytes c = String.utf8EncodeChar c := by
  simp [charBytes, String.toUTF8, List.utf8Encode, byteArray_toList]

/-- the bytes of a Go string, as the model takes them, are what the monitor calls the UTF-8 of the text -/
theorem toUTF8_ofList (s : List Char) : (String.ofList s).toUTF8.toList = utf8 s := by
  have : utf8 s = s.flatMap String.utf8EncodeChar := by
    unfold utf8; congr 1; funext c; exact charBytes_eq c
  rw [this]
  simp [String.toUTF8, String.toByteArray_ofList, List.utf8Encode, byteArray_toList]

theorem ascii_char_fin : ∀ n : Fin 128, (fun b : UInt8 =>
    String.utf8EncodeChar (devAsciiChar b) == [b] && hexVal (devAsciiChar b) == Query.unhex b &&
      ((devAsciiChar b == '%') == (b == 37)) && ((devAsciiChar b == '+') == (b == 43)) &&
      ((devAsciiChar b == '#') == (b == 35)) && ((devAsciiChar b == '&') == (b == 38))) (UInt8.ofNat n.val) = true := by
  decide +kernel

/-- an ASCII byte, as a character: the monitor reads it as net/url reads the byte -/
theorem ascii_char {b : UInt8} (h : b < 128) :
    charBytes (devAsciiChar b) = [b] ∧ hexVal (devAsciiChar b) = Query.unhex b ∧
      (devAsciiChar b == '%') = (b == 37) ∧ (devAsciiChar b == '+') = (b == 43) ∧
      (devAsciiChar b == '#') = (b == 35) ∧ (devAsciiChar b == '&') = (b == 38) := by
  have := ascii_char_fin ⟨b.toNat, h⟩
  simpa [charBytes_eq, and_assoc] using this

theorem formDecode_ascii (l : List UInt8) (h : ∀ b ∈ l, b < 128) : formDecode (l.map devAsciiChar) = Query.unescape l := by
  fun_induction Query.unescape l
  all_goals rw [formDecode.eq_def]
  case case2 r _ _ _ _ _ =>
    simp_all [ascii_char, Nat.mul_comm]
    cases Query.unescape r <;> rfl
  case case4 r _ _ =>
    rcases r with _ | ⟨a, _ | ⟨b, r⟩⟩ <;> simp_all [ascii_char]
  all_goals simp_all [ascii_char]

theorem unreserved_ascii {b : UInt8} (h : Query.unreserved b = true) : b < 128 := by
  simp [Query.unreserved, UInt8.le_iff_toNat_le, UInt8.lt_iff_toNat_lt, ← UInt8.toNat_inj] at h ⊢
  omega

theorem escape_ascii (bs : List UInt8) : ∀ x ∈ Query.escape bs, x < 128 := by
  intro x hx
  rcases Query.escape_out bs x hx with hu | rfl | rfl
  · exact unreserved_ascii hu
  · decide
  · decide

/-- **the form decoder inverts url.QueryEscape** on every byte string (the escaped text taken as characters) -/
theorem formDecode_escape (bs : List UInt8) : formDecode ((Query.escape bs).map devAsciiChar) = some bs := by
  rw [formDecode_ascii _ (escape_ascii bs), Query.unescape_escape]

theorem escape_nodelim (bs : List UInt8) : ∀ c ∈ (Query.escape bs).map devAsciiChar, c ≠ '#' ∧ c ≠ '&' := by
  intro c hc
  obtain ⟨x, hx, rfl⟩ := List.mem_map.1 hc
  obtain ⟨_, _, _, _, h35, h38⟩ := ascii_char (escape_ascii bs x hx)
  have h : x ≠ 35 ∧ x ≠ 38 := by
    rcases Query.escape_out bs x hx with hu | rfl | rfl
    · exact ⟨by rintro rfl; exact absurd hu (by decide), by rintro rfl; exact absurd hu (by decide)⟩
    · decide
    · decide
  simpa [← beq_eq_false_iff_ne, h35, h38] using h

theorem devQueryEscape_toList (s : List Char) :
    (devQueryEscape (String.ofList s)).toList = (Query.escape (utf8 s)).map devAsciiChar := by
  rw [devQueryEscape, String.toList_ofList, toUTF8_ofList]

/-- the key `user_code` consists of unreserved characters: url.Values.Encode leaves it as it is -/
theorem devQueryEscape_key : (devQueryEscape "user_code").toList = "user_code".toList := by
  have h := devQueryEscape_toList "user_code".toList
  rw [String.ofList_toList] at h
  rw [h]
  simp only [utf8, charBytes_eq]
  decide +kernel

theorem devEncodeQuery_toList (uc : List Char) :
    (devEncodeQuery "user_code" (String.ofList uc)).toList =
      "user_code".toList ++ '=' :: (Query.escape (utf8 uc)).map devAsciiChar := by
  have heq : "=".toList = ['='] := by rfl
  simp only [devEncodeQuery, String.toList_append, devQueryEscape_key, devQueryEscape_toList, heq]
  simp

/-- **C16, verification URIs.** The complete verification URI the model builds (`uri?` + `url.Values{"user_code": {code}}.Encode()`)
    carries the user code to a user agent - one parameter `user_code` whose form-decoded value is the UTF-8 of the code - for
    EVERY URI and EVERY user code, whatever its alphabet (`% + & # =`, blanks, non-ASCII text included) -/
theorem c16_uris (uri uc : List Char) :
    uriCompleteOK uri (uri ++ '?' :: (devEncodeQuery "user_code" (String.ofList uc)).toList) uc = true := by
  have hkeyc : ∀ c ∈ "user_code".toList, c ≠ '#' ∧ c ≠ '&' ∧ c ≠ '=' := by decide
  have hq : ∀ c ∈ "user_code".toList ++ '=' :: (Query.escape (utf8 uc)).map devAsciiChar, c ≠ '#' ∧ c ≠ '&' := by
    intro c hc
    simp only [List.mem_append, List.mem_cons] at hc
    rcases hc with hc | rfl | hc
    · exact ⟨(hkeyc c hc).1, (hkeyc c hc).2.1⟩
    · decide
    · exact escape_nodelim (utf8 uc) c hc
  have hkey : formDecode "user_code".toList = some (utf8 "user_code".toList) := by
    have := formDecode_escape (utf8 "user_code".toList)
    rwa [← devQueryEscape_toList, String.ofList_toList, devQueryEscape_key] at this
  rw [uriCompleteOK, stripPrefix_append, devEncodeQuery_toList]
  simp only [splitFirst_absent '#' _ fun c hc => (hq c hc).1, splitFirst_absent '&' _ fun c hc => (hq c hc).2,
    splitFirst_append '=' _ _ fun c hc => (hkeyc c hc).2.2, hkey, formDecode_escape]
  simp

/-- the same for the text the provider sends -/
theorem c16_uris_string (uri uc : String) :
    uriCompleteOK uri.toList (uri ++ "?" ++ devEncodeQuery "user_code" uc).toList uc.toList = true := by
  have hq : "?".toList = ['?'] := by rfl
  have := c16_uris uri.toList uc.toList
  rw [String.ofList_toList] at this
  simpa [String.toList_append, hq] using this

/-- non-vacuity: reserved characters are escaped, and the unescaped form (what string concatenation would build) is refused -/
example : (devEncodeQuery "user_code" (String.ofList "A&B+C%D#E=F G".toList)).toList = "user_code=A%26B%2BC%25D%23E%3DF+G".toList := by
  rw [devEncodeQuery_toList]
  decide +kernel
example : uriCompleteOK "https://op.example/device".toList "https://op.example/device?user_code=A&B".toList "A&B".toList = false := by decide +kernel

open DevFlow

def presentedOf (r : DevHttpRequest) : Presented :=
  { kind := r.authKind, clientID := r.clientID, secret := if r.authKind == "basic" || r.authKind == "post" then r.clientSecret else "" }

def faultOf : Option String → Fault
  | none => .none
  | some e => if e = Const.DeadlineExceeded then .timeout else .other

/-- the tokens of an issue: the access token (record) is created from the state's subject, client id and scopes, the
    audience is the client (`GetAudience`), the ID token names the client as azp -/
def tokensOf (i : DevIssue) : Tokens :=
  { subject := i.state.Subject, client := i.state.ClientID, scopes := i.state.Scopes, audience := [i.state.ClientID],
    idToken := i.idTokenSubject.map fun s => (s, i.state.ClientID) }

def authRespOf (r : DeviceAuthorizationResponse) : AuthResp :=
  { deviceCode := r.DeviceCode, userCode := r.UserCode, uri := r.VerificationURI, uriComplete := r.VerificationURIComplete,
    expiresIn := r.ExpiresIn, interval := r.Interval, storedExpires := r.expires }

/-- the monitor's event for a step of the model.  Every error gets the status 400 here (RequestError / WriteError
    answer 400, 401 or 500; sampled by the stream) -/
def eventOf : Op → Out → Event
  | .auth now r _, .authOk resp => .auth now (presentedOf r) r.Form.Scopes (.ok (authRespOf resp))
  | .auth now r _, .error e => .auth now (presentedOf r) r.Form.Scopes (if e = "panic" then .panic else .error (oauthCode e) 400)
  | .auth now r _, _ => .auth now (presentedOf r) r.Form.Scopes .panic
  | .approve code subject _, _ => .approve code subject
  | .deny code, _ => .deny code
  | .expire code expires, _ => .expire code expires
  | .poll now r f, .issued i => .poll now (presentedOf r) r.PostForm.DeviceCode (faultOf f) (.tokens (tokensOf i))
  | .poll now r f, .error e => .poll now (presentedOf r) r.PostForm.DeviceCode (faultOf f) (.error (oauthCode e) 400)
  | .poll now r f, _ => .poll now (presentedOf r) r.PostForm.DeviceCode (faultOf f) .panic

def absDev (e : DeviceEntry) : Dev :=
  { code := e.deviceCode, userCode := e.userCode, client := e.state.ClientID, scopes := e.state.Scopes, expires := e.state.Expires,
    approvedBy := if e.state.Done then some e.state.Subject else none, denied := e.state.Denied }

def absCfg (p : DevProvider) : Cfg :=
  { issuer := p.p.issuer, formPath := p.cfg.UserFormPath, lifetime := p.cfg.Lifetime / Go.second, interval := p.cfg.PollInterval / Go.second,
    charset := p.cfg.UserCode.CharSet, amount := p.cfg.UserCode.CharAmount, dash := p.cfg.UserCode.DashInterval,
    deviceEnabled := p.deviceCap, deviceCodeBytes := 16 }

/-- the monitor state an observer has built up when the model is in state `s` -/
def abs (s : St) : MonState :=
  { cfg := absCfg s.prov, clients := s.prov.p.store.clients, devs := s.prov.devices.map absDev }

def trace (s : St) : List Op → List Event
  | [] => []
  | op :: rest => eventOf op (step s op).2 :: trace (step s op).1 rest

/-- configuration in the domain of the statement -/
structure GoodCfg (p : DevProvider) : Prop where
  /-- lifetime is a whole number of seconds (expires_in tells the client the exact lifetime) -/
  lifetime : p.cfg.Lifetime % Go.second = 0

/-- what crypto/rand guarantees for one device_authorization request: 16 bytes, one index per character, below the alphabet size;
    and the device code does not collide with a stored one (entropy: the part of the property that is NOT proved) -/
def GoodOp (s : St) : Op → Prop
  | .auth _ _ rnd =>
    rnd.bytes.length = 16 ∧ rnd.indices.length = s.prov.cfg.UserCode.CharAmount ∧
      (∀ k ∈ rnd.indices, k < s.prov.cfg.UserCode.CharSet.length) ∧
      ∀ e ∈ s.prov.devices, e.deviceCode ≠ NewDeviceCode rnd.bytes
  | _ => True

def Good (s : St) : List Op → Prop
  | [] => True
  | op :: rest => GoodOp s op ∧ Good (step s op).1 rest

theorem getClient_error {s : Store} {id : String} {e : String} (h : s.GetClientByClientID id = .error e) :
    s.clients.find? (·.id == id) = none := by
  unfold Store.GetClientByClientID at h
  split at h <;> simp_all

/-- the poller is the registered client `c` of the presented id, and the poll carries `c`'s secret if `c` has credentials -/
def Admitted (p : DevProvider) (r : DevHttpRequest) (c : OPClient) : Prop :=
  p.p.store.clients.find? (·.id == r.clientID) = some c ∧ (c.auth ≠ Const.AuthMethodNone → c.secret = (presentedOf r).secret)

/-- ClientIDFromRequest: the id is the presented one; "authenticated" means Basic auth with the registered secret -/
theorem clientIDFromRequest_ok {now : Int} {r : DevHttpRequest} {p : DevProvider} {id : String} {a : Bool}
    (h : Hand.ClientIDFromRequest now r p = .ok (id, a)) :
    id = r.clientID ∧ (a = true → ∃ c, p.p.store.clients.find? (·.id == r.clientID) = some c ∧ c.secret = (presentedOf r).secret) := by
  unfold Hand.ClientIDFromRequest at h
  split at h
  · rename_i hb
    split at h
    · rename_i u hu
      -- `checkAuthMethodPost` only refuses: every success went through AuthorizeClientIDSecret
      have hid : id = r.clientID := by
        repeat' split at h
        all_goals simp_all
      obtain ⟨c, hc, _, hs⟩ := Store.authSecret_ok_iff.1 (show _ = Except.ok () from hu)
      exact ⟨hid, fun _ => ⟨c, hc, by simp [presentedOf, hb, hs]⟩⟩
    · simp at h
  · split at h
    · simp at h
    · simp at h
      exact ⟨h.1.symm, fun ha => by simp [ha] at h⟩

/-- the reference storage hands out a state only for the client that started the flow, and only when no fault was injected -/
theorem lookup_ok {p : DevProvider} {cid code : String} {st : DeviceAuthorizationState}
    (h : p.Storage.GetDeviceAuthorizatonState cid code = .ok st) :
    p.fault = none ∧ ∃ e, p.devices.find? (·.deviceCode == code) = some e ∧ e.state = st ∧ e.state.ClientID = cid := by
  unfold DevStore.GetDeviceAuthorizatonState DevProvider.Storage at h
  simp only at h
  split at h; · simp at h
  rename_i hf
  split at h
  · rename_i e he
    split at h
    · rename_i hc
      simp at h
      exact ⟨hf, e, he, h, by simpa using hc⟩
    · simp at h
  · simp at h

theorem find_absDev (devs : List DeviceEntry) (code : String) :
    (devs.map absDev).find? (·.code == code) = (devs.find? (·.deviceCode == code)).map absDev := by
  rw [List.find?_map]
  rfl

def issueOf (p : DevProvider) (st : DeviceAuthorizationState) (c : OPClient) : DevIssue :=
  { state := st, client := c,
    idTokenSubject := if st.Scopes.contains Const.ScopeOpenID then
        some (if (if p.userinfoSubject then st.Subject else "") == "" then st.Subject else (if p.userinfoSubject then st.Subject else "")) else none }

/-- whatever the storage puts into the userinfo, the ID token names the approving user -/
theorem issueOf_idToken (p : DevProvider) (st : DeviceAuthorizationState) (c : OPClient) :
    (issueOf p st c).idTokenSubject = if st.Scopes.contains Const.ScopeOpenID then some st.Subject else none := by
  unfold issueOf
  cases p.userinfoSubject <;> by_cases h : st.Subject = "" <;> simp [h]

/-- Provider router: what a token response to a device-code poll presupposes -/
theorem deviceAccessToken_ok {now : Int} {r : DevHttpRequest} {p : DevProvider} {i : DevIssue}
    (h : deviceAccessToken now r p = .ok i) :
    ∃ st c, CheckDeviceAuthorizationState now r.clientID r.PostForm.DeviceCode p = .ok st ∧ Admitted p r c ∧ i = issueOf p st c := by
  rw [deviceAccessToken_eq] at h
  unfold deviceAccessTokenSpec at h
  split at h; · simp at h
  rename_i id a hcid
  obtain ⟨rfl, hsec⟩ := clientIDFromRequest_ok hcid
  split at h; · simp at h
  rename_i st hst
  split at h; · simp at h
  rename_i c hc
  split at h; · simp at h
  rename_i hauth
  have hfind := Store.getClient_ok_iff.1 hc
  refine ⟨st, c, hst, ⟨hfind, fun hne => ?_⟩, (Except.ok.inj h).symm⟩
  obtain ⟨c', hc', hs⟩ := hsec (by cases a <;> simp_all)
  rw [hfind] at hc'
  cases hc'
  exact hs

theorem grantOK_ok {g : String} {c c' : OPClient} (h : grantOK g c = .ok c') : c' = c ∧ (g ≠ "" → g ∈ c.grants) := by
  unfold grantOK at h
  split at h
  · cases h
  · rename_i hn
    cases h
    exact ⟨rfl, fun hne => Classical.not_not.1 fun hm => hn ⟨hne, hm⟩⟩

theorem withClient_ok {now : Int} {p : Provider} {g : String} {cc : ClientCredentials} {c : OPClient}
    (hg : g ≠ Const.GrantTypeClientCredentials) (hat : cc.ClientAssertionType = "")
    (h : Flow.withClient now p g cc false = .ok c) :
    cc.ClientID ≠ "" ∧ p.store.clients.find? (·.id == cc.ClientID) = some c ∧ (g ≠ "" → g ∈ c.grants) ∧
      (c.auth ≠ Const.AuthMethodNone → c.secret = cc.ClientSecret) := by
  rw [withClient_eq hg hat] at h
  split at h; · cases h
  rename_i hid
  split at h; · cases h
  rename_i c' hc
  have hfind := Store.getClient_ok_iff.1 hc
  split at h
  · obtain ⟨rfl, hgr⟩ := grantOK_ok h
    exact ⟨hid, hfind, hgr, fun hn => absurd ‹_› hn⟩
  · split at h; · cases h
    split at h; · cases h
    split at h; · cases h
    rename_i u hs
    obtain ⟨rfl, hgr⟩ := grantOK_ok h
    obtain ⟨c'', hc'', _, hs⟩ := Store.authSecret_ok_iff.1 (show _ = Except.ok () from hs)
    rw [hfind] at hc''
    cases hc''
    exact ⟨hid, hfind, hgr, fun _ => hs⟩

theorem grantOK_ne_panic (g : String) (c : OPClient) : grantOK g c ≠ .error "panic" := by
  unfold grantOK; split <;> simp

theorem withClient_error_ne_panic {now : Int} {p : Provider} {g : String} {cc : ClientCredentials} {e : String}
    (hg : g ≠ Const.GrantTypeClientCredentials) (hat : cc.ClientAssertionType = "")
    (h : Flow.withClient now p g cc false = .error e) : e ≠ "panic" := by
  rintro rfl
  revert h
  rw [withClient_eq hg hat]
  repeat' split
  all_goals first | exact grantOK_ne_panic g _ | simp

theorem legacyDeviceToken_ok {now : Int} {s : DevLegacyServer} {r : ClientRequest DevFormData} {i : DevIssue}
    (h : LegacyDeviceToken now s r = .ok i) :
    ∃ st, CheckDeviceAuthorizationState now r.Client.id r.Data.DeviceCode s.provider = .ok st ∧ i = issueOf s.provider st r.Client := by
  rw [legacyDeviceToken_eq] at h
  unfold legacyDeviceTokenSpec at h
  simp only [Hand.issueForDevice] at h
  split at h; · simp at h
  split at h; · simp at h
  rename_i st hst
  simp only [Except.ok.injEq] at h
  exact ⟨st, hst, h.symm⟩

theorem ccOf_assertionType (r : DevHttpRequest) : (ccOf r).ClientAssertionType = "" := by
  unfold ccOf; split <;> (try split) <;> rfl

theorem ccOf_creds {r : DevHttpRequest} (h : (ccOf r).ClientID ≠ "") :
    (ccOf r).ClientID = r.clientID ∧ (ccOf r).ClientSecret = (presentedOf r).secret := by
  unfold ccOf at h ⊢
  unfold presentedOf
  split at h
  · exact absurd rfl h
  · rename_i hn
    rw [if_neg hn]
    split <;> simp_all

/-- both routers: a token response to a device-code poll presupposes an approved, not denied state that the storage reports
    for exactly the presented client id and device code, and - for a client with credentials - the client's secret -/
theorem deviceToken_ok {now : Int} {rt : Flow.Router} {p : DevProvider} {r : DevHttpRequest} {i : DevIssue}
    (h : deviceToken now rt p r = .ok i) :
    ∃ st c, CheckDeviceAuthorizationState now r.clientID r.PostForm.DeviceCode p = .ok st ∧ Admitted p r c ∧ i = issueOf p st c := by
  cases rt with
  | provider =>
    simp only [deviceToken] at h
    split at h; · simp at h
    exact deviceAccessToken_ok h
  | legacy =>
    simp only [deviceToken] at h
    split at h; · simp at h
    rename_i c hwc
    split at h; · simp at h
    obtain ⟨hid, hfind, _, hsec⟩ := withClient_ok (by decide) (ccOf_assertionType r) hwc
    obtain ⟨hcid, hcs⟩ := ccOf_creds hid
    rw [hcid] at hfind
    obtain ⟨st, hst, hi⟩ := legacyDeviceToken_ok h
    simp only [Store.find_id hfind] at hst
    exact ⟨st, c, hst, ⟨hfind, fun hne => hcs ▸ hsec hne⟩, hi⟩

/-- soundness of every token response of the model (both routers, any state of the storage, any request) -/
theorem poll_tokens_sound {now : Int} {s : St} {r : DevHttpRequest} {f : Option String} {i : DevIssue}
    (h : deviceToken now s.router { s.prov with fault := f } r = .ok i) :
    judgePoll (abs s) now (presentedOf r) r.PostForm.DeviceCode (faultOf f) (.tokens (tokensOf i)) = none := by
  obtain ⟨st, c, hst, ⟨hfind, hsec⟩, rfl⟩ := deviceToken_ok h
  obtain ⟨_, hlook, hden, hdone⟩ := checkState_ok hst
  obtain ⟨hf, e, he, rfl, hecl⟩ := lookup_ok hlook
  simp only at hf he hfind hecl
  subst hf
  have hd : (abs s).devs.find? (·.code == r.PostForm.DeviceCode) = some (absDev e) := by
    rw [abs, find_absDev, he]; rfl
  have hc : (abs s).clients.find? (·.id == r.clientID) = some c := hfind
  have hauth : (hasCredentials c && !authenticated c (presentedOf r)) = false := by
    by_cases hn : c.auth = Const.AuthMethodNone
    · simp [hasCredentials, hn, Const.AuthMethodNone]
    · simp [authenticated, hsec hn, presentedOf, Store.find_id hfind]
  have hid := issueOf_idToken { s.prov with fault := none } e.state c
  have hstate : (issueOf { s.prov with fault := none } e.state c).state = e.state := rfl
  have hp : (presentedOf r).clientID = r.clientID := rfl
  simp only [judgePoll, hd, faultOf, absDev, hp, hecl, hc, hauth, hden, hdone, tokensOf, hid, hstate]
  cases e.state.Scopes.contains Const.ScopeOpenID <;> simp

/-- the two canonical presentations -/
theorem properlyPresented_cases {c : OPClient} {r : DevHttpRequest} (h : properlyPresented c (presentedOf r) = true) :
    (c.auth = Const.AuthMethodNone ∧ r.authKind = "id-only") ∨
    (c.auth = Const.AuthMethodBasic ∧ r.authKind = "basic" ∧ r.clientSecret = c.secret) := by
  unfold properlyPresented presentedOf at h
  simp only [Bool.and_eq_true] at h
  obtain ⟨_, h⟩ := h
  split at h
  · rename_i hn
    left; exact ⟨by simpa [Const.AuthMethodNone] using hn, by simpa using h⟩
  · simp only [Bool.and_eq_true, beq_iff_eq] at h
    obtain ⟨⟨ha, hk⟩, hs⟩ := h
    right
    refine ⟨ha, hk, ?_⟩
    simp [hk] at hs
    exact hs

/-- Server router: a registered client in its canonical presentation passes `withClient` for a registered grant -/
theorem withClient_legit {now : Int} {p : Provider} {g : String} {r : DevHttpRequest} {c : OPClient}
    (hg : g ≠ Const.GrantTypeClientCredentials)
    (hfind : p.store.clients.find? (·.id == r.clientID) = some c) (hgrant : g = "" ∨ g ∈ c.grants)
    (hpp : properlyPresented c (presentedOf r) = true) (hid : r.clientID ≠ "") :
    Flow.withClient now p g (ccOf r) false = .ok c := by
  have hgo : grantOK g c = .ok c := by
    unfold grantOK
    rw [if_neg]
    rintro ⟨h1, h2⟩
    exact h2 (hgrant.resolve_left h1)
  rw [withClient_eq hg (ccOf_assertionType r)]
  rcases properlyPresented_cases hpp with ⟨ha, hk⟩ | ⟨ha, hk, hs⟩
  · have hcc : ccOf r = { ClientID := r.clientID } := by simp [ccOf, hk]
    simp only [hcc, hid, if_false, Store.getClient_ok_iff.2 hfind, ha, if_true, hgo]
  · have hcc : ccOf r = { ClientID := r.clientID, ClientSecret := r.clientSecret } := by simp [ccOf, hk]
    have hsec : p.store.AuthorizeClientIDSecret r.clientID r.clientSecret = .ok () :=
      Store.authSecret_ok_iff.2 ⟨c, hfind, Or.inl ha, hs.symm⟩
    simp [hcc, hid, Store.getClient_ok_iff.2 hfind, ha, hsec, hgo, Const.AuthMethodBasic, Const.AuthMethodNone, Const.AuthMethodPrivateKeyJWT, Const.AuthMethodPost]

/-- both routers: for the initiating client in its canonical presentation the answer is decided by the state check alone -/
theorem deviceToken_legit {now : Int} {rt : Flow.Router} {p : DevProvider} {r : DevHttpRequest} {c : OPClient}
    (hcap : p.deviceCap = true) (hfind : p.p.store.clients.find? (·.id == r.clientID) = some c)
    (hgrant : Const.GrantTypeDeviceCode ∈ c.grants) (hpp : properlyPresented c (presentedOf r) = true)
    (hid : r.clientID ≠ "") (hcode : r.PostForm.DeviceCode ≠ "") :
    deviceToken now rt p r =
      match CheckDeviceAuthorizationState now r.clientID r.PostForm.DeviceCode p with
      | .error e => .error e
      | .ok st => .ok (issueOf p st c) := by
  have hgc : p.p.store.GetClientByClientID r.clientID = .ok c := Store.getClient_ok_iff.2 hfind
  cases rt with
  | provider =>
    obtain ⟨a, hcid, hauth⟩ : ∃ a, Hand.ClientIDFromRequest now r p = .ok (r.clientID, a) ∧
        ¬(a = false ∧ c.auth ≠ Const.AuthMethodNone) := by
      rcases properlyPresented_cases hpp with ⟨ha, hk⟩ | ⟨ha, hk, hs⟩
      · exact ⟨false, by simp [Hand.ClientIDFromRequest, hk, hid], by simp [ha]⟩
      · have hsec := Store.authSecret_ok_iff.2 ⟨c, hfind, Or.inl ha, hs.symm⟩
        have hnp : (c.auth == Const.AuthMethodPost) = false := by rw [ha]; decide
        refine ⟨true, ?_, by simp⟩
        cases hps : p.p.postSupported <;> simp [Hand.ClientIDFromRequest, hk, hsec, hps, hgc, hnp]
    simp only [deviceToken, DevProvider.GrantTypeDeviceCodeSupported, hcap, deviceAccessToken_eq, deviceAccessTokenSpec, hcid, hgc,
      hauth, Bool.not_true, Bool.false_eq_true, if_false]
    rfl
  | legacy =>
    have hwc := withClient_legit (now := now) (p := p.p) (g := Const.GrantTypeDeviceCode) (by decide) hfind (Or.inr hgrant) hpp hid
    simp only [deviceToken, hwc, hcode, beq_iff_eq, if_false, legacyDeviceToken_eq, legacyDeviceTokenSpec, hcap, Store.find_id hfind]
    rfl

theorem legit_facts {s : St} {r : DevHttpRequest} (h : legit (abs s) (presentedOf r) = true) :
    s.prov.deviceCap = true ∧ r.clientID ≠ "" ∧ ∃ c, s.prov.p.store.clients.find? (·.id == r.clientID) = some c ∧
      Const.GrantTypeDeviceCode ∈ c.grants ∧ properlyPresented c (presentedOf r) = true := by
  unfold legit at h
  simp only [Bool.and_eq_true, abs, absCfg, presentedOf, bne_iff_ne, ne_eq] at h
  obtain ⟨⟨hcap, hid⟩, hm⟩ := h
  split at hm
  · rename_i c hc
    simp only [Bool.and_eq_true, List.contains_iff_mem] at hm
    exact ⟨hcap, hid, c, hc, hm.1, hm.2⟩
  · simp at hm

/-- every error answer of the model to a device-code poll is the one the property names (both routers, all states) -/
theorem poll_error_ok {now : Int} {s : St} {r : DevHttpRequest} {f : Option String} {e : String}
    (h : deviceToken now s.router { s.prov with fault := f } r = .error e) :
    judgePoll (abs s) now (presentedOf r) r.PostForm.DeviceCode (faultOf f) (.error (oauthCode e) 400) = none := by
  unfold judgePoll
  by_cases hl : (!legit (abs s) (presentedOf r) || r.PostForm.DeviceCode == "") = true
  · simp [hl]
  simp only [Bool.or_eq_true, Bool.not_eq_true', beq_iff_eq, not_or, Bool.not_eq_false] at hl
  obtain ⟨hcap, hid, c, hfind, hgrant, hpp⟩ := legit_facts hl.1
  -- for the initiating client the answer is that of the state check
  rw [deviceToken_legit (p := { s.prov with fault := f }) hcap hfind hgrant hpp hid hl.2, c16_order] at h
  simp only [hcap, DevProvider.Storage, DevStore.GetDeviceAuthorizatonState] at h
  have hd : (abs s).devs.find? (·.code == r.PostForm.DeviceCode) =
      (s.prov.devices.find? (·.deviceCode == r.PostForm.DeviceCode)).map absDev := find_absDev _ _
  rw [hd]
  cases f with
  | some fe => by_cases hde : fe = Const.DeadlineExceeded <;> simp [hde] at h <;> subst h <;> simp [hl, faultOf, hde, oauthCode]
  | none =>
    cases hfd : s.prov.devices.find? (·.deviceCode == r.PostForm.DeviceCode) with
    | none => simp [hl, faultOf]
    | some en =>
      simp only [hfd] at h
      by_cases hown : en.state.ClientID = r.clientID
      · by_cases hden : en.state.Denied = true
        · simp [hown, hden] at h; subst h; simp [hl, faultOf, absDev, presentedOf, hown, hden, oauthCode]
        · by_cases hdone : en.state.Done = true
          · simp [hown, hden, hdone] at h
          · by_cases hexp : now > en.state.Expires <;> simp [hown, hden, hdone, hexp] at h <;> subst h <;>
              simp [hl, faultOf, absDev, presentedOf, hown, hden, hdone, hexp, oauthCode]
      · simp [hl, faultOf, absDev, presentedOf, hown]

theorem create_ok {now : Int} {req : DevFormData} {cid : String} {o : DevProvider} {resp : DeviceAuthorizationResponse}
    (h : Hand.createDeviceAuthorization now req cid o = .ok resp) :
    ∃ uc, NewUserCode o.cfg.UserCode.CharSet o.cfg.UserCode.CharAmount o.cfg.UserCode.DashInterval o.rnd.indices = some uc ∧
      (o.devices.any (·.userCode == String.ofList uc)) = false ∧
      resp = { DeviceCode := NewDeviceCode o.rnd.bytes, UserCode := String.ofList uc,
               VerificationURI := o.p.issuer ++ o.cfg.UserFormPath,
               VerificationURIComplete := o.p.issuer ++ o.cfg.UserFormPath ++ "?" ++ devEncodeQuery "user_code" (String.ofList uc),
               ExpiresIn := o.cfg.Lifetime / Go.second, Interval := o.cfg.PollInterval / Go.second,
               clientID := cid, scopes := req.Scopes, expires := now + o.cfg.Lifetime } := by
  unfold Hand.createDeviceAuthorization at h
  split at h; · simp at h
  simp only at h
  split at h; · simp at h
  rename_i uc huc
  split at h; · simp at h
  split at h; · simp at h
  rename_i hdup
  simp only [Except.ok.injEq] at h
  exact ⟨uc, huc, by simpa using hdup, h.symm⟩

/-- the only way createDeviceAuthorization "panics" is an index outside the alphabet (or a wrong number of draws) -/
theorem create_panic {now : Int} {req : DevFormData} {cid : String} {o : DevProvider}
    (h : Hand.createDeviceAuthorization now req cid o = .error "panic") :
    NewUserCode o.cfg.UserCode.CharSet o.cfg.UserCode.CharAmount o.cfg.UserCode.DashInterval o.rnd.indices = none := by
  unfold Hand.createDeviceAuthorization at h
  split at h; · simp at h
  simp only at h
  split at h
  · assumption
  · split at h; · simp at h
    split at h <;> simp at h

theorem clientIDFromRequest_ne_panic (now : Int) (r : DevHttpRequest) (p : DevProvider) :
    Hand.ClientIDFromRequest now r p ≠ .error "panic" := by
  unfold Hand.ClientIDFromRequest
  repeat' split
  all_goals simp

theorem getClient_ne_panic (s : Store) (id : String) : s.GetClientByClientID id ≠ .error "panic" := by
  unfold Store.GetClientByClientID
  split <;> simp

theorem deviceAuthorization_cases {now : Int} {rt : Flow.Router} {p : DevProvider} {r : DevHttpRequest} :
    (∀ resp, deviceAuthorization now rt p r = .ok resp →
        ∃ req, req.Scopes = r.Form.Scopes ∧ Hand.createDeviceAuthorization now req r.clientID p = .ok resp) ∧
    (deviceAuthorization now rt p r = .error "panic" →
        ∃ req, Hand.createDeviceAuthorization now req r.clientID p = .error "panic") := by
  -- the endpoint refuses with an error of its own, or is createDeviceAuthorization for the presented client id
  have key : (∃ e, e ≠ "panic" ∧ deviceAuthorization now rt p r = .error e) ∨
      ∃ req, req.Scopes = r.Form.Scopes ∧ deviceAuthorization now rt p r = Hand.createDeviceAuthorization now req r.clientID p := by
    cases rt with
    | provider =>
      simp only [deviceAuthorization, deviceAuthorization_eq, deviceAuthorizationSpec, parseDeviceCodeRequestSpec]
      cases hcid : Hand.ClientIDFromRequest now r p with
      | error e => exact .inl ⟨e, fun he => clientIDFromRequest_ne_panic now r p (he ▸ hcid), rfl⟩
      | ok v =>
        obtain ⟨id, a⟩ := v
        obtain rfl := (clientIDFromRequest_ok hcid).1
        simp only []
        cases hgc : p.p.store.GetClientByClientID r.clientID with
        | error e => exact .inl ⟨e, fun he => getClient_ne_panic _ _ (he ▸ hgc), rfl⟩
        | ok c =>
          by_cases hvg : Const.GrantTypeDeviceCode ∈ c.grants
          · exact .inr ⟨{ r.Form with ClientID := r.clientID }, rfl, by simp [hvg]⟩
          · exact .inl ⟨"ErrUnauthorizedClient", by simp, by simp [hvg]⟩
    | legacy =>
      simp only [deviceAuthorization]
      cases hwc : Flow.withClient now p.p "" (ccOf r) false with
      | error e => exact .inl ⟨e, withClient_error_ne_panic (by decide) (ccOf_assertionType r) hwc, rfl⟩
      | ok c =>
        obtain ⟨hid, hc, _, _⟩ := withClient_ok (by decide) (ccOf_assertionType r) hwc
        have hcid : c.id = r.clientID := by rw [← (ccOf_creds hid).1]; exact Store.find_id hc
        simp only [legacyDeviceAuthorization_eq, legacyDeviceAuthorizationSpec, hcid]
        by_cases hvg : Const.GrantTypeDeviceCode ∈ c.grants
        · exact .inr ⟨r.Form, rfl, by simp [hvg]⟩
        · exact .inl ⟨"ErrUnauthorizedClient", by simp, by simp [hvg]⟩
  rcases key with ⟨e, he, h⟩ | ⟨req, hreq, h⟩ <;> rw [h]
  · exact ⟨fun _ h' => (nomatch h'), fun h' => absurd (Except.error.inj h') he⟩
  · exact ⟨fun resp h' => ⟨req, hreq, h'⟩, fun h' => ⟨req, h'⟩⟩

/-- the response of the model to an accepted device_authorization request satisfies the monitor: formats, URIs, lifetime -/
theorem auth_response_ok {now : Int} {s : St} {req : DevFormData} {cid : String} {rnd : DevRandom} {resp : DeviceAuthorizationResponse}
    (hcfg : GoodCfg s.prov)
    (hb : rnd.bytes.length = 16) (hr : ∀ k ∈ rnd.indices, k < s.prov.cfg.UserCode.CharSet.length)
    (hfresh : ∀ e ∈ s.prov.devices, e.deviceCode ≠ NewDeviceCode rnd.bytes)
    (h : Hand.createDeviceAuthorization now req cid { s.prov with rnd := rnd, fault := none } = .ok resp) :
    judgeAuth (abs s) now (.ok (authRespOf resp)) = none := by
  obtain ⟨uc, huc, _, hresp⟩ := create_ok h
  simp only at huc hresp
  obtain ⟨uc', huc', hok⟩ := userCode_wellformed s.prov.cfg.UserCode.CharSet s.prov.cfg.UserCode.CharAmount
    s.prov.cfg.UserCode.DashInterval rnd.indices (newUserCode_some.1 huc).1 hr
  rw [huc] at huc'; cases huc'
  subst hresp
  unfold judgeAuth
  simp only [authRespOf, abs, absCfg]
  have h1 : deviceCodeOK 16 (NewDeviceCode rnd.bytes).toList = true := by
    have := deviceCode_wellformed rnd.bytes
    rw [hb] at this
    simpa [NewDeviceCode] using this
  have h2 : (List.map absDev s.prov.devices).any (fun d => d.code == NewDeviceCode rnd.bytes) = false := by
    rw [List.any_eq_false]
    intro d hd
    obtain ⟨e, he, rfl⟩ := List.mem_map.1 hd
    simpa [absDev] using hfresh e he
  have h3 : userCodeOK s.prov.cfg.UserCode.CharSet s.prov.cfg.UserCode.CharAmount s.prov.cfg.UserCode.DashInterval
      (String.ofList uc).toList = true := by simpa using hok
  have h4 := c16_uris_string (s.prov.p.issuer ++ s.prov.cfg.UserFormPath) (String.ofList uc)
  have hsec : s.prov.cfg.Lifetime / Go.second * Go.second = s.prov.cfg.Lifetime :=
    Int.ediv_mul_cancel (Int.dvd_of_emod_eq_zero hcfg.lifetime)
  have h5 : (now + s.prov.cfg.Lifetime - (now + s.prov.cfg.Lifetime / Go.second * Go.second)).natAbs = 0 := by
    rw [hsec]; simp
  simp only [h1, h2, h3, h4, h5, Bool.not_true, Bool.false_eq_true, ↓reduceIte, bne_self_eq_false]
  decide

theorem step_frame (s : St) (op : Op) :
    (step s op).1.router = s.router ∧ (step s op).1.prov.p = s.prov.p ∧ (step s op).1.prov.cfg = s.prov.cfg ∧
      (step s op).1.prov.deviceCap = s.prov.deviceCap ∧ (step s op).1.prov.userinfoSubject = s.prov.userinfoSubject := by
  cases op with
  | auth now r rnd =>
    simp only [step]
    split <;> simp [addDevice]
  | approve code subject authTime => simp [step, mapDevice]
  | deny code => simp [step, mapDevice]
  | expire code expires => simp [step, mapDevice]
  | poll now r f =>
    simp only [step]
    split <;> simp

theorem goodCfg_step {s : St} (op : Op) (h : GoodCfg s.prov) : GoodCfg (step s op).1.prov := by
  obtain ⟨_, _, hc, _, hu⟩ := step_frame s op
  exact ⟨by rw [hc]; exact h.lifetime⟩

theorem abs_mapDevice (s : St) (code : String) (f : DeviceAuthorizationState → DeviceAuthorizationState) (g : Dev → Dev)
    (hfg : ∀ e : DeviceEntry, absDev { e with state := f e.state } = g (absDev e)) :
    abs { s with prov := mapDevice s.prov code f } =
      { abs s with devs := (abs s).devs.map fun d => if d.code == code then g d else d } := by
  simp only [abs, mapDevice, absCfg, List.map_map]
  congr 1
  apply List.map_congr_left
  intro e _
  simp only [Function.comp]
  by_cases h : e.deviceCode == code
  · have hc : (absDev e).code = e.deviceCode := rfl
    simp only [h, ↓reduceIte, hc]
    exact hfg e
  · have hc : (absDev e).code = e.deviceCode := rfl
    simp only [h, hc]
    rfl

/-- the observer's bookkeeping follows the model's storage -/
theorem abs_step (s : St) (op : Op) :
    abs (step s op).1 = update (abs s) (eventOf op (step s op).2) := by
  cases op with
  | auth now r rnd =>
    simp only [step]
    cases hda : deviceAuthorization now s.router { s.prov with rnd := rnd, fault := none } r with
    | error e =>
      simp only [eventOf]
      split <;> simp [update]
    | ok resp =>
      obtain ⟨req, hreq, hc⟩ := deviceAuthorization_cases.1 resp hda
      obtain ⟨uc, _, _, hresp⟩ := create_ok hc
      simp only at hresp
      simp only [eventOf, update, abs, addDevice, absCfg, List.map_append, List.map_cons, List.map_nil, authRespOf, presentedOf]
      subst hresp
      simp [absDev, hreq]
  | approve code subject authTime =>
    simp only [step, eventOf, update]
    exact abs_mapDevice s code _ (fun d => { d with approvedBy := some subject }) (fun e => by simp [absDev])
  | deny code =>
    simp only [step, eventOf, update]
    exact abs_mapDevice s code _ (fun d => { d with denied := true }) (fun e => by simp [absDev])
  | expire code expires =>
    simp only [step, eventOf, update]
    exact abs_mapDevice s code _ (fun d => { d with expires := expires }) (fun e => by simp [absDev])
  | poll now r f =>
    simp only [step]
    split <;> simp [eventOf, update]

theorem judge_step {s : St} (op : Op) (hcfg : GoodCfg s.prov) (hop : GoodOp s op) :
    judge (abs s) (eventOf op (step s op).2) = none := by
  cases op with
  | auth now r rnd =>
    obtain ⟨hb, hl, hr, hfresh⟩ := hop
    simp only [step]
    cases hda : deviceAuthorization now s.router { s.prov with rnd := rnd, fault := none } r with
    | error e =>
      simp only [eventOf, judge]
      by_cases hp : e = "panic"
      · subst hp
        obtain ⟨req, hc⟩ := deviceAuthorization_cases.2 hda
        have hnone := create_panic hc
        simp only at hnone
        obtain ⟨uc, huc, _⟩ := userCode_wellformed s.prov.cfg.UserCode.CharSet s.prov.cfg.UserCode.CharAmount
          s.prov.cfg.UserCode.DashInterval rnd.indices hl hr
        rw [hnone] at huc; cases huc
      · simp [hp, judgeAuth]
    | ok resp =>
      obtain ⟨req, _, hc⟩ := deviceAuthorization_cases.1 resp hda
      simp only [eventOf, judge]
      exact auth_response_ok hcfg hb hr hfresh hc
  | approve code subject authTime => rfl
  | deny code => rfl
  | expire code expires => rfl
  | poll now r f =>
    simp only [step]
    cases hdt : deviceToken now s.router { s.prov with fault := f } r with
    | error e => simp only [eventOf, judge]; exact poll_error_ok hdt
    | ok i => simp only [eventOf, judge]; exact poll_tokens_sound hdt

/-- **C16, history level.** For every history of device_authorization / approve / deny / expire / poll operations by any clients
    with any presentations, on both routers, for EVERY user-code configuration (any alphabet - reserved URL characters and non-ASCII
    text included -, amount, dash interval): the reference monitor accepts every response of the model.
    (Hypotheses: `GoodCfg` - whole-second lifetime; `Good` - what crypto/rand delivers, incl. non-colliding device codes.) -/
theorem c16_state_machine (ops : List Op) : ∀ (s : St), GoodCfg s.prov → Good s ops →
    ∀ v ∈ judgeAll (abs s) (trace s ops), v = none := by
  induction ops with
  | nil => intro s _ _ v hv; simp [trace, judgeAll] at hv
  | cons op rest ih =>
    intro s hcfg hgood v hv
    simp only [trace, judgeAll, List.mem_cons] at hv
    rcases hv with rfl | hv
    · exact judge_step op hcfg hgood.1
    · rw [← abs_step s op] at hv
      exact ih (step s op).1 (goodCfg_step op hcfg) hgood.2 v hv

def demoClients : List OPClient :=
  [{ id := "tv", secret := "s3cret", app := 0, auth := "client_secret_basic", grants := [Const.GrantTypeDeviceCode] },
   { id := "cli", app := 2, auth := "none", grants := [Const.GrantTypeDeviceCode] }]
def demoState (rt : Flow.Router) : St :=
  { router := rt,
    prov := { p := { store := { clients := demoClients }, issuer := "https://op.example" },
              cfg := { UserCode := { CharSet := "AB".toList, CharAmount := 2, DashInterval := 1 } } } }
def tvReq (code : String) : DevHttpRequest :=
  { authKind := "basic", clientID := "tv", clientSecret := "s3cret", Form := { Scopes := ["openid"] }, PostForm := { DeviceCode := code } }
def cliReq (code : String) : DevHttpRequest :=
  { authKind := "id-only", clientID := "cli", Form := { ClientID := "cli" }, PostForm := { ClientID := "cli", DeviceCode := code } }
/-- non-vacuity: a history in which a confidential client gets its tokens after approval, is refused after a denial, and a
    public client cannot redeem the confidential client's code -/
def demoOps : List Op :=
  [.auth 1000 (tvReq "") { bytes := List.replicate 16 0, indices := [0, 1] },
   .poll 2000 (tvReq "AAAAAAAAAAAAAAAAAAAAAA") none,
   .poll 2500 (cliReq "AAAAAAAAAAAAAAAAAAAAAA") none,
   .approve "AAAAAAAAAAAAAAAAAAAAAA" "user1" 3,
   .poll 3000 (tvReq "AAAAAAAAAAAAAAAAAAAAAA") none,
   .deny "AAAAAAAAAAAAAAAAAAAAAA",
   .poll 4000 (tvReq "AAAAAAAAAAAAAAAAAAAAAA") none]

/-- the demo history is in the domain of `c16_state_machine` (both routers) -/
example (rt : Flow.Router) : GoodCfg (demoState rt).prov := by
  cases rt <;> exact ⟨by decide⟩
example (rt : Flow.Router) : Good (demoState rt) demoOps := by
  cases rt <;> exact ⟨⟨by decide, by decide, by decide, by decide⟩, trivial, trivial, trivial, trivial, trivial, trivial, trivial⟩

/-- an alphabet of reserved URL characters is in the domain as well: the response to the device_authorization request is accepted -/
def demoReserved (rt : Flow.Router) : St :=
  { demoState rt with prov := { (demoState rt).prov with cfg := { UserCode := { CharSet := "&%+# =".toList, CharAmount := 3, DashInterval := 0 } } } }
def demoReservedOps : List Op := [.auth 1000 (tvReq "") { bytes := List.replicate 16 0, indices := [0, 1, 3] }]
example (rt : Flow.Router) : ∀ v ∈ judgeAll (abs (demoReserved rt)) (trace (demoReserved rt) demoReservedOps), v = none :=
  c16_state_machine demoReservedOps (demoReserved rt) (by cases rt <;> exact ⟨by decide⟩)
    (by cases rt <;> exact ⟨⟨by decide, by decide, by decide, by decide⟩, trivial⟩)

/-- a state with one stored device authorization of the confidential client `tv` -/
def demoDevice : DeviceEntry := { deviceCode := "dc1", userCode := "A-B", state := { ClientID := "tv", Scopes := ["openid"], Expires := 9000 } }
def demoStored (rt : Flow.Router) (uis : Bool) : St :=
  { demoState rt with prov := { (demoState rt).prov with userinfoSubject := uis, devices := [demoDevice] } }

def tag : Out → String
  | .authOk _ => "authOk"
  | .done => "done"
  | .issued i => i.state.Subject
  | .error e => e

/-- the response to the device_authorization request of `demoReservedOps` is a success on both routers -/
example : ((run (demoReserved .provider) demoReservedOps).2.map tag) = ["authOk"] := by decide +kernel
example : ((run (demoReserved .legacy) demoReservedOps).2.map tag) = ["authOk"] := by decide +kernel

def storedOps : List Op :=
  [.poll 2000 (tvReq "dc1") none, .poll 2500 (cliReq "dc1") none, .poll 2600 (tvReq "dc1") (some Const.DeadlineExceeded),
   .approve "dc1" "user1" 3, .poll 3000 (tvReq "dc1") none, .poll 9500 (tvReq "dc1") none,
   .deny "dc1", .poll 4000 (tvReq "dc1") none]

/-- pending, another client, time-out, tokens after approval (also after expiry), refusal after denial - on both routers -/
example : (run (demoStored .provider true) storedOps).2.map tag =
    ["ErrAuthorizationPending", "ErrAccessDenied", "ErrSlowDown", "done", "user1", "user1", "done", "ErrAccessDenied"] := by decide +kernel
example : (run (demoStored .legacy true) storedOps).2.map tag =
    ["ErrAuthorizationPending", "ErrAccessDenied", "ErrSlowDown", "done", "user1", "user1", "done", "ErrAccessDenied"] := by decide +kernel

/-- the monitor is not trivially satisfied: tokens before approval are flagged -/
example : judgePoll (abs (demoStored .provider true)) 2000 { kind := "basic", clientID := "tv", secret := "s3cret" }
    "dc1" .none (.tokens { subject := "user1", client := "tv", scopes := ["openid"], audience := ["tv"] })
    = some "tokens-before-approval" := by decide +kernel

/-- also where the storage leaves `userinfo.Subject` empty (SetUserinfoFromScopes "should have an empty implementation", no
    CanSetUserinfoFromRequest) the ID token of the device grant names the approving user -/
example : judgeAll (abs (demoStored .provider false)) (trace (demoStored .provider false) [.approve "dc1" "user1" 3, .poll 3000 (tvReq "dc1") none])
      = [none, none] := by decide +kernel

end C16
