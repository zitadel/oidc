/-
  C09 — proofs; the module the C09 check builds (vocabulary: Spec/C09.lean, Model/C09.lean, Model/C09Tie.lean; the regenerated
  skeletons and facts: namespace GenC09).
  (A) `post_sound`: the static analysis `post` covers every execution (`Runs`) of every skeleton, for every entry
      state; `wf_traceOK`: a well-formed skeleton answers exactly once on every path and never runs logic after an
      error answer; `all_handlers_wf`: the shape is `decide`d on every skeleton regenerated from pkg/op and
      pkg/http/marshal.go, the two audited leaf writers excepted, whose text is pinned (`*_pinned`);
      `c09_handlers_total_single_response` puts them together.
  (B) `c09_decoders_total`, `c09_verifiers_total`: no JSON value / token makes a decoder or verifier panic;
      `c09_hint_callers_total`: a caller that tolerates a verifier's typed error never goes on with nil claims.
  (C) `c09_client_helpers_total`: no (status, body) makes a client helper panic or return nil without an error.
-/
import OidcModel.Spec.C09
import OidcModel.Model.C09Tie
import OidcModel.Proofs.C09Bounds
import OidcModel.Proofs.C09Fields
import OidcModel.Proofs.C09Asserts

namespace C09


theorem run_bad (tr : List HEv) : run .bad tr = .bad := by
  induction tr with
  | nil => rfl
  | cons e t ih => cases e <;> simpa [run, St.step] using ih

theorem run_cons (s : St) (e : HEv) (t : List HEv) : run s (e :: t) = run (s.step e) t := rfl

theorem run_append (s : St) (a b : List HEv) : run s (a ++ b) = run (run s a) b := by
  simp [run, List.foldl_append]


theorem mem_insertNew {r x : Res} {l : List Res} : x ∈ insertNew r l ↔ x = r ∨ x ∈ l := by
  unfold insertNew
  split
  · rename_i hc
    constructor
    · exact Or.inr
    · rintro (rfl | h')
      · simpa using hc
      · exact h'
  · simp

theorem mem_dedup {x : Res} {l : List Res} : x ∈ dedup l ↔ x ∈ l := by
  induction l with
  | nil => simp [dedup]
  | cons a t ih =>
    have : dedup (a :: t) = insertNew a (dedup t) := rfl
    rw [this, mem_insertNew, ih]; simp

/-! ### from the broken state everything stays broken; every skeleton has a way out -/

theorem post_ne (sk : HSk) : ∀ s, post sk s ≠ [] := by
  induction sk with
  | done => intro s; simp [post]
  | write n e k ih => intro s; simpa [post] using ih _
  | body n k ih => intro s; simpa [post] using ih _
  | logic n k ih => intro s; simpa [post] using ih _
  | ret r => intro s; simp [post]
  | ite a b k iha _ ihk =>
    intro s
    obtain ⟨r, hr⟩ := List.exists_mem_of_ne_nil _ (iha s)
    have hr' : r ∈ dedup (post a s ++ post b s) := mem_dedup.mpr (List.mem_append_left _ hr)
    intro h
    simp only [post] at h
    have hf := List.flatMap_eq_nil_iff.mp h _ hr'
    cases r with
    | fall s' => exact ihk s' hf
    | exit s' x => simp at hf
  | tryW n h k _ ihk =>
    intro s hh
    simp only [post] at hh
    exact ihk _ (List.append_eq_nil_iff.mp hh).1
  | loop b k _ ihk =>
    intro s hh
    simp only [post] at hh
    split at hh
    · exact ihk _ (List.append_eq_nil_iff.mp hh).1
    · exact ihk _ hh

/-- what follows a branch: paths that fell through go on with `k`, the others have left -/
def thenK (k : HSk) (l : List Res) : List Res := l.flatMap fun r => match r with | .fall s' => post k s' | e => [e]

theorem thenK_bad {k : HSk} {l : List Res} (ihk : ∀ r ∈ post k .bad, r.st = .bad) (hl : ∀ q ∈ l, q.st = .bad) :
    ∀ r ∈ thenK k l, r.st = .bad := by
  intro r hr
  obtain ⟨q, hq, hrq⟩ := List.mem_flatMap.mp hr
  have hqb := hl q hq
  cases q with
  | fall s' => simp only [Res.st] at hqb; subst hqb; exact ihk r hrq
  | exit s' x => simp at hrq; subst hrq; exact hqb

theorem post_bad (sk : HSk) : ∀ r ∈ post sk .bad, r.st = .bad := by
  induction sk with
  | done => intro r hr; simp [post] at hr; subst hr; rfl
  | write n e k ih => intro r hr; simp only [post, St.step] at hr; exact ih r hr
  | body n k ih => intro r hr; simp only [post, St.step] at hr; exact ih r hr
  | logic n k ih => intro r hr; simp only [post, St.step] at hr; exact ih r hr
  | ret x => intro r hr; simp [post] at hr; subst hr; rfl
  | ite a b k iha ihb ihk =>
    intro r hr
    simp only [post] at hr
    exact thenK_bad ihk (fun q hq => (List.mem_append.mp (mem_dedup.mp hq)).elim (iha q) (ihb q)) r hr
  | tryW n h k ihh ihk =>
    intro r hr
    simp only [post, St.step] at hr
    rcases List.mem_append.mp hr with h1 | h2
    · exact ihk r h1
    · exact thenK_bad ihk (fun q hq => ihh q (mem_dedup.mp hq)) r h2
  | loop b k ihb ihk =>
    intro r hr
    simp only [post] at hr
    split at hr
    · rcases List.mem_append.mp hr with h1 | h2
      · exact ihk r h1
      · exact ihb r (mem_dedup.mp (List.mem_filter.mp h2).1)
    · exact ihk r hr

theorem post_bad_witness (sk : HSk) : ∃ r ∈ post sk .bad, r.st = .bad := by
  obtain ⟨r, hr⟩ := List.exists_mem_of_ne_nil _ (post_ne sk .bad)
  exact ⟨r, hr, post_bad sk r hr⟩


/-- the analysis accounts for the execution: its result is listed, or the analysis already reports a broken path -/
def Covered (sk : HSk) (s : St) (tr : List HEv) (o : Option HRet) : Prop :=
  Res.mk (run s tr) o ∈ post sk s ∨ ∃ r ∈ post sk s, r.st = .bad

/-- the same for any list the analysis may hold at a point: the outcome is in it, or it already holds a broken path -/
def Cov (l : List Res) (r : Res) : Prop := r ∈ l ∨ ∃ q ∈ l, q.st = .bad

theorem Cov.mono {l l' : List Res} {r : Res} (h : Cov l r) (hs : ∀ x ∈ l, x ∈ l') : Cov l' r :=
  h.imp (hs r) fun ⟨q, hq, hb⟩ => ⟨q, hs q hq, hb⟩

theorem Cov.bad {k : HSk} {l : List Res} {q r : Res} (hq : q ∈ l) (hb : q.st = .bad) : Cov (thenK k l) r := by
  cases q with
  | fall s' =>
    simp only [Res.st] at hb; subst hb
    obtain ⟨x, hx, hxb⟩ := post_bad_witness k
    exact Or.inr ⟨x, List.mem_flatMap.mpr ⟨_, hq, hx⟩, hxb⟩
  | exit s' x => exact Or.inr ⟨_, List.mem_flatMap.mpr ⟨_, hq, by simp⟩, hb⟩

theorem Cov.exit {k : HSk} {l : List Res} {s : St} {x : HRet} (h : Cov l (.exit s x)) : Cov (thenK k l) (.exit s x) := by
  rcases h with h | ⟨q, hq, hb⟩
  · exact Or.inl (List.mem_flatMap.mpr ⟨_, h, by simp⟩)
  · exact Cov.bad hq hb

theorem Cov.fall {k : HSk} {l : List Res} {s' : St} {r : Res} (h : Cov l (.fall s')) (hk : Cov (post k s') r) : Cov (thenK k l) r := by
  rcases h with h | ⟨q, hq, hb⟩
  · exact hk.mono fun x hx => List.mem_flatMap.mpr ⟨_, h, hx⟩
  · exact Cov.bad hq hb

/-- inside a loop whose iterations keep the observer state, a broken outcome of the body shows in what the analysis lists -/
theorem Cov.loop_bad {k : HSk} {rs : List Res} {s : St} {q r : Res} (hq : q ∈ rs) (hb : q.st = .bad)
    (hall : rs.all (fun r => match r with | .fall s' => s' == s | .exit .. => true) = true) :
    Cov (post k s ++ rs.filter Res.isExit) r := by
  have := List.all_eq_true.mp hall _ hq
  cases q with
  | fall s' =>
    simp only [beq_iff_eq] at this
    simp only [Res.st] at hb
    subst this; subst hb
    obtain ⟨x, hx, hxb⟩ := post_bad_witness k
    exact Or.inr ⟨x, List.mem_append_left _ hx, hxb⟩
  | exit s' x => exact Or.inr ⟨_, List.mem_append_right _ (List.mem_filter.mpr ⟨hq, rfl⟩), hb⟩

theorem post_sound {sk : HSk} {tr : List HEv} {o : Option HRet} (h : Runs sk tr o) : ∀ s, Covered sk s tr o := by
  have dd : ∀ {l : List Res} {r}, Cov l r → Cov (dedup l) r := fun h => Cov.mono h fun _ => mem_dedup.mpr
  induction h with
  | done => intro s; exact Or.inl (by simp [post, run, Res.mk])
  | write _ ih => intro s; simpa [Covered, post, run_cons] using ih (s.step _)
  | body _ ih => intro s; simpa [Covered, post, run_cons] using ih (s.step _)
  | logic _ ih => intro s; simpa [Covered, post, run_cons] using ih (s.step _)
  | ret => intro s; exact Or.inl (by simp [post, run, Res.mk])
  | iteL_fall _ _ iha ihk =>
    intro s; simp only [Covered, post, run_append]
    exact Cov.fall (dd (Cov.mono (iha s) fun _ => List.mem_append_left _)) (ihk _)
  | iteL_exit _ iha =>
    intro s; simp only [Covered, post]
    exact Cov.exit (dd (Cov.mono (iha s) fun _ => List.mem_append_left _))
  | iteR_fall _ _ ihb ihk =>
    intro s; simp only [Covered, post, run_append]
    exact Cov.fall (dd (Cov.mono (ihb s) fun _ => List.mem_append_right _)) (ihk _)
  | iteR_exit _ ihb =>
    intro s; simp only [Covered, post]
    exact Cov.exit (dd (Cov.mono (ihb s) fun _ => List.mem_append_right _))
  | try_ok _ ihk =>
    intro s; simp only [Covered, post, run_cons]
    exact Cov.mono (ihk (s.step (.wr false))) fun _ => List.mem_append_left _
  | try_fall _ _ ihh ihk =>
    intro s; simp only [Covered, post, run_append]
    exact Cov.mono (Cov.fall (dd (ihh s)) (ihk _)) fun _ => List.mem_append_right _
  | try_exit _ ihh =>
    intro s; simp only [Covered, post]
    exact Cov.mono (Cov.exit (dd (ihh s))) fun _ => List.mem_append_right _
  | loop_end _ ihk =>
    intro s; simp only [Covered, post]
    split
    · exact Cov.mono (ihk s) fun _ => List.mem_append_left _
    · exact Or.inr (post_bad_witness _)
  | loop_iter _ _ ihb ihl =>
    intro s
    have hl := ihl s
    simp only [Covered, post, run_append] at hl ⊢
    split
    · rename_i hall
      simp only [hall, if_true] at hl
      rcases ihb s with h1 | ⟨q, hq, hb⟩
      · -- the iteration fell through in the state it started in
        have := List.all_eq_true.mp hall _ (mem_dedup.mpr h1)
        simp only [Res.mk, beq_iff_eq] at this
        rw [this]; exact hl
      · exact Cov.loop_bad (mem_dedup.mpr hq) hb hall
    · exact Or.inr (post_bad_witness _)
  | loop_exit _ ihb =>
    intro s; simp only [Covered, post]
    split
    · rename_i hall
      rcases ihb s with h1 | ⟨q, hq, hb⟩
      · exact Or.inl (List.mem_append_right _ (List.mem_filter.mpr ⟨mem_dedup.mpr h1, by simp [Res.mk, Res.isExit]⟩))
      · exact Cov.loop_bad (mem_dedup.mpr hq) hb hall
    · exact Or.inr (post_bad_witness _)
theorem resOK_not_bad {r : Res} (h : resOK r = true) : r.st ≠ .bad := by
  cases r with
  | fall s => cases s <;> simp_all [resOK, exitOK, Res.st]
  | exit s x => cases s <;> cases x <;> simp_all [resOK, exitOK, Res.st]

/-- a well-formed skeleton: every execution leaves the observer in an accepting state -/
theorem wf_resOK {sk : HSk} (hwf : wf sk = true) {tr : List HEv} {o : Option HRet} (h : Runs sk tr o) :
    resOK (Res.mk (run .w0 tr) o) = true := by
  have hall := List.all_eq_true.mp hwf
  rcases post_sound h .w0 with h1 | ⟨r, hr, hb⟩
  · exact hall _ h1
  · exact absurd hb (resOK_not_bad (hall _ hr))

/-! ### the observer automaton is the counting monitor of the Spec -/

def cnt : St → Nat | .w0 => 0 | .wok => 1 | .werr => 1 | .bad => 2
def com (s : St) : Bool := cnt s == 1
def errd : St → Bool | .werr => true | _ => false

/-- one event moves the observer's count and error flag as the Spec's counters move -/
theorem step_counts (s : St) (e : HEv) (t : List HEv) (h : s.step e ≠ .bad) :
    cnt s + commitsFrom (com s) (e :: t) = cnt (s.step e) + commitsFrom (com (s.step e)) t ∧
    logicAfterErrFrom (errd s) (e :: t) = logicAfterErrFrom (errd (s.step e)) t := by
  cases s <;> cases e <;> (try rename_i b; cases b) <;> simp_all [St.step, cnt, com, errd, commitsFrom, logicAfterErrFrom] <;> omega

theorem run_counts : ∀ (tr : List HEv) (s : St), run s tr ≠ .bad →
    cnt s + commitsFrom (com s) tr = cnt (run s tr) ∧ logicAfterErrFrom (errd s) tr = 0 := by
  intro tr
  induction tr with
  | nil => intro s _; simp [run, commitsFrom, logicAfterErrFrom]
  | cons e t ih =>
    intro s hrun
    rw [run_cons] at hrun ⊢
    obtain ⟨h1, h2⟩ := step_counts s e t fun h => hrun (by rw [h, run_bad])
    obtain ⟨i1, i2⟩ := ih (s.step e) hrun
    exact ⟨by omega, by rw [h2, i2]⟩

theorem traceOK_of_resOK {tr : List HEv} {o : Option HRet} (h : resOK (Res.mk (run .w0 tr) o) = true) :
    traceOK tr o = true := by
  have hnb : run .w0 tr ≠ .bad := by
    have := resOK_not_bad h
    cases o <;> simpa [Res.mk, Res.st] using this
  obtain ⟨hc, hl⟩ := run_counts tr .w0 hnb
  simp only [cnt, com, errd] at hc hl
  simp only [traceOK, obsOfTrace, hl]
  cases o with
  | none =>
    cases hfin : run .w0 tr <;> simp_all [Res.mk, resOK, exitOK]
  | some r =>
    cases hfin : run .w0 tr <;> cases r <;> simp_all [Res.mk, resOK, exitOK]

/-- (A, generic) a skeleton of the well-formed shape answers exactly once on every path — all branch outcomes, i.e. all
    requests and all answers of storage and oracles — and runs no logic after an error answer; where the function hands
    an error back to its caller instead, it has written nothing -/
theorem wf_traceOK {sk : HSk} (hwf : wf sk = true) {tr : List HEv} {o : Option HRet} (h : Runs sk tr o) :
    traceOK tr o = true :=
  traceOK_of_resOK (wf_resOK hwf h)

/-- the recorder's monitor accepts the observation of every such path -/
theorem wf_handlerOK {sk : HSk} (hwf : wf sk = true) {tr : List HEv} {o : Option HRet} (h : Runs sk tr o)
    (ho : o ≠ some .err) : handlerOK (obsOfTrace tr) = none := by
  have := wf_traceOK hwf h
  simp only [traceOK, ho, if_false, Bool.and_eq_true, beq_iff_eq] at this
  obtain ⟨h1, h2⟩ := this
  have h0 : (obsOfTrace tr).panic = false := rfl
  simp [handlerOK, h0, h1, h2]

/-! ### (A) the regenerated skeletons have the shape -/

/-- every function of pkg/op and pkg/http/marshal.go that receives the ResponseWriter has the well-formed shape, except the two audited leaf writers -/
theorem all_handlers_wf :
    (GenC09.handlers.all fun h => wf h.sk || auditedWriters.contains h.name) = true := by decide +kernel

/-- the two audited leaf writers are exactly the audited code (any edit re-opens the audit) -/
theorem marshalJSONWithStatus_pinned : GenC09.MarshalJSONWithStatus_skeleton = [
    "w.Header().Set(\"content-type\", \"application/json\")",
    "w.WriteHeader(status)",
    "if i == nil || (reflect.ValueOf(i).Kind() == reflect.Ptr && reflect.ValueOf(i).IsNil()) {",
    "return",
    "}",
    "err := json.NewEncoder(w).Encode(i)",
    "if err != nil {",
    "http.Error(w, err.Error(), http.StatusInternalServerError)",
    "}"] := rfl

theorem authResponseFormPost_pinned : GenC09.AuthResponseFormPost_skeleton = [
    "values := make(map[string][]string)",
    "err := encoder.Encode(response, values)",
    "if err != nil {",
    "return oidc.ErrServerError().WithParent(err)",
    "}",
    "params := &struct { RedirectURI string Params any }{ RedirectURI: redirectURI, Params: values, }",
    "var buf bytes.Buffer",
    "err = formPostTmpl.Execute(&buf, params)",
    "if err != nil {",
    "return oidc.ErrServerError().WithParent(err)",
    "}",
    "res.Header().Set(\"Cache-Control\", \"no-store\")",
    "res.WriteHeader(http.StatusOK)",
    "_, err = buf.WriteTo(res)",
    "if err != nil {",
    "return oidc.ErrServerError().WithParent(err)",
    "}",
    "return nil"] := rfl

/-- **C09 (A)**: for every handler function regenerated from the source (both routers), every path through it —
    every request, every storage / oracle answer — commits exactly one response and runs no storage or grant logic after
    an error response (functions that return an error: exactly one response XOR the error, nothing written) -/
theorem c09_handlers_total_single_response :
    ∀ h ∈ GenC09.handlers, h.name ∉ auditedWriters →
      ∀ tr o, Runs h.sk tr o → traceOK tr o = true := by
  intro h hh hna tr o hr
  have := List.all_eq_true.mp all_handlers_wf h hh
  rcases Bool.or_eq_true _ _ |>.mp this with hw | ha
  · exact wf_traceOK hw hr
  · exact absurd (List.contains_iff_mem.mp ha) hna

/-- non-vacuity: a concrete path of the authorization-code handler (parse error answered, then return) … -/
example : Runs GenC09.sk_CodeExchange [.logic, .wr true] (some .none) :=
  .logic (.iteL_exit (.write .ret))
/-- … and the shape predicate rejects a handler that forgets the `return` (the path answers twice) -/
def skMissingReturn : HSk := .logic "Parse" (.ite (.write "RequestError" true .done) .done (.logic "Validate" (.write "MarshalJSON" false .done)))
example : wf skMissingReturn = false := by decide +kernel
example : Runs skMissingReturn [.logic, .wr true, .logic, .wr false] none :=
  .logic (.iteL_fall (.write .done) (.logic (.write .done)))
example : traceOK [.logic, .wr true, .logic, .wr false] none = false := by decide +kernel

/-! ### (B) decoders and verifiers -/

/-- the only single-value type assertion in the library packages is the audited one -/
theorem unchecked_asserts_audited : GenC09.uncheckedAsserts = auditedAsserts := rfl

theorem genFacts_aud : genFacts.audAssertUnchecked = false := by decide +kernel

/-- **C09 (B, decoders)**: every JSON value — null, non-objects, arrays with non-strings, fractional / huge / negative
    numbers, nested containers — is mapped by each tolerant decoder to a value or an error, never to the panic outcome -/
theorem c09_decoders_total (rfc : String → Option Int) (lang : String → Lang) (v : JVal) :
    decodeAudience genFacts v.flat ≠ .panic ∧
    Codec.decodeTime rfc v.flat ≠ .panic ∧
    Codec.decodeBool v.flat ≠ .panic ∧
    Codec.decodeSpaceDelimited v.flat ≠ .panic ∧
    decodeLocale lang v.flat ≠ .panic ∧
    decodeLocales v.flat ≠ .panic := by
  refine ⟨?_, ?_, ?_, ?_, ?_, ?_⟩
  · unfold decodeAudience
    cases v.flat with
    | atom a => cases a <;> simp [Codec.decodeAudience]
    | arr l =>
      simp only [genFacts_aud, Bool.and_false, Bool.false_eq_true, if_false, Codec.decodeAudience]
      split <;> simp
  · cases v.flat with
    | atom a => cases a <;> simp [Codec.decodeTime] <;> (try split) <;> simp
    | arr l => simp [Codec.decodeTime]
  · cases v.flat with
    | atom a =>
      cases a with
      | bool b => cases b <;> simp [Codec.decodeBool]
      | str s => by_cases h : s = "true" <;> simp [Codec.decodeBool, h]
      | _ => simp [Codec.decodeBool]
    | arr l => simp [Codec.decodeBool]
  · cases v.flat with
    | atom a => cases a <;> simp [Codec.decodeSpaceDelimited]
    | arr l => simp [Codec.decodeSpaceDelimited]
  · cases v.flat with
    | atom a =>
      cases a <;> simp [decodeLocale]
      split <;> (try split) <;> simp
    | arr l => simp [decodeLocale]
  · cases v.flat with
    | atom a => cases a <;> simp [decodeLocales]
    | arr l => simp only [decodeLocales]; split <;> simp

theorem membersPanic_false (m : List (String × JVal)) : membersPanic genFacts m = false := by
  unfold membersPanic
  rw [List.any_eq_false]
  intro kv _
  have := (c09_decoders_total (fun _ => none) (fun _ => .ok) kv.2).1
  simp [this]

/-- every decode into the address of a pointer variable is harmless: a ParseToken site because the payload must be an
    object or the possibly-nil target is not used; any other site because it is guarded by a nil test, or the variable is
    neither dereferenced nor handed on nor returned -/
theorem decode_sites_safe :
    (genFacts.sites.all fun s => s.safe genFacts.parseTokenObjectOnly) = true := by decide +kernel

theorem parseToken_sites_safe :
    (genFacts.sites.all fun s => s.decoder != "ParseToken" || s.safe genFacts.parseTokenObjectOnly) = true :=
  List.all_eq_true.mpr fun s hs => by simp [List.all_eq_true.mp decode_sites_safe s hs]

theorem parseToken_no_panic (pp : Bool) (t : Tok) : parseToken genFacts pp t ≠ .panic := by
  unfold parseToken
  (repeat' split) <;> simp_all [membersPanic_false]

theorem parseToken_no_nil (pp : Bool) (t : Tok) (h : genFacts.parseTokenObjectOnly = true) :
    parseToken genFacts pp t ≠ .nilTarget := by
  unfold parseToken
  (repeat' split) <;> simp_all [JVal.isObj]

/-- **C09 (B, verifiers)**: no token — any number of segments, undecodable payload, payload `null`, a non-object,
    an object with members of any type — makes `ParseToken` followed by the verifier's use of the claims panic -/
theorem c09_verifiers_total (fn : String) (t : Tok) : verifyPanics genFacts fn t = false := by
  unfold verifyPanics
  cases hs : genFacts.sites.find? (fun s => s.fn == fn && s.decoder == "ParseToken") with
  | none =>
    simp only [Option.isSome_none]
    cases hp : parseToken genFacts false t <;> simp
    exact absurd hp (parseToken_no_panic _ _)
  | some s =>
    have hmem := List.mem_of_find?_eq_some hs
    have hp := List.find?_some hs
    have hsafe := List.all_eq_true.mp parseToken_sites_safe s hmem
    simp only [Bool.and_eq_true, beq_iff_eq] at hp
    simp only [hp.2, bne_self_eq_false, Bool.false_or, DecodeSite.safe] at hsafe
    simp only [Option.isSome_some]
    cases hpt : parseToken genFacts true t <;> simp
    · exact absurd hpt (parseToken_no_panic _ _)
    · -- the target was left nil: then ParseToken does not insist on objects, so the site must be nil-safe
      cases hoo : genFacts.parseTokenObjectOnly
      · simpa [hoo] using hsafe
      · exact absurd hpt (parseToken_no_nil _ _ hoo)

/-- the result contract, decided on the regenerated return statements and callers: every return of a verifier that its
    callers go on from (the success return; a return wrapping the error as the type a caller lets through —
    `IDTokenHintExpiredError`) hands back the parsed claims, never nil -/
theorem verifier_contract : contractOK genFacts = true := by decide +kernel

/-- **C09 (B, callers of the verifiers)**: whatever check of the verifier refuses the token (or none), a caller that
    tolerates the verifier's typed error never goes on with nil claims -/
theorem c09_hint_callers_total : ∀ c ∈ genFacts.callers, ∀ check : String, callerMayPanic genFacts c check = false := by
  intro c hc check
  have h := verifier_contract
  simp only [contractOK, Bool.and_eq_true, List.all_eq_true] at h
  unfold callerMayPanic
  rw [List.any_eq_false]
  intro r hr
  have := h.1 c hc r hr
  simp only [Bool.not_eq_true'] at this
  simp [this]

/-- the contract is not vacuous: the two callers of `VerifyIDTokenHint` and its three soft-error returns are there … -/
example : genFacts.callers.length = 2 ∧ (genFacts.returns.filter fun r => r.err == "typed").length = 3 := by decide +kernel
/-- … and a verifier that wraps a failed iat check as the tolerated error but returns the zero claims breaks it -/
example : callerMayPanic
    { returns := [{ fn := "op.VerifyIDTokenHint", value := "nilClaims", isTarget := false, err := "typed", errType := "IDTokenHintExpiredError", check := "oidc.CheckIssuedAt", cond := "" }] }
    { fn := "op.ValidateEndSessionRequest", callee := "op.VerifyIDTokenHint", target := "claims", errType := "IDTokenHintExpiredError", guarded := false, derefs := 3, passes := 0 }
    "oidc.CheckIssuedAt" = true := by decide +kernel

/-- no local of pkg/op that is declared without a value and used later gets its value ONLY inside a function literal
    (whether such a local holds a value would depend on which literal ran, as `client` of `op.Authorize` would behind an
    `AuthorizeValidator`) -/
theorem closure_assigned_none : GenC09.closureAssigned = [] := rfl

/-- verifiers and their callers together -/
theorem c09_verifiers_and_callers_total (fn : String) (t : Tok) :
    verifyPanics genFacts fn t = false ∧ ∀ c ∈ genFacts.callers, ∀ check : String, callerMayPanic genFacts c check = false :=
  ⟨c09_verifiers_total fn t, c09_hint_callers_total⟩

/-! ### (C) client helpers -/

theorem nonToken_safe {fn : String} {s : DecodeSite} (h : nonTokenSite genFacts fn = some s) :
    (s.guarded || (s.derefs == 0 && s.passes == 0 && !s.returned)) = true := by
  have hsafe := List.all_eq_true.mp decode_sites_safe s (List.mem_of_find?_eq_some h)
  have hp := List.find?_some h
  simp only [Bool.and_eq_true, bne_iff_ne, ne_eq] at hp
  have hd : (s.decoder == "ParseToken") = false := by simpa using hp.2
  simpa [DecodeSite.safe, hd] using hsafe

theorem nonToken_nilSafe {fn : String} {s : DecodeSite} (h : nonTokenSite genFacts fn = some s) : s.nilSafe = true := by
  have := nonToken_safe h
  simp only [DecodeSite.nilSafe]
  cases hg : s.guarded
  · simp only [hg, Bool.false_or, Bool.and_eq_true] at this
    simp [this.1.1, this.1.2]
  · simp

theorem nullOutcome_ok {fn : String} {s : DecodeSite} (h : nonTokenSite genFacts fn = some s) :
    outcomeOK (nullOutcome s) = none := by
  have := nonToken_safe h
  unfold nullOutcome
  cases hg : s.guarded
  · simp only [hg, Bool.false_or, Bool.and_eq_true, beq_iff_eq, Bool.not_eq_true'] at this
    obtain ⟨⟨h1, h2⟩, h3⟩ := this
    simp [h1, h2, h3, outcomeOK]
  · simp [outcomeOK]

theorem typeNullOutcome_ok (fn : String) : outcomeOK (typeNullOutcome genFacts fn) = none := by
  unfold typeNullOutcome
  split
  · split
    · rename_i s hs
      simp [nonToken_nilSafe hs, outcomeOK]
    · simp [outcomeOK]
  · simp [outcomeOK]

/-- **C09 (C)**: for every client-side helper and every answer of the provider — any status, any body: not JSON at all,
    `null`, arrays, numbers, strings, objects with members of any type — the helper returns a value or an error;
    it never panics and never returns nil without an error -/
theorem c09_client_helpers_total (fn : String) (status : Nat) (body : Option JVal) :
    outcomeOK (helperOutcome genFacts fn status body) = none := by
  unfold helperOutcome
  split
  · split
    · rename_i s heq
      simp [nonToken_nilSafe heq, outcomeOK]
    · simp [outcomeOK]
  · split
    · simp [outcomeOK]
    · split
      · split
        · rename_i s hs
          exact nullOutcome_ok hs
        · exact typeNullOutcome_ok fn
      · simp [outcomeOK]

/-- non-vacuity: an unguarded site (decode into `&discoveryConfig`, then `discoveryConfig.Issuer`)
    is rejected, and the model reproduces the nil dereference on the body `null` -/
def siteUnsafe : DecodeSite :=
  { fn := "client.Discover", decoder := "HttpRequest", target := "discoveryConfig", kind := "ptr", guarded := false, derefs := 1, passes := 0, returned := true }
example : siteUnsafe.safe true = false := by decide +kernel
example : helperOutcome { sites := [siteUnsafe] } "client.Discover" 200 (some .null) = .panic := by decide +kernel
example : helperOutcome genFacts "client.Discover" 200 (some .null) = .ok := by decide +kernel
example : helperOutcome genFacts "rp.Userinfo" 200 (some .null) = .err := by decide +kernel
/-- … and a payload `null` panics a verifier when ParseToken lets it through -/
example : verifyPanics { parseTokenObjectOnly := false, sites := [{ fn := "rp.VerifyIDToken", decoder := "ParseToken", target := "claims", kind := "generic", guarded := false, derefs := 0, passes := 10, returned := true }] }
    "rp.VerifyIDToken" { parts := 3, b64ok := true, payload := some .null } = true := by decide +kernel
example : decodeAudience { audAssertUnchecked := true } (.arr [.str "a", .int 1]) = .panic := by decide +kernel
example : decodeAudience genFacts (.arr [.str "a", .int 1]) = .err := by decide +kernel

end C09
