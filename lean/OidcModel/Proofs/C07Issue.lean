/-
  C07, function level: what `CreateTokenResponse` answers to a REFRESH, for arbitrary storages / keys / clients - about
  the REGENERATED issuance code of C06's group (Generated/IssueC06.lean, namespace GenC06:
  `CreateTokenResponse`, `CreateAccessToken`, `createTokens`; the storage, go-jose and AES are arbitrary functions, so every
  fault schedule of the request's storage calls is an instance).

  `c07_refresh_response_iff`: the response of a refresh exists (HTTP 200) IFF the storage's rotation call
  `CreateAccessAndRefreshTokens(request, presented token)` succeeded AND the access token string could be produced (JWT: the
  storage's private claims and signing key, go-jose; opaque: AES) AND the ID token could be produced; and then the response's
  refresh token is EXACTLY the string the storage returned from that rotation call, its access token exactly the signer's /
  the cipher's result for the token id the storage returned, its ID token the result of `CreateIDToken` for that access token.
  `c07_refresh_fails_closed`: a failing rotation call (whatever the error: plain, ErrInvalidRefreshToken, a context error)
  ends the request with that error - no response, nothing issued.
  Layer 1 (the unfoldings of regenerated definitions in this file): `createTokens_refresh_eq`, `createAccessToken_refresh_iff`,
  `createAccessToken_err`, `createTokenResponse_refresh_iff`, `createTokenResponse_err`, each by a shape-independent script.
-/
import OidcModel.Generated.IssueC06
import OidcModel.GoTac
import OidcModel.GoTacEq
namespace C07
open Go Hand

/-- the access token string `CreateAccessToken` hands out for token id `id` -/
def accessTokenFor (now : Int) (rq : IssRequest) (cl : IssClient) (cr : IssCreator) (id : String) (exp : Int) : Go.R String :=
  if cl.AccessTokenType = IssConst.AccessTokenTypeJWT then GenC06.CreateJWT now cr.IssuerFromContext rq exp id cl cr.Storage
  else cr.Crypto.Encrypt (id ++ ":" ++ rq.GetSubject)

/-- layer 1: for a request that needs a refresh token `createTokens` IS the storage's rotation call, with this request object and
    the refresh token it was handed -/
theorem createTokens_refresh_eq (now : Int) (rq : IssRequest) (st : IssStorage) (cur : String) (cl : IssClient)
    (hn : rq.needsRefreshToken = true) :
    GenC06.createTokens now rq st cur cl = st.CreateAccessAndRefreshTokens rq cur := by
  unfold GenC06.createTokens
  simp only [Hand.issNeedsRefreshToken, hn]
  go_leaf

/-- layer 1: `CreateAccessToken` succeeds iff `createTokens` and the production of the token string do; the refresh token it
    returns is the one `createTokens` returned -/
theorem createAccessToken_refresh_iff (now : Int) (rq : IssRequest) (cl : IssClient) (cr : IssCreator) (cur at' rt : String) (validity : Int) :
    GenC06.CreateAccessToken now rq cl.AccessTokenType cr cl cur = .ok (at', rt, validity) ↔
    ∃ id exp, GenC06.createTokens now rq cr.Storage cur cl = .ok (id, rt, exp) ∧ accessTokenFor now rq cl cr id exp = .ok at' ∧
      validity = Go.tSub (Go.tAdd exp (if Go.notNil cl then cl.ClockSkew else 0)) now := by
  unfold GenC06.CreateAccessToken accessTokenFor
  simp only [GenC06.CreateBearerToken, HAdd.hAdd, beq_iff_eq]
  -- the clock skew is the same term on both sides: it stays out of the case split
  try generalize (if Go.notNil cl then cl.ClockSkew else (0 : Int)) = skew
  repeat' (split <;> try simp only [*])
  all_goals (first | (simp_all; done) | grind)

theorem createAccessToken_err (now : Int) (rq : IssRequest) (tt : Nat) (cl : IssClient) (cr : IssCreator) (cur e : String)
    (h : GenC06.createTokens now rq cr.Storage cur cl = .error e) :
    GenC06.CreateAccessToken now rq tt cr cl cur = .error e := by
  unfold GenC06.CreateAccessToken
  simp only [h]

/-- layer 1: `CreateTokenResponse` for a request that is not an authorization request (a refresh): its parts -/
theorem createTokenResponse_refresh_iff (now : Int) (rq : IssRequest) (cl : IssClient) (cr : IssCreator) (cur : String) (r : IssTokenResponse)
    (hAR : rq.is_AuthRequest = false) :
    GenC06.CreateTokenResponse now rq cl cr true "" cur = .ok r ↔
    ∃ at' rt validity idt, GenC06.CreateAccessToken now rq cl.AccessTokenType cr cl cur = .ok (at', rt, validity) ∧
      GenC06.CreateIDToken now cr.IssuerFromContext rq cl.IDTokenLifetime at' "" cr.Storage cl = .ok idt ∧
      r = { AccessToken := at', IDToken := idt, RefreshToken := rt, TokenType := IssConst.BearerToken, ExpiresIn := Go.dSeconds validity,
            State := "", Scope := rq.GetScopes } := by
  unfold GenC06.CreateTokenResponse
  simp only [hAR]
  repeat' (split <;> try simp only [*])
  all_goals (first | (simp_all; done) | grind)

theorem createTokenResponse_err (now : Int) (rq : IssRequest) (cl : IssClient) (cr : IssCreator) (code cur e : String)
    (h : GenC06.CreateAccessToken now rq cl.AccessTokenType cr cl cur = .error e) :
    GenC06.CreateTokenResponse now rq cl cr true code cur = .error e := by
  unfold GenC06.CreateTokenResponse
  simp only [h]
  go_leaf

/-! layer 2 (nothing below unfolds a regenerated definition) -/

/-- **A refresh is answered iff the rotation call, the production of the access token string and `CreateIDToken` all
    succeeded, and then its tokens are exactly their results.**  For every storage, key, cipher, client, request that is not an
    authorization request and for which `needsRefreshToken` holds, and every refresh token `cur` handed to
    `CreateTokenResponse` (with an empty code): a response `r` is returned iff
    * the storage's rotation call `CreateAccessAndRefreshTokens(request, cur)` returned `(id, rt, exp)`,
    * the access token string for token id `id` was produced (`accessTokenFor`: the JWT over the storage's private claims signed
      with the storage's key, or the encryption of `id:subject`),
    * `CreateIDToken` returned `idt` for that access token,
    and `r` is exactly: access token = that string, refresh token = `rt` (the storage's new refresh token of THIS call), ID
    token = `idt`, scope = the request's scopes, token type Bearer, empty state, `expires_in` = the storage's expiry plus the
    client's clock skew, minus `now`. -/
theorem c07_refresh_response_iff (now : Int) (rq : IssRequest) (cl : IssClient) (cr : IssCreator) (cur : String) (r : IssTokenResponse)
    (hAR : rq.is_AuthRequest = false) (hn : rq.needsRefreshToken = true) :
    GenC06.CreateTokenResponse now rq cl cr true "" cur = .ok r ↔
    ∃ id rt exp at' idt, cr.Storage.CreateAccessAndRefreshTokens rq cur = .ok (id, rt, exp) ∧
      accessTokenFor now rq cl cr id exp = .ok at' ∧
      GenC06.CreateIDToken now cr.IssuerFromContext rq cl.IDTokenLifetime at' "" cr.Storage cl = .ok idt ∧
      r = { AccessToken := at', IDToken := idt, RefreshToken := rt, TokenType := IssConst.BearerToken,
            ExpiresIn := Go.dSeconds (Go.tSub (Go.tAdd exp (if Go.notNil cl then cl.ClockSkew else 0)) now), State := "", Scope := rq.GetScopes } := by
  rw [createTokenResponse_refresh_iff now rq cl cr cur r hAR]
  constructor
  · rintro ⟨at', rt, validity, idt, h1, h2, h3⟩
    obtain ⟨id, exp, g1, g2, g3⟩ := (createAccessToken_refresh_iff now rq cl cr cur at' rt validity).1 h1
    rw [createTokens_refresh_eq now rq cr.Storage cur cl hn] at g1
    exact ⟨id, rt, exp, at', idt, g1, g2, h2, by rw [h3, g3]⟩
  · rintro ⟨id, rt, exp, at', idt, g1, g2, h2, h3⟩
    refine ⟨at', rt, _, idt, (createAccessToken_refresh_iff now rq cl cr cur at' rt _).2 ⟨id, exp, ?_, g2, rfl⟩, h2, h3⟩
    rw [createTokens_refresh_eq now rq cr.Storage cur cl hn]
    exact g1

/-- **A refresh whose rotation the storage refuses fails closed**: whatever error `CreateAccessAndRefreshTokens` returns (a plain
    error, `ErrInvalidRefreshToken` because a concurrent refresh rotated the token or it expired meanwhile, a context error),
    `CreateTokenResponse` returns that error - no response: no access token, no refresh token, no ID token. -/
theorem c07_refresh_fails_closed (now : Int) (rq : IssRequest) (cl : IssClient) (cr : IssCreator) (code cur e : String)
    (hn : rq.needsRefreshToken = true) (h : cr.Storage.CreateAccessAndRefreshTokens rq cur = .error e) :
    GenC06.CreateTokenResponse now rq cl cr true code cur = .error e := by
  apply createTokenResponse_err
  apply createAccessToken_err
  rw [createTokens_refresh_eq now rq cr.Storage cur cl hn]
  exact h

/-- a response of a refresh carries the refresh token of a SUCCESSFUL rotation call of this request, made with the token the
    handler handed on, and the access token string produced for the token id of that same call -/
theorem c07_refresh_response_rotated {now : Int} {rq : IssRequest} {cl : IssClient} {cr : IssCreator} {cur : String} {r : IssTokenResponse}
    (hAR : rq.is_AuthRequest = false) (hn : rq.needsRefreshToken = true)
    (h : GenC06.CreateTokenResponse now rq cl cr true "" cur = .ok r) :
    ∃ id exp, cr.Storage.CreateAccessAndRefreshTokens rq cur = .ok (id, r.RefreshToken, exp) ∧
      accessTokenFor now rq cl cr id exp = .ok r.AccessToken ∧ r.Scope = rq.GetScopes := by
  obtain ⟨id, rt, exp, at', idt, g1, g2, _, h3⟩ := (c07_refresh_response_iff now rq cl cr cur r hAR hn).1 h
  subst h3
  exact ⟨id, exp, g1, g2, rfl⟩

/-! Non-vacuity: a storage that rotates, one that refuses the rotation (the overtaken request of two concurrent refreshes), one
    whose signing key is gone after the rotation. -/
def demoRefreshReq : IssRequest :=
  { GetSubject := "user1", GetAudience := ["web"], GetScopes := ["openid", "offline_access"], GetClientID := "web", needsRefreshToken := true }
def demoCreator (rot : IssRequest → String → Go.R (String × String × Int)) (key : Go.R IssSigningKey) : IssCreator :=
  { Storage := { CreateAccessAndRefreshTokens := rot, SigningKey := key }, IssuerFromContext := "https://op.example" }
def demoKey : IssSigningKey := { signID := fun c => .ok ("idt[" ++ c.Subject ++ "]") }

example : (GenC06.CreateTokenResponse 0 demoRefreshReq { GetID := "web" } (demoCreator (fun _ cur => .ok ("at9", "rt-after-" ++ cur, 0)) (.ok demoKey)) true "" "rt5").toOption.map
    (fun r => (r.AccessToken, r.RefreshToken, r.IDToken)) = some ("enc(at9:user1)", "rt-after-rt5", "idt[user1]") := by decide +kernel
example : (GenC06.CreateTokenResponse 0 demoRefreshReq { GetID := "web" } (demoCreator (fun _ _ => .error "ErrInvalidRefreshToken") (.ok demoKey)) true "" "rt5").toOption.map (·.IDToken) =
    none := by decide +kernel
example : (GenC06.CreateTokenResponse 0 demoRefreshReq { GetID := "web" } (demoCreator (fun _ cur => .ok ("at9", "rt-after-" ++ cur, 0)) (.error "ErrKeyGone")) true "" "rt5").toOption.map (·.RefreshToken) =
    none := by decide +kernel

end C07
