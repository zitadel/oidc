/-
  C17 — the relying party the two handlers run on is one the library CONSTRUCTED.

  The theorems of Proofs/C17.lean start from a relying-party value `rp : RP` with `rp.pkce` as a given, and the monitor is told
  `pkce := rp.pkce`.  "With PKCE enabled" in the property is what the APPLICATION configured (`rp.WithPKCE(..)` in the option list
  handed to the constructor): a constructor that clears the flag (C17-P: when the discovered `code_challenge_methods_supported` is
  non-empty and lacks S256) leaves them true, vacuously, about a relying party that does no PKCE.

  Here the regenerated constructors `GenC01.NewRelyingPartyOIDC` / `GenC01.NewRelyingPartyOAuth` and the regenerated `rp.Option`
  functions (Generated/RPConstruct.lean, characterised by `C01.newRelyingPartyOIDC_ok` / `C01.newRelyingPartyOAuth_ok`) are composed
  with the regenerated GETTERS the handlers read the relying party through (Generated/RPGetters.lean, namespace GenC17: `IsPKCE`,
  `CookieHandler`, `OAuthConfig`, `Signer`, `Issuer`), for EVERY option list (any combination, any order, duplicates) and EVERY world
  (= every answer of the discovery endpoint); the monitor is told what the APPLICATION configured.

  The model's discovery document (`RPCDiscoveryConfiguration`) has exactly the members the constructor reads; a
  constructor that reads another member (C17-P: `CodeChallengeMethodsSupported`) regenerates to a definition that does not elaborate.
-/
import OidcModel.Proofs.C01Construct
import OidcModel.Proofs.C17Keys
import OidcModel.Model.RPConstructC17
import OidcModel.GoTac

namespace C17Construct
open C17 C17Keys RPBrowser Go Hand

theorem isPKCE_eq (now : Int) (rp : RPCRelyingParty) : GenC17.IsPKCE now rp = rp.pkce := by go_char GenC17.IsPKCE
theorem cookieHandler_eq (now : Int) (rp : RPCRelyingParty) : GenC17.CookieHandler now rp = rp.cookieHandler := by
  go_char GenC17.CookieHandler
theorem oauthConfig_eq (now : Int) (rp : RPCRelyingParty) : GenC17.OAuthConfig now rp = rp.oauthConfig := by go_char GenC17.OAuthConfig
theorem signer_eq (now : Int) (rp : RPCRelyingParty) : GenC17.Signer now rp = rp.signer := by go_char GenC17.Signer
theorem issuer_eq (now : Int) (rp : RPCRelyingParty) : GenC17.Issuer now rp = rp.issuer := by go_char GenC17.Issuer

/-! ### what the constructors leave of what the handlers read -/

/-- the part of a relying party the two handlers read, after `NewRelyingPartyOIDC`: exactly what the option loop left (`rp1`), and
    the endpoints of the discovery document `d` -/
structure OIDCReads (rp1 : RPCRelyingParty) (d : RPCDiscoveryConfiguration) (rp : RPCRelyingParty) : Prop where
  pkce : rp.pkce = rp1.pkce
  cookieHandler : rp.cookieHandler = rp1.cookieHandler
  signer : rp.signer = rp1.signer
  issuer : rp.issuer = rp1.issuer
  clientID : rp.oauthConfig.ClientID = rp1.oauthConfig.ClientID
  clientSecret : rp.oauthConfig.ClientSecret = rp1.oauthConfig.ClientSecret
  redirectURL : rp.oauthConfig.RedirectURL = rp1.oauthConfig.RedirectURL
  scopes : rp.oauthConfig.Scopes = rp1.oauthConfig.Scopes
  authURL : rp.oauthConfig.Endpoint.AuthURL = d.AuthorizationEndpoint
  tokenURL : rp.oauthConfig.Endpoint.TokenURL = d.TokenEndpoint

theorem oidcReads_discovered (now : Int) (rp1 : RPCRelyingParty) (d : RPCDiscoveryConfiguration) :
    OIDCReads rp1 d (C01.discovered now rp1 d) := by
  constructor <;> simp [C01.discovered, C01.memoised, GenC01.GetEndpoints]

/-- `NewRelyingPartyOIDC` (the handlers' view): the option loop, discovery, and NOTHING the handlers read is touched afterwards
    except the two endpoints -/
theorem newRelyingPartyOIDC_reads (now : Int) (w : RPCWorld) (issuer clientID clientSecret redirectURI : String) (scopes : List String)
    (options : List RPCOption) (rp : RPCRelyingParty)
    (h : GenC01.NewRelyingPartyOIDC now w issuer clientID clientSecret redirectURI scopes options = .ok rp) :
    ∃ rp1 d, C01.applyAll options (C01.initOIDC issuer clientID clientSecret redirectURI scopes) = .ok rp1 ∧
      w.discover rp1.issuer rp1.httpClient rp1.DiscoveryEndpoint = .ok d ∧ OIDCReads rp1 d rp := by
  rw [C01.newRelyingPartyOIDC_eq] at h
  split at h
  · cases h
  · rename_i rp1 h1
    split at h
    · cases h
    · rename_i d hd
      cases h
      exact ⟨rp1, d, h1, hd, oidcReads_discovered now rp1 d⟩

/-- the same for `NewRelyingPartyOAuth` (no discovery: the endpoints are the application's) -/
structure OAuthReads (rp1 rp : RPCRelyingParty) : Prop where
  pkce : rp.pkce = rp1.pkce
  cookieHandler : rp.cookieHandler = rp1.cookieHandler
  signer : rp.signer = rp1.signer
  clientID : rp.oauthConfig.ClientID = rp1.oauthConfig.ClientID
  redirectURL : rp.oauthConfig.RedirectURL = rp1.oauthConfig.RedirectURL
  scopes : rp.oauthConfig.Scopes = rp1.oauthConfig.Scopes
  authURL : rp.oauthConfig.Endpoint.AuthURL = rp1.oauthConfig.Endpoint.AuthURL

theorem oauthReads_built (now : Int) (rp1 : RPCRelyingParty) : OAuthReads rp1 (C01.oauthBuilt now rp1) := by
  constructor <;> simp [C01.oauthBuilt, C01.memoised]

/-- PKCE is enabled by the application: `WithPKCE` occurs in its option list -/
def appPKCE (opts : List C01.ROptD) : Bool := opts.any (fun o => o.pkce?.isSome)

/-- the cookie handler the application configured: that of the last `WithPKCE` / `WithCookieHandler` -/
def appCookieHandler (opts : List C01.ROptD) : Option Nat := C01.lastOf C01.ROptD.cookie? opts none

theorem lastOf_pkce (opts : List C01.ROptD) (d : Bool) : C01.lastOf C01.ROptD.pkce? opts d = (d || appPKCE opts) := by
  induction opts generalizing d with
  | nil => simp [C01.lastOf_nil, appPKCE]
  | cons o os ih =>
    rw [C01.lastOf_cons, ih]
    cases o <;> simp [appPKCE, C01.ROptD.pkce?]

theorem appPKCE_of_mem (opts : List C01.ROptD) (h : Option Nat) (hm : C01.ROptD.pkce h ∈ opts) : appPKCE opts = true := by
  simp only [appPKCE, List.any_eq_true]
  exact ⟨_, hm, rfl⟩

/-- C17, construction (OIDC): for EVERY option list and EVERY world (whatever the discovery endpoint answers - every discovery
    document), what the handlers read of the relying party `NewRelyingPartyOIDC` hands out is what the application configured:
    `IsPKCE()` is true EXACTLY when `WithPKCE` is in the list, the cookie handler is that of the last `WithPKCE` /
    `WithCookieHandler`, client id / redirect URI / scopes are the constructor's arguments, the signer is that of the last
    `WithJWTProfile`, and the authorization / token endpoints are the discovered ones. -/
theorem c17_constructed_reads (now now' : Int) (w : RPCWorld) (issuer clientID clientSecret redirectURI : String) (scopes : List String)
    (opts : List C01.ROptD) (rp : RPCRelyingParty)
    (h : GenC01.NewRelyingPartyOIDC now w issuer clientID clientSecret redirectURI scopes (opts.map (C01.ROptD.denote now)) = .ok rp) :
    GenC17.IsPKCE now' rp = appPKCE opts ∧
    GenC17.CookieHandler now' rp = appCookieHandler opts ∧
    (GenC17.OAuthConfig now' rp).ClientID = clientID ∧
    (GenC17.OAuthConfig now' rp).RedirectURL = redirectURI ∧
    (GenC17.OAuthConfig now' rp).Scopes = scopes ∧
    GenC17.Signer now' rp = C01.lastOf C01.ROptD.signer? opts none ∧
    ∃ d, w.discover issuer (C01.clientOf opts) (C01.lastOf C01.ROptD.url? opts "") = .ok d ∧
      (GenC17.OAuthConfig now' rp).Endpoint.AuthURL = d.AuthorizationEndpoint ∧
      (GenC17.OAuthConfig now' rp).Endpoint.TokenURL = d.TokenEndpoint := by
  obtain ⟨d, hD, rfl⟩ := C01.newRelyingPartyOIDC_ok h
  have hR := oidcReads_discovered now (C01.afterOptions now (C01.initOIDC issuer clientID clientSecret redirectURI scopes) opts) d
  simp only [isPKCE_eq, cookieHandler_eq, oauthConfig_eq, signer_eq, hR.pkce, hR.cookieHandler, hR.signer, hR.clientID,
    hR.redirectURL, hR.scopes, hR.authURL, hR.tokenURL]
  exact ⟨by simp [C01.afterOptions, C01.initOIDC, lastOf_pkce], rfl, rfl, rfl, rfl, rfl, d, hD, rfl, rfl⟩

/-- … in particular: `WithPKCE` in the option list ⇒ `IsPKCE() = true`, against EVERY discovery document (no member of the
    document - `code_challenge_methods_supported` or any other - switches off what the application switched on) -/
theorem c17_withPKCE_isPKCE (now now' : Int) (w : RPCWorld) (issuer clientID clientSecret redirectURI : String) (scopes : List String)
    (opts : List C01.ROptD) (hnd : Option Nat) (hm : C01.ROptD.pkce hnd ∈ opts) (rp : RPCRelyingParty)
    (h : GenC01.NewRelyingPartyOIDC now w issuer clientID clientSecret redirectURI scopes (opts.map (C01.ROptD.denote now)) = .ok rp) :
    GenC17.IsPKCE now' rp = true := by
  rw [(c17_constructed_reads now now' w issuer clientID clientSecret redirectURI scopes opts rp h).1]
  exact appPKCE_of_mem opts hnd hm

/-- C17, construction (OAuth): the same for `NewRelyingPartyOAuth` -/
theorem c17_constructed_reads_oauth (now now' : Int) (config : RPCOAuthConfig) (opts : List C01.ROptD) (rp : RPCRelyingParty)
    (h : GenC01.NewRelyingPartyOAuth now config (opts.map (C01.ROptD.denote now)) = .ok rp) :
    GenC17.IsPKCE now' rp = appPKCE opts ∧
    GenC17.CookieHandler now' rp = appCookieHandler opts ∧
    (GenC17.OAuthConfig now' rp).ClientID = config.ClientID ∧
    (GenC17.OAuthConfig now' rp).RedirectURL = config.RedirectURL ∧
    (GenC17.OAuthConfig now' rp).Scopes = config.Scopes ∧
    (GenC17.OAuthConfig now' rp).Endpoint.AuthURL = config.Endpoint.AuthURL ∧
    GenC17.Signer now' rp = C01.lastOf C01.ROptD.signer? opts none := by
  rw [C01.newRelyingPartyOAuth_ok h]
  have hR := oauthReads_built now (C01.afterOptions now (C01.initOAuth config) opts)
  simp only [isPKCE_eq, cookieHandler_eq, oauthConfig_eq, signer_eq, hR.pkce, hR.cookieHandler, hR.signer, hR.clientID,
    hR.redirectURL, hR.scopes, hR.authURL]
  exact ⟨by simp [C01.afterOptions, C01.initOAuth, lastOf_pkce], rfl, rfl, rfl, rfl, rfl, rfl⟩

/-! `view` (Model/RPConstructC17.lean): the relying party as the two handlers read it THROUGH THE REGENERATED GETTERS -/

/-- THE MONITOR'S CONFIGURATION AS THE APPLICATION WROTE IT: the keys handed to `NewCookieHandler`, the constructor's client id /
    redirect URI / scopes, and PKCE enabled = `WithPKCE` in the option list -/
def appCfg (hk ek : CookieKey) (clientID redirectURI : String) (scopes : List String) (opts : List C01.ROptD) : Cfg :=
  { hashKey := hk, blockKey := ek, clientID := clientID, redirectURI := redirectURI, scopes := scopes, pkce := appPKCE opts }

/-- the constructed relying party as the handlers read it: its cookie handler is the configured one, and the monitor's
    configuration read off it is what the application wrote -/
theorem view_constructed {now : Int} {w : RPCWorld} {issuer clientID clientSecret redirectURI : String} {scopes : List String}
    {opts : List C01.ROptD} {rpc : RPCRelyingParty}
    (h : GenC01.NewRelyingPartyOIDC now w issuer clientID clientSecret redirectURI scopes (opts.map (C01.ROptD.denote now)) = .ok rpc)
    {n : Nat} (hn : appCookieHandler opts = some n)
    (handlers : Nat → CookieHandler) (signers : Nat → Signer) (provider : TokenReq → Go.R Tokens) (hk ek : CookieKey) :
    (view now rpc handlers signers provider).cookieHandler = some (handlers n) ∧
    cfgConfigured (view now rpc handlers signers provider) hk ek = appCfg hk ek clientID redirectURI scopes opts := by
  obtain ⟨h1, h2, h3, h4, h5, _, _⟩ := c17_constructed_reads now now w issuer clientID clientSecret redirectURI scopes opts rpc h
  exact ⟨by simp [view, h2, hn], by simp [cfgConfigured, appCfg, view, h1, h3, h4, h5]⟩

/-- C17 on a CONSTRUCTED relying party, login: for every option list with a cookie handler built by `NewCookieHandler` from the
    configured keys, every world / discovery document, every request: the monitor - told what the application configured, PKCE =
    "`WithPKCE` is in the list" - accepts what `AuthURLHandler` answers -/
theorem c17_constructed_login_holds (now : Int) (w : RPCWorld) (issuer clientID clientSecret redirectURI : String) (scopes : List String)
    (opts : List C01.ROptD) (rpc : RPCRelyingParty)
    (h : GenC01.NewRelyingPartyOIDC now w issuer clientID clientSecret redirectURI scopes (opts.map (C01.ROptD.denote now)) = .ok rpc)
    (n : Nat) (hn : appCookieHandler opts = some n)
    (handlers : Nat → CookieHandler) (signers : Nat → Signer) (provider : TokenReq → Go.R Tokens)
    (hk ek : CookieKey) (copts : List CookieHandlerOpt) (hcopts : ∀ o ∈ copts, KeyPreserving o)
    (hh : handlers n = Gen.NewCookieHandler now hk ek copts) (hage : 0 ≤ (Gen.NewCookieHandler now hk ek copts).maxAge)
    (state rnd : String) (urlParam : List UrlOpt) (hres : NoReserved urlParam) (r : HttpReq) :
    judgeLogin (appCfg hk ek clientID redirectURI scopes opts)
      (observeLogin (Gen.AuthURLHandler now state rnd (view now rpc handlers signers provider) urlParam [] r)) = none := by
  obtain ⟨hc, hcfg⟩ := view_constructed h hn handlers signers provider hk ek
  rw [← hcfg]
  exact c17_login_holds_configured now state rnd _ hk ek copts hcopts (hh ▸ hc) hage urlParam hres r

/-- … and the callback -/
theorem c17_constructed_callback_holds (now : Int) (w : RPCWorld) (issuer clientID clientSecret redirectURI : String) (scopes : List String)
    (opts : List C01.ROptD) (rpc : RPCRelyingParty)
    (h : GenC01.NewRelyingPartyOIDC now w issuer clientID clientSecret redirectURI scopes (opts.map (C01.ROptD.denote now)) = .ok rpc)
    (n : Nat) (hn : appCookieHandler opts = some n)
    (handlers : Nat → CookieHandler) (signers : Nat → Signer) (provider : TokenReq → Go.R Tokens)
    (hk ek : CookieKey) (copts : List CookieHandlerOpt) (hcopts : ∀ o ∈ copts, KeyPreserving o)
    (hh : handlers n = Gen.NewCookieHandler now hk ek copts) (urlParam : List UrlOpt) (r : HttpReq) :
    judgeCallback (appCfg hk ek clientID redirectURI scopes opts) r.cookies r.form
      (observeCallback (Gen.CodeExchangeHandler now (view now rpc handlers signers provider) urlParam [] r)) = none := by
  obtain ⟨hc, hcfg⟩ := view_constructed h hn handlers signers provider hk ek
  rw [← hcfg]
  exact c17_callback_holds_configured now _ hk ek copts hcopts (hh ▸ hc) urlParam r

/-- … and EVERY history of one browser (any number of login attempts, callbacks with any query, jar tampering by anyone who does not hold
    the keys, in any order) against a relying party built by `NewRelyingPartyOIDC` from any option list and any discovery document:
    every per-run and history verdict of the monitor - told what the APPLICATION configured - is `none` (induction over the event
    list: `c17_history`) -/
theorem c17_constructed_history (now : Int) (w : RPCWorld) (issuer clientID clientSecret redirectURI : String) (scopes : List String)
    (opts : List C01.ROptD) (rpc : RPCRelyingParty)
    (h : GenC01.NewRelyingPartyOIDC now w issuer clientID clientSecret redirectURI scopes (opts.map (C01.ROptD.denote now)) = .ok rpc)
    (n : Nat) (hn : appCookieHandler opts = some n)
    (handlers : Nat → CookieHandler) (signers : Nat → Signer) (provider : TokenReq → Go.R Tokens)
    (hk ek : CookieKey) (copts : List CookieHandlerOpt) (hcopts : ∀ o ∈ copts, KeyPreserving o)
    (hh : handlers n = Gen.NewCookieHandler now hk ek copts) (hage : 0 ≤ (Gen.NewCookieHandler now hk ek copts).maxAge)
    (loginParams cbParams : List UrlOpt) (hres : NoReserved loginParams) (evs : List Ev) :
    ∀ v ∈ (run now (view now rpc handlers signers provider) (appCfg hk ek clientID redirectURI scopes opts) loginParams cbParams evs).verdicts,
      v = none := by
  obtain ⟨hc, hcfg⟩ := view_constructed h hn handlers signers provider hk ek
  rw [← hcfg, ← cfgOf_constructed now _ hk ek copts hcopts]
  exact c17_history now _ _ (hh ▸ hc) hage loginParams cbParams hres evs

/-- C17-P's statement: a relying party built by `NewRelyingPartyOIDC` with `WithPKCE(h)` in its option list (h a handler built by
    `NewCookieHandler`), against EVERY discovery document: every redirect of its `AuthURLHandler` carries
    `code_challenge_method=S256` and `code_challenge` = S256 of the verifier stored in the signed pkce cookie of the same response -/
theorem c17_withPKCE_challenge (now : Int) (w : RPCWorld) (issuer clientID clientSecret redirectURI : String) (scopes : List String)
    (opts : List C01.ROptD) (rpc : RPCRelyingParty)
    (h : GenC01.NewRelyingPartyOIDC now w issuer clientID clientSecret redirectURI scopes (opts.map (C01.ROptD.denote now)) = .ok rpc)
    (hnd : Option Nat) (hm : C01.ROptD.pkce hnd ∈ opts)
    (n : Nat) (hn : appCookieHandler opts = some n)
    (handlers : Nat → CookieHandler) (signers : Nat → Signer) (provider : TokenReq → Go.R Tokens)
    (hk ek : CookieKey) (copts : List CookieHandlerOpt) (hcopts : ∀ o ∈ copts, KeyPreserving o)
    (hh : handlers n = Gen.NewCookieHandler now hk ek copts) (hage : 0 ≤ (Gen.NewCookieHandler now hk ek copts).maxAge)
    (state rnd : String) (urlParam : List UrlOpt) (hres : NoReserved urlParam) (r : HttpReq) (u : AuthURLRec)
    (hu : (observeLogin (Gen.AuthURLHandler now state rnd (view now rpc handlers signers provider) urlParam [] r)).redirect = some u) :
    getParam u.params "code_challenge_method" = "S256" ∧
    ∃ v, signedSet (appCfg hk ek clientID redirectURI scopes opts)
          (observeLogin (Gen.AuthURLHandler now state rnd (view now rpc handlers signers provider) urlParam [] r)).setCookies "pkce" = some v ∧
      getParam u.params "code_challenge" = s256 v := by
  have hj := c17_constructed_login_holds now w issuer clientID clientSecret redirectURI scopes opts rpc h n hn handlers signers provider
    hk ek copts hcopts hh hage state rnd urlParam hres r
  obtain ⟨_, _, _, _, hc⟩ := judgeLogin_redirect hj hu
  obtain ⟨v, hv, h5, h6⟩ := hc (by simp [appCfg, appPKCE_of_mem opts hnd hm])
  exact ⟨h6, v, hv, h5⟩

/-- a provider whose discovery document is `d` whatever it is asked -/
def worldOf (d : RPCDiscoveryConfiguration) : RPCWorld := { discover := fun _ _ _ => .ok d, jwks := fun _ _ => {} }

def exDoc : RPCDiscoveryConfiguration :=
  { Issuer := "https://op", AuthorizationEndpoint := "https://op/authorize", TokenEndpoint := "https://op/token", JwksURI := "https://op/keys" }

/-- `WithCookieHandler(h)` then `WithPKCE(h)`, and the other order: PKCE stays on -/
example : (GenC01.NewRelyingPartyOIDC 0 (worldOf exDoc) "https://op" "cid" "s" "https://rp/cb" ["openid"]
    ([C01.ROptD.cookieHandler (some 1), .pkce (some 1)].map (C01.ROptD.denote 0))).toOption.map (GenC17.IsPKCE 0) = some true := by
  decide +kernel
example : (GenC01.NewRelyingPartyOIDC 0 (worldOf exDoc) "https://op" "cid" "s" "https://rp/cb" ["openid"]
    ([C01.ROptD.pkce (some 1), .authStyle 1, .cookieHandler (some 1)].map (C01.ROptD.denote 0))).toOption.map (GenC17.IsPKCE 0) = some true := by
  decide +kernel
/-- without `WithPKCE`: off -/
example : (GenC01.NewRelyingPartyOIDC 0 (worldOf exDoc) "https://op" "cid" "s" "https://rp/cb" ["openid"]
    ([C01.ROptD.cookieHandler (some 1)].map (C01.ROptD.denote 0))).toOption.map (GenC17.IsPKCE 0) = some false := by
  decide +kernel

end C17Construct
