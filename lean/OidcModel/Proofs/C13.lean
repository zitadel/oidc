/-
  C13 — remote JWKS key set under concurrency, rotation and failures: theorems.

  The model is the transition system of Model/Jwks.lean instantiated with what factgen regenerated from
  pkg/client/rp/jwks.go: `GenJwks.facts` (shape of keysFromRemote / updateKeys) and `GenJwks.logic`
  (VerifySignature, verifySignatureCached, exactMatch, verifySignatureRemote).  Part 1 bridges the
  regenerated definitions to hand-readable ones; part 2 is ONE invariant relating a reachable model state
  to the state of the monitor `C13.mstep` that has consumed the observations of the same run, proved by
  induction over ALL schedules (any number of calls, any length); part 3 states the property theorems
  (`jwks_model_satisfies_monitor` and the named clauses) as corollaries; part 4 shows, on fact records that differ from
  the extracted one in a single field (`legacyFacts` of Model/Jwks.lean among them), that each clause really depends on
  the extracted facts (witness schedules, `jwks_*_needs_*`).
-/
import OidcModel.Generated.Jwks
import OidcModel.Spec.C13
import OidcModel.Proofs.C02
import OidcModel.GoTac

namespace C13
open Jwks Hand

theorem facts_bridge : GenJwks.facts = Jwks.fixedFacts := by decide +kernel

/-- what `verifySignatureCached` + the head of `VerifySignature` decide on the cached keys -/
inductive CacheAns
  | hit (p : Payload)
  | reject
  | miss
  deriving DecidableEq, Repr

def exact (skip : Bool) (jwkID jwsID : String) : Bool :=
  if jwkID == "" && jwsID == "" then skip else jwkID == jwsID

def cacheAns (skip : Bool) (cached : List JWK) (j : JWS) : CacheAns :=
  if cached.isEmpty then .miss else
  match FindMatchingKey (GetKeyIDAndAlg j).1 "sig" (GetKeyIDAndAlg j).2 cached with
  | .error _ => .miss
  | .ok k =>
    match jwsVerify j k with
    | .ok p => .hit p
    | .error _ => if exact skip k.KeyID (GetKeyIDAndAlg j).1 then .reject else .miss

@[simp] theorem go_nil_opt {α : Type} : (Go.nil : Option α) = none := rfl
@[simp] theorem go_notNil_some {α : Type} (x : α) : Go.notNil (some x) = true := rfl
@[simp] theorem go_notNil_none {α : Type} : Go.notNil (none : Option α) = false := rfl
@[simp] theorem go_isNil_some {α : Type} (x : α) : Go.isNil (some x) = false := rfl
@[simp] theorem go_isNil_none {α : Type} : Go.isNil (none : Option α) = true := rfl

theorem len_zero {α : Type} (l : List α) : (Go.len l == (0 : Int)) = l.isEmpty := by
  cases l with
  | nil => rfl
  | cons a t =>
    simp only [Go.len, Go.HasLen.len, List.length_cons, List.isEmpty_cons]
    have : ((t.length + 1 : Nat) : Int) ≠ 0 := by omega
    simpa using this

/-- `cacheAns` at an explicit key id / algorithm (what `verifySignatureCached` is called with) -/
def cacheAnsAt (skip : Bool) (cached : List JWK) (j : JWS) (kid alg : String) : CacheAns :=
  if cached.isEmpty then .miss else
  match FindMatchingKey kid "sig" alg cached with
  | .error _ => .miss
  | .ok k =>
    match jwsVerify j k with
    | .ok p => .hit p
    | .error _ => if exact skip k.KeyID kid then .reject else .miss

theorem cacheAns_at (skip : Bool) (cached : List JWK) (j : JWS) :
    cacheAns skip cached j = cacheAnsAt skip cached j (GetKeyIDAndAlg j).1 (GetKeyIDAndAlg j).2 := rfl

/-- the Go pair `verifySignatureCached` returns for each of the three answers -/
def cachedOut : CacheAns → GoPair
  | .hit p => (some p, none)
  | .reject => (none, some msgBadSig)
  | .miss => (none, none)

/-- characterisation of the regenerated `verifySignatureCached` (the only place where its shape matters) -/
theorem verifySignatureCached_char (cfg : JwksSet) (cached : List JWK) (j : JWS) (kid alg : String) :
    GenJwks.verifySignatureCached 0 cfg cached j kid alg = cachedOut (cacheAnsAt cfg.skipRemoteCheck cached j kid alg) := by
  unfold cachedOut cacheAnsAt GenJwks.verifySignatureCached GenJwks.exactMatch Hand.jwksFind Hand.jwksVerify exact
  simp only [len_zero]
  cases cached with
  | nil => simp
  | cons a t =>
    simp only [List.isEmpty_cons]
    cases hf : FindMatchingKey kid Const.KeyUseSignature alg (a :: t) with
    | error e => simp [Const.KeyUseSignature] at hf ⊢; simp [hf]
    | ok k =>
      simp [Const.KeyUseSignature] at hf ⊢
      simp only [hf]
      cases hv : jwsVerify j k with
      | ok p => simp
      | error e =>
        simp only [go_notNil_none]
        by_cases h1 : k.KeyID = "" <;> by_cases h2 : kid = "" <;> by_cases h3 : k.KeyID = kid <;>
          cases hs : cfg.skipRemoteCheck <;> simp_all [msgBadSig]

/-- characterisation of the regenerated `VerifySignature`: the head of the function is a case analysis on what the cache answers.
    Shape-independent in `VerifySignature` itself: after the call of `verifySignatureCached` has been replaced by its
    characterisation, every answer leaves a closed `if` / `match` over a literal Go pair, whatever the order and nesting of the
    tests (`payload != nil` first, or `payload == nil` with the rest nested, …). -/
theorem logic_cached (cfg : JwksSet) (hd : cfg.defaultAlg = "") (cached : List JWK) (remote : JWS → String → String → GoPair) (j : JWS) :
    GenJwks.logic.verifySignature cfg cached remote j =
      match cacheAns cfg.skipRemoteCheck cached j with
      | .hit p => (some p, none)
      | .reject => (none, some msgBadSig)
      | .miss => remote j (GetKeyIDAndAlg j).1 (GetKeyIDAndAlg j).2 := by
  unfold GenJwks.logic
  simp only
  rw [cacheAns_at]
  go_unfold GenJwks.VerifySignature
  rcases hg : GetKeyIDAndAlg j with ⟨kid, alg⟩
  simp only [verifySignatureCached_char, hd]
  by_cases ha : alg = ""
  · subst ha
    cases hans : cacheAnsAt cfg.skipRemoteCheck cached j kid "" <;> simp_all [cachedOut, msgBadSig]
  · cases hans : cacheAnsAt cfg.skipRemoteCheck cached j kid alg <;> simp_all [cachedOut, msgBadSig]

inductive RemoteAns
  | accept (p : Payload)
  | noKey
  | badSig
  deriving DecidableEq, Repr

def remoteAns (ks : List JWK) (j : JWS) : RemoteAns :=
  match FindMatchingKey (GetKeyIDAndAlg j).1 "sig" (GetKeyIDAndAlg j).2 ks with
  | .error _ => .noKey
  | .ok k =>
    match jwsVerify j k with
    | .ok p => .accept p
    | .error _ => .badSig

theorem logic_remote_ok (cfg : JwksSet) (ks : List JWK) (j : JWS) :
    GenJwks.logic.verifySignatureRemote cfg (ks, none) j (GetKeyIDAndAlg j).1 (GetKeyIDAndAlg j).2 =
      match remoteAns ks j with
      | .accept p => (some p, none)
      | .noKey => (none, some msgNoKey)
      | .badSig => (none, some msgBadSig) := by
  unfold GenJwks.logic
  simp only
  unfold GenJwks.verifySignatureRemote Hand.jwksFind Hand.jwksVerify remoteAns
  simp only [go_notNil_none, Const.KeyUseSignature]
  obtain ⟨x, hx⟩ : ∃ x, FindMatchingKey (GetKeyIDAndAlg j).1 "sig" (GetKeyIDAndAlg j).2 ks = x := ⟨_, rfl⟩
  simp only [hx]
  cases x with
  | error e => simp [msgNoKey]
  | ok k =>
    simp only [go_notNil_none]
    cases hv : jwsVerify j k with
    | ok p => simp
    | error e => simp [msgBadSig]

theorem logic_remote_err (cfg : JwksSet) (ks : List JWK) (e : String) (j : JWS) (kid alg : String) :
    GenJwks.logic.verifySignatureRemote cfg (ks, some e) j kid alg = (none, some msgFetch) := by
  unfold GenJwks.logic
  simp only
  unfold GenJwks.verifySignatureRemote
  simp [msgFetch]

/-- the reference verdict in terms of the same two library calls -/
theorem refAccepts_eq (ks : List JWK) (j : JWS) :
    refAccepts ks j = (match remoteAns ks j with | .accept _ => true | _ => false) := by
  unfold refAccepts KeySet.VerifySignature remoteAns
  simp only [Const.KeyUseSignature]
  cases hf : FindMatchingKey (GetKeyIDAndAlg j).1 "sig" (GetKeyIDAndAlg j).2 ks with
  | error e => simp [Except.toBool]
  | ok k =>
    cases hv : jwsVerify j k with
    | ok p => simp [Except.toBool, hv]
    | error e => simp [Except.toBool, hv]

/-- a token the reference verdict accepts carries a genuine signature by a consistently selected key of the set (C02) -/
theorem refAccepts_justified {ks : List JWK} {j : JWS} (h : refAccepts ks j = true) :
    ∃ s k, j.Signatures = [s] ∧ C02.justifies { kind := .published, keys := ks } j s k = true := by
  unfold refAccepts at h
  cases hv : KeySet.VerifySignature { kind := .published, keys := ks } j with
  | error e => simp [hv, Except.toBool] at h
  | ok p =>
    obtain ⟨s, k, hs, _, hj, _⟩ := C02.verifySignature_sound hv
    exact ⟨s, k, hs, hj⟩

theorem remoteAns_accept_payload {ks : List JWK} {j : JWS} {p : Payload} (h : remoteAns ks j = .accept p) : p = j.payload := by
  unfold remoteAns at h
  split at h
  · simp at h
  · rename_i k _
    split at h
    · rename_i p' hv
      simp at h; subst h
      obtain ⟨_, _, hp, _⟩ := C02.jwsVerify_ok hv
      exact hp
    · simp at h

theorem findMatchingKey_nil (kid use alg : String) : FindMatchingKey kid use alg [] = .error "ErrKeyNone" := rfl

theorem namedKeyRejects_eq (skip : Bool) (ks : List JWK) (j : JWS) :
    namedKeyRejects skip ks j =
      (match FindMatchingKey (GetKeyIDAndAlg j).1 "sig" (GetKeyIDAndAlg j).2 ks with
       | .ok k => !(jwsVerify j k).toBool && exact skip k.KeyID (GetKeyIDAndAlg j).1
       | .error _ => false) := rfl

/-- cached keys: relation between the code's answer and the reference verdict -/
theorem cacheAns_spec (skip : Bool) (cached : List JWK) (j : JWS) :
    match cacheAns skip cached j with
    | .hit p => p = j.payload ∧ refAccepts cached j = true
    | .reject => refAccepts cached j = false ∧ namedKeyRejects skip cached j = true ∧ cached ≠ []
    | .miss => refAccepts cached j = false := by
  rw [refAccepts_eq, namedKeyRejects_eq]
  unfold cacheAns remoteAns
  cases cached with
  | nil => simp [findMatchingKey_nil]
  | cons a t =>
    simp only [List.isEmpty_cons]
    cases hf : FindMatchingKey (GetKeyIDAndAlg j).1 "sig" (GetKeyIDAndAlg j).2 (a :: t) with
    | error e => simp
    | ok k =>
      cases hv : jwsVerify j k with
      | ok p =>
        obtain ⟨_, _, hp, _⟩ := C02.jwsVerify_ok hv
        simp [hv, hp]
      | error e =>
        simp only [hv, Except.toBool]
        cases hb : exact skip k.KeyID (GetKeyIDAndAlg j).1 <;> simp

/-! ## Part 2 — the invariant -/

def resOf : Option FetchRes → Option (EndKind × List JWK)
  | none => none
  | some (.keys ks) => some (.ok, ks)
  | some (.fail k) => some (k, [])

/-- **download classification.** What the code makes of an answer of the endpoint — as determined by the regenerated decision
    structure of `HttpRequest` (status test first, the WHOLE body through `json.Unmarshal`, its error returned) and of
    `jsonWebKeySet.UnmarshalJSON` (undecodable entries skipped) — is exactly what the specification says the answer is: a
    successful download of the document's known keys iff status 200 and the whole body is one JWKS document, a failed one otherwise. -/
theorem jwks_download_classification (a : Answer) :
    resOf (some (FetchRes.ofAnswer fixedFacts a)) = some (endOf (some a)) := by
  obtain ⟨st, wf, whole, first⟩ := a
  cases st <;> cases wf <;> cases whole <;> simp [FetchRes.ofAnswer, fixedFacts, endOf, Answer.served, resOf]

theorem ofAnswer_fail {a : Answer} {k : EndKind} (h : FetchRes.ofAnswer fixedFacts a = .fail k) : k ≠ .ok ∧ k ≠ .cancelled := by
  obtain ⟨st, wf, whole, first⟩ := a
  cases st <;> cases wf <;> cases whole <;> simp [FetchRes.ofAnswer, fixedFacts] at h <;> subst h <;> simp

/-- what is known of a finished call -/
def DoneOK (s : State) (tok : JWS) (live : Bool) : Outcome → Prop
  | .payload b => b = tok.payload.bytes ∧ ∃ f ks, f < s.nf ∧ (s.fetches f).res = some (.keys ks) ∧ refAccepts ks tok = true
  | .ctxErr => live = false
  | .fetchErr k => k ≠ .cancelled
  | _ => True

/-- model call vs. what the monitor remembers of it -/
def CallerInv (cfg : JwksSet) (s : State) (m : MState) (c : Cid) : Prop :=
  (m.callers c).started = ((s.callers c).pc != .idle) ∧
  (m.callers c).finished = (match (s.callers c).pc with | .done _ => true | _ => false) ∧
  ((s.callers c).pc ≠ .idle →
      (m.callers c).tok = (s.callers c).tok ∧ (m.callers c).cancelled = !(s.callers c).live ∧
      (∀ f, (m.callers c).stale f = true → m.announced f = true)) ∧
  (match (s.callers c).pc with
   | .idle => True
   | .atCache => (m.callers c).owned = 0 ∧ ((m.callers c).hit = true → refAccepts s.cached (s.callers c).tok = true) ∧
       (refAccepts s.cached (s.callers c).tok = true → (m.callers c).mayHit = true)
   | .atLock seen => (m.callers c).owned = 0 ∧ (m.callers c).hit = false ∧ cacheAns cfg.skipRemoteCheck seen (s.callers c).tok = .miss
   | .atSelect g seen =>
       (m.callers c).hit = false ∧ cacheAns cfg.skipRemoteCheck seen (s.callers c).tok = .miss ∧ g < s.nf ∧
       (m.callers c).stale g = false ∧ (m.callers c).asked g = false
   | .done o => DoneOK s (s.callers c).tok (s.callers c).live o)

structure Inv (cfg : JwksSet) (s : State) (m : MState) : Prop where
  noViol : m.viol = none
  noCrash : s.crashed = false
  skipEq : m.skip = cfg.skipRemoteCheck
  served : m.served = s.served
  nf : m.nf = s.nf
  begun : ∀ f : Nat, m.begun f = decide (f < s.nf)
  res : ∀ f : Nat, m.res f = resOf (s.fetches f).res
  resKind : ∀ (f : Nat) k, (s.fetches f).res = some (.fail k) → k ≠ .ok ∧ k ≠ .cancelled
  fresh : ∀ f : Nat, s.nf ≤ f → (s.fetches f).res = none ∧ (s.fetches f).upc = 0
  upc : ∀ f : Nat, (s.fetches f).upc ≤ 2 ∧ ((s.fetches f).res = none ↔ (s.fetches f).upc = 0)
  sig : ∀ f : Nat, (s.fetches f).sig = if (s.fetches f).upc = 2 then (s.fetches f).res else none
  ann : ∀ f : Nat, m.announced f = decide ((s.fetches f).upc = 2)
  infl : ∀ g : Nat, s.inflight = some g → g < s.nf ∧ (s.fetches g).upc ≤ 1
  others : ∀ f : Nat, f < s.nf → s.inflight ≠ some f → (s.fetches f).upc = 2
  cache : m.cacheExpect = s.cached
  cacheSafe : s.cached = [] ∨ ∃ f, f < s.nf ∧ (s.fetches f).res = some (.keys s.cached)
  owner : ∀ f : Nat, f < s.nf → (match (s.callers (s.fetches f).owner).pc with | .atSelect _ _ | .done _ => True | _ => False)
  ownerUniq : ∀ f g : Nat, f < s.nf → g < s.nf → (s.fetches f).owner = (s.fetches g).owner → f = g
  callers : ∀ c : Nat, CallerInv cfg s m c

theorem inv_init (cfg : JwksSet) : Inv cfg {} { skip := cfg.skipRemoteCheck } := by
  refine { noViol := rfl, noCrash := rfl, skipEq := rfl, served := rfl, nf := rfl, begun := ?_, res := ?_, resKind := ?_, fresh := ?_,
           upc := ?_, sig := ?_, ann := ?_, infl := ?_, others := ?_, cache := rfl, cacheSafe := Or.inl rfl, owner := ?_, ownerUniq := ?_, callers := ?_ }
  all_goals (intros; simp_all [resOf, CallerInv])

theorem mrun_cons (m : MState) (o : Obs) (os : List Obs) : mrun m (o :: os) = mrun (mstep m o) os := rfl
theorem mrun_nil (m : MState) : mrun m [] = m := rfl
theorem mrun_append (m : MState) (a b : List Obs) : mrun m (a ++ b) = mrun (mrun m a) b := by
  simp [mrun, List.foldl_append]

theorem callerInv_congr {cfg : JwksSet} {s s' : State} {m m' : MState} {c : Cid}
    (h : CallerInv cfg s m c)
    (hc : s'.callers c = s.callers c) (hm : m'.callers c = m.callers c)
    (hcached : s'.cached = s.cached) (hnf : s.nf ≤ s'.nf)
    (hres : ∀ f, f < s.nf → (s.fetches f).res ≠ none → (s'.fetches f).res = (s.fetches f).res)
    (hann : ∀ f, m.announced f = true → m'.announced f = true) : CallerInv cfg s' m' c := by
  unfold CallerInv at h ⊢
  rw [hc, hm, hcached]
  obtain ⟨h1, h2, h3, h4⟩ := h
  refine ⟨h1, h2, fun hne => ⟨(h3 hne).1, (h3 hne).2.1, fun f hf => hann f ((h3 hne).2.2 f hf)⟩, ?_⟩
  cases hpc : (s.callers c).pc with
  | idle => trivial
  | atCache | atLock seen => simpa [hpc] using h4
  | atSelect g seen =>
    simp only [hpc] at h4 ⊢
    exact ⟨h4.1, h4.2.1, Nat.lt_of_lt_of_le h4.2.2.1 hnf, h4.2.2.2⟩
  | done o =>
    simp only [hpc] at h4 ⊢
    cases o with
    | payload b =>
      obtain ⟨hb, f, ks, hf, hr, ha⟩ := h4
      exact ⟨hb, f, ks, Nat.lt_of_lt_of_le hf hnf, by rw [hres f hf (by simp [hr]), hr], ha⟩
    | _ => exact h4

theorem okKeys_of_res {m : MState} {f : Fid} {ks : List JWK} (h : m.res f = some (.ok, ks)) : okKeys m f = some ks := by
  simp [okKeys, h]

theorem acceptJustified_of_mayHit {m : MState} {mc : MCaller} (h : mc.mayHit = true) : acceptJustified m mc = true := by
  simp [acceptJustified, h]

theorem acceptJustified_of {m : MState} {mc : MCaller} {f : Fid} {ks : List JWK}
    (hf : f < m.nf) (hk : okKeys m f = some ks) (hs : mc.stale f = false) (ha : refAccepts ks mc.tok = true) : acceptJustified m mc = true := by
  unfold acceptJustified
  rw [Bool.or_eq_true, List.any_eq_true]
  exact Or.inr ⟨f, List.mem_range.mpr hf, by simp [hk, hs, ha]⟩

theorem rejectJustified_of {m : MState} {mc : MCaller} {f : Fid} {ks : List JWK}
    (hf : f < m.nf) (hk : okKeys m f = some ks)
    (ha : (mc.asked f = false ∧ refAccepts ks mc.tok = false) ∨ namedKeyRejects m.skip ks mc.tok = true) : rejectJustified m mc = true := by
  unfold rejectJustified
  rw [List.any_eq_true]
  refine ⟨f, List.mem_range.mpr hf, ?_⟩
  rcases ha with ⟨h1, h2⟩ | h
  · simp [hk, h1, h2]
  · simp [hk, h]

theorem fetchErrJustified_of {m : MState} {mc : MCaller} {f : Fid} {k : EndKind}
    (hf : f < m.nf) (hs : mc.asked f = false) (hk : failedWith m f k = true) : fetchErrJustified m mc k = true := by
  unfold fetchErrJustified
  rw [List.any_eq_true]
  exact ⟨f, List.mem_range.mpr hf, by simp [hs, hk]⟩

/-- what it means that the monitor has nothing to object to when call `c` returns `o` -/
theorem judge_none_iff {m : MState} {c : Cid} {o : Outcome} :
    judge m c o = none ↔ (m.callers c).started = true ∧ (m.callers c).finished = false ∧
      match o with
      | .payload b => b = (m.callers c).tok.payload.bytes ∧ acceptJustified m (m.callers c) = true
      | .ctxErr => (m.callers c).cancelled = true
      | .fetchErr k => (m.callers c).hit = false ∧ (k = .cancelled → (m.callers c).cancelled = true) ∧
          fetchErrJustified m (m.callers c) k = true
      | .noKey | .badSig => (m.callers c).hit = false ∧ rejectJustified m (m.callers c) = true
      | _ => False := by
  simp only [judge]
  cases hs : (m.callers c).started <;> cases hf : (m.callers c).finished <;> cases o <;> simp
  all_goals (repeat' split) <;> simp_all

theorem classify_payload (p : Payload) (e : Option String) (c : Cause) : classify (some p, e) c = .payload p.bytes := rfl
theorem classify_badSig (c : Cause) : classify (none, some msgBadSig) c = .badSig := by
  have h1 : (msgBadSig == msgFetch) = false := by decide +kernel
  have h2 : (msgBadSig == msgNoKey) = false := by decide +kernel
  simp [classify, h1, h2]
theorem classify_noKey (c : Cause) : classify (none, some msgNoKey) c = .noKey := by
  have h1 : (msgNoKey == msgFetch) = false := by decide +kernel
  simp [classify, h1]
theorem classify_fetch_ctx : classify (none, some msgFetch) .ctx = .ctxErr := by simp [classify]
theorem classify_fetch_fail (k : EndKind) : classify (none, some msgFetch) (.fetch k) = .fetchErr k := by simp [classify]

theorem cachePhase_eq (cfg : JwksSet) (hd : cfg.defaultAlg = "") (cached : List JWK) (j : JWS) :
    cachePhase GenJwks.logic cfg cached j =
      match cacheAns cfg.skipRemoteCheck cached j with
      | .hit p => (some p, none)
      | .reject => (none, some msgBadSig)
      | .miss => (none, some needRemoteMark) := by
  unfold cachePhase
  rw [logic_cached cfg hd]
  try (cases cacheAns cfg.skipRemoteCheck cached j <;> rfl)

theorem fullVerify_miss (cfg : JwksSet) (hd : cfg.defaultAlg = "") (seen : List JWK) (rem : List JWK × Option String) (j : JWS)
    (h : cacheAns cfg.skipRemoteCheck seen j = .miss) :
    fullVerify GenJwks.logic cfg seen rem j = GenJwks.logic.verifySignatureRemote cfg rem j (GetKeyIDAndAlg j).1 (GetKeyIDAndAlg j).2 := by
  unfold fullVerify
  rw [logic_cached cfg hd, h]

/-- what the invariant says of request `f` alone, its owner apart -/
def FetchInv (s : State) (m : MState) (f : Nat) : Prop :=
  m.begun f = decide (f < s.nf) ∧ m.res f = resOf (s.fetches f).res ∧
  (∀ k, (s.fetches f).res = some (.fail k) → k ≠ .ok ∧ k ≠ .cancelled) ∧
  (s.nf ≤ f → (s.fetches f).res = none ∧ (s.fetches f).upc = 0) ∧
  ((s.fetches f).upc ≤ 2 ∧ ((s.fetches f).res = none ↔ (s.fetches f).upc = 0)) ∧
  (s.fetches f).sig = (if (s.fetches f).upc = 2 then (s.fetches f).res else none) ∧
  m.announced f = decide ((s.fetches f).upc = 2) ∧
  (s.inflight = some f → f < s.nf ∧ (s.fetches f).upc ≤ 1) ∧
  (f < s.nf → s.inflight ≠ some f → (s.fetches f).upc = 2)

theorem Inv.fetch {cfg : JwksSet} {s : State} {m : MState} (hI : Inv cfg s m) (f : Nat) : FetchInv s m f :=
  ⟨hI.begun f, hI.res f, hI.resKind f, hI.fresh f, hI.upc f, hI.sig f, hI.ann f, hI.infl f, hI.others f⟩

theorem Inv.of_fetch {cfg : JwksSet} {s : State} {m : MState} (noViol : m.viol = none) (noCrash : s.crashed = false)
    (skipEq : m.skip = cfg.skipRemoteCheck) (served : m.served = s.served) (nf : m.nf = s.nf) (cache : m.cacheExpect = s.cached)
    (fetch : ∀ f : Nat, FetchInv s m f)
    (cacheSafe : s.cached = [] ∨ ∃ f, f < s.nf ∧ (s.fetches f).res = some (.keys s.cached))
    (owner : ∀ f : Nat, f < s.nf → (match (s.callers (s.fetches f).owner).pc with | .atSelect _ _ | .done _ => True | _ => False))
    (ownerUniq : ∀ f g : Nat, f < s.nf → g < s.nf → (s.fetches f).owner = (s.fetches g).owner → f = g)
    (callers : ∀ c : Nat, CallerInv cfg s m c) : Inv cfg s m :=
  { noViol, noCrash, skipEq, served, nf, cache, cacheSafe, owner, ownerUniq, callers,
    begun := fun f => (fetch f).1, res := fun f => (fetch f).2.1, resKind := fun f => (fetch f).2.2.1, fresh := fun f => (fetch f).2.2.2.1,
    upc := fun f => (fetch f).2.2.2.2.1, sig := fun f => (fetch f).2.2.2.2.2.1, ann := fun f => (fetch f).2.2.2.2.2.2.1,
    infl := fun f => (fetch f).2.2.2.2.2.2.2.1, others := fun f => (fetch f).2.2.2.2.2.2.2.2 }

/-- a step that changes nothing but one call (and what the monitor remembers of that call) -/
theorem inv_caller_update {cfg : JwksSet} {s : State} {m : MState} (hI : Inv cfg s m) (c : Cid) {cs : Cid → Caller} {mcs : Cid → MCaller}
    (hso : ∀ c', c' ≠ c → cs c' = s.callers c') (hmo : ∀ c', c' ≠ c → mcs c' = m.callers c')
    (hown : (match (s.callers c).pc with | .atSelect _ _ | .done _ => True | _ => False) →
      match (cs c).pc with | .atSelect _ _ | .done _ => True | _ => False)
    (hc : CallerInv cfg { s with callers := cs } { m with callers := mcs } c) :
    Inv cfg { s with callers := cs } { m with callers := mcs } := by
  refine Inv.of_fetch hI.noViol hI.noCrash hI.skipEq hI.served hI.nf hI.cache hI.fetch hI.cacheSafe ?_ hI.ownerUniq ?_
  · intro f hf
    dsimp only
    by_cases ho : (s.fetches f).owner = c
    · rw [ho]; exact hown (ho ▸ hI.owner f hf)
    · rw [hso _ ho]; exact hI.owner f hf
  · intro c'
    by_cases hcc : c' = c
    · exact hcc ▸ hc
    · exact callerInv_congr (hI.callers c') (hso c' hcc) (hmo c' hcc) rfl (Nat.le_refl _) (fun _ _ _ => rfl) (fun _ h => h)

theorem Inv.res_of_sig {cfg : JwksSet} {s : State} {m : MState} (hI : Inv cfg s m) {g : Fid} {r : FetchRes}
    (h : (s.fetches g).sig = some r) : (s.fetches g).res = some r := by
  have := hI.sig g
  rw [h] at this
  split at this
  · exact this.symm
  · cases this

/-- a request whose updater has not finished is the one in flight -/
theorem Inv.inflight_of_open {cfg : JwksSet} {s : State} {m : MState} (hI : Inv cfg s m) {f : Fid} (hf : f < s.nf)
    (hu : (s.fetches f).upc ≠ 2) : s.inflight = some f :=
  Decidable.byContradiction fun h => hu (hI.others f hf h)

theorem Inv.anyOpen_false {cfg : JwksSet} {s : State} {m : MState} (hI : Inv cfg s m) (hinf : s.inflight = none) : anyOpen m = false := by
  unfold anyOpen
  rw [List.any_eq_false]
  intro g hg
  rw [List.mem_range, hI.nf] at hg
  have h2 := hI.others g hg (by rw [hinf]; simp)
  have hu := (hI.upc g).2
  rw [hI.res]
  cases hr : (s.fetches g).res with
  | none => have := hu.mp hr; omega
  | some r => cases r <;> simp [resOf]

theorem Inv.done {cfg : JwksSet} {s : State} {m : MState} (hI : Inv cfg s m) {c : Cid} {o : Outcome} (hc : (s.callers c).pc = .done o) :
    DoneOK s (s.callers c).tok (s.callers c).live o := by
  have := (hI.callers c).2.2.2
  rwa [hc] at this

/-- the last block of `updateKeys` keeps the results -/
theorem upd_res (t : Fid → Fetch) (f g : Fid) (sg : Option FetchRes) (u : Nat) :
    (upd t f { t f with upc := u, sig := sg } g).res = (t g).res := by
  by_cases hg : g = f
  · rw [hg, upd_same]
  · rw [upd_other _ _ _ _ hg]

theorem upd_owner (t : Fid → Fetch) (f g : Fid) (r sg : Option FetchRes) (u : Nat) :
    (upd t f { t f with res := r, upc := u, sig := sg } g).owner = (t g).owner := by
  by_cases hg : g = f
  · rw [hg, upd_same]
  · rw [upd_other _ _ _ _ hg]

section steps
variable {cfg : JwksSet} (hd : cfg.defaultAlg = "") {s s' : State} {m : MState} {obs : List Obs}

theorem inv_start {c : Cid} {tok : JWS} (hI : Inv cfg s m)
    (hx : exec fixedFacts GenJwks.logic cfg s (.start c tok) = some (s', obs)) : Inv cfg s' (mrun m obs) := by
  simp only [exec, Option.ite_none_left_eq_some, Option.some.injEq, Prod.mk.injEq, Bool.or_eq_true, bne_iff_ne, ne_eq, not_or,
    Decidable.not_not] at hx
  obtain ⟨⟨_, hidle⟩, rfl, rfl⟩ := hx
  have hns : (m.callers c).started = false := by simpa [hidle] using (hI.callers c).1
  simp only [mrun_cons, mrun_nil, mstep, hns, Bool.false_eq_true, if_false]
  refine inv_caller_update hI c (fun _ h => upd_other _ _ _ _ h) (fun _ h => upd_other _ _ _ _ h) (by rw [hidle]; exact False.elim) ?_
  simp [CallerInv, hI.cache]

theorem inv_finish {c : Cid} {o : Outcome} (hI : Inv cfg s m) (hpc : (s.callers c).pc ≠ .idle)
    (hj : judge m c o = none) (hdone : DoneOK s (s.callers c).tok (s.callers c).live o) :
    Inv cfg { s with callers := upd s.callers c { s.callers c with pc := .done o } } (mrun m [Obs.finish c o]) := by
  obtain ⟨hst, _, h3, _⟩ := hI.callers c
  simp only [mrun_cons, mrun_nil, mstep, hj]
  refine inv_caller_update hI c (fun _ h => upd_other _ _ _ _ h) (fun _ h => upd_other _ _ _ _ h) (fun _ => by simp) ?_
  unfold CallerInv
  simp only [upd_same]
  exact ⟨by simp [hst, bne_iff_ne.mpr hpc], trivial, fun _ => h3 hpc, hdone⟩

theorem inv_rotate {ks : List ServedKey} (hI : Inv cfg s m)
    (hx : exec fixedFacts GenJwks.logic cfg s (.rotate ks) = some (s', obs)) : Inv cfg s' (mrun m obs) := by
  simp only [exec] at hx
  split at hx
  · simp at hx
  · simp only [Option.some.injEq, Prod.mk.injEq] at hx
    obtain ⟨rfl, rfl⟩ := hx
    simp only [mrun_cons, mrun_nil, mstep]
    exact Inv.of_fetch hI.noViol hI.noCrash hI.skipEq rfl hI.nf hI.cache hI.fetch hI.cacheSafe hI.owner hI.ownerUniq
      fun c' => callerInv_congr (hI.callers c') rfl rfl rfl (Nat.le_refl _) (fun _ _ _ => rfl) (fun _ h => h)

/-- the context of call `c` ends (`cancel()`, or its deadline passes): under the regenerated facts (`spawnCtx = detached`) this
    touches nothing but that call's liveness, and the monitor notes it -/
theorem inv_endCtx {c : Cid} {e : Bool} (hI : Inv cfg s m) :
    Inv cfg { s with callers := upd s.callers c { s.callers c with live := false, expired := e } }
      { m with callers := upd m.callers c { m.callers c with cancelled := true } } := by
  refine inv_caller_update hI c (fun _ h => upd_other _ _ _ _ h) (fun _ h => upd_other _ _ _ _ h) ?_ ?_
  · simp
  · obtain ⟨h1, h2, h3, h4⟩ := hI.callers c
    unfold CallerInv
    simp only [upd_same]
    refine ⟨h1, h2, fun hne => ⟨(h3 hne).1, by simp, (h3 hne).2.2⟩, ?_⟩
    cases hpc : (s.callers c).pc with
    | done o =>
      simp only [hpc] at h4 ⊢
      cases o <;> simp_all [DoneOK]
    | _ => simpa [hpc] using h4

/-- `cancel` and `expire` under the regenerated facts (`spawnCtx = detached`): no download is touched -/
theorem exec_cancel_fixed (L : Logic) (cfg : JwksSet) (s : State) (c : Cid) :
    exec fixedFacts L cfg s (.cancel c) =
      if s.crashed || (s.callers c).pc == .idle then none else
      some ({ s with callers := upd s.callers c { s.callers c with live := false } }, [.cancel c]) := rfl

theorem exec_expire_fixed (L : Logic) (cfg : JwksSet) (s : State) (c : Cid) :
    exec fixedFacts L cfg s (.expire c) =
      if s.crashed || (s.callers c).pc == .idle then none else
      some ({ s with callers := upd s.callers c { s.callers c with live := false, expired := true } }, [.expire c]) := rfl

theorem inv_cancel {c : Cid} (hI : Inv cfg s m)
    (hx : exec fixedFacts GenJwks.logic cfg s (.cancel c) = some (s', obs)) : Inv cfg s' (mrun m obs) := by
  simp only [exec_cancel_fixed, Option.ite_none_left_eq_some, Option.some.injEq, Prod.mk.injEq] at hx
  obtain ⟨_, rfl, rfl⟩ := hx
  exact inv_endCtx hI

theorem inv_expire {c : Cid} (hI : Inv cfg s m)
    (hx : exec fixedFacts GenJwks.logic cfg s (.expire c) = some (s', obs)) : Inv cfg s' (mrun m obs) := by
  simp only [exec_expire_fixed, Option.ite_none_left_eq_some, Option.some.injEq, Prod.mk.injEq] at hx
  obtain ⟨_, rfl, rfl⟩ := hx
  exact inv_endCtx hI

theorem mark_ne_badSig : ((none, some msgBadSig) == ((none, some needRemoteMark) : GoPair)) = false := by decide +kernel

include hd in
theorem inv_cacheRead {c : Cid} (hI : Inv cfg s m)
    (hx : exec fixedFacts GenJwks.logic cfg s (.cacheRead c) = some (s', obs)) : Inv cfg s' (mrun m obs) := by
  simp only [exec] at hx
  split at hx
  · simp at hx
  · rename_i hcond
    have hpc : (s.callers c).pc = .atCache := by
      simp only [Bool.or_eq_true, bne_iff_ne, ne_eq, not_or, Decidable.not_not] at hcond
      exact hcond.2
    have hC := hI.callers c
    unfold CallerInv at hC
    rw [hpc] at hC
    simp only [ne_eq, reduceCtorEq, not_false_eq_true, forall_const, bne_iff_ne] at hC
    obtain ⟨hst, hfin, ⟨htok, hcan, hstale⟩, hown, hhit, hmay⟩ := hC
    replace hst : (m.callers c).started = true := by rw [hst]; decide
    have nohit : refAccepts s.cached (s.callers c).tok = false → (m.callers c).hit = false := fun hr =>
      (Bool.eq_false_or_eq_true _).elim (fun h => by rw [hhit h] at hr; cases hr) id
    rw [cachePhase_eq cfg hd] at hx
    have hspec := cacheAns_spec cfg.skipRemoteCheck s.cached (s.callers c).tok
    cases hans : cacheAns cfg.skipRemoteCheck s.cached (s.callers c).tok with
    | miss =>
      simp only [hans] at hx hspec
      simp only [beq_self_eq_true, if_true, Option.some.injEq, Prod.mk.injEq] at hx
      obtain ⟨rfl, rfl⟩ := hx
      simp only [mrun_cons, mrun_nil, mstep]
      refine inv_caller_update hI c (fun _ h => upd_other _ _ _ _ h) (fun _ _ => rfl) (by rw [hpc]; exact False.elim) ?_
      unfold CallerInv
      simp only [upd_same, hst, hfin, htok, hcan, hown, hans]
      simpa [hpc, nohit hspec] using hstale
    | hit p =>
      simp only [hans] at hx hspec
      have hne : (((some p, none) : GoPair) == (none, some needRemoteMark)) = false := by simp
      simp only [hne, Bool.false_eq_true, if_false, classify_payload, Option.some.injEq, Prod.mk.injEq] at hx
      obtain ⟨rfl, rfl⟩ := hx
      obtain ⟨hp, hacc⟩ := hspec
      have hne' : s.cached ≠ [] := fun h => by simp [h, cacheAns] at hans
      obtain ⟨f, hf, hr⟩ := hI.cacheSafe.resolve_left hne'
      exact inv_finish hI (by simp [hpc]) (judge_none_iff.mpr ⟨hst, hfin, by rw [htok, hp], acceptJustified_of_mayHit (hmay hacc)⟩)
        ⟨by rw [hp], f, s.cached, hf, hr, hacc⟩
    | reject =>
      simp only [hans] at hx hspec
      simp only [mark_ne_badSig, Bool.false_eq_true, if_false, classify_badSig, Option.some.injEq, Prod.mk.injEq] at hx
      obtain ⟨rfl, rfl⟩ := hx
      obtain ⟨hrej, hnamed, hne'⟩ := hspec
      obtain ⟨f, hf, hr⟩ := hI.cacheSafe.resolve_left hne'
      refine inv_finish hI (by simp [hpc]) (judge_none_iff.mpr ⟨hst, hfin, nohit hrej, ?_⟩) trivial
      exact rejectJustified_of (f := f) (by rw [hI.nf]; exact hf) (okKeys_of_res (by rw [hI.res, hr]; rfl))
        (Or.inr (by rw [hI.skipEq, htok]; exact hnamed))

include hd in
theorem inv_wake {c : Cid} {viaCtx : Bool} (hI : Inv cfg s m)
    (hx : exec fixedFacts GenJwks.logic cfg s (.wake c viaCtx) = some (s', obs)) : Inv cfg s' (mrun m obs) := by
  simp only [exec] at hx
  split at hx
  case h_2 => simp at hx
  rename_i g seen hpc
  have hne : (s.callers c).pc ≠ .idle := by simp [hpc]
  have hC := hI.callers c
  unfold CallerInv at hC
  rw [hpc] at hC
  simp only [ne_eq, reduceCtorEq, not_false_eq_true, forall_const] at hC
  obtain ⟨hst, hfin, ⟨htok, hcan, hstale⟩, hhit, hmiss, hg, hsg, hag⟩ := hC
  replace hst : (m.callers c).started = true := by rw [hst]; simp
  replace hg : g < m.nf := by rw [hI.nf]; exact hg
  split at hx
  · simp at hx
  · split at hx
    · -- the context case
      split at hx
      · simp at hx
      · rename_i hlive
        have hl : (s.callers c).live = false := by
          simp only [Bool.or_eq_true, not_or, Bool.not_eq_true] at hlive
          exact hlive.1
        rw [fullVerify_miss cfg hd _ _ _ hmiss, logic_remote_err, classify_fetch_ctx] at hx
        simp only [Option.some.injEq, Prod.mk.injEq] at hx
        obtain ⟨rfl, rfl⟩ := hx
        exact inv_finish hI hne (judge_none_iff.mpr ⟨hst, hfin, by simp [hcan, hl]⟩) hl
    · -- the request was signalled
      split at hx
      · simp at hx
      · rename_i ks hs
        have hres := hI.res_of_sig hs
        have hok : okKeys m g = some ks := okKeys_of_res (by rw [hI.res, hres]; rfl)
        rw [fullVerify_miss cfg hd _ _ _ hmiss, logic_remote_ok] at hx
        have hra := refAccepts_eq ks (s.callers c).tok
        cases hr : remoteAns ks (s.callers c).tok with
        | accept p =>
          simp only [hr, classify_payload, Option.some.injEq, Prod.mk.injEq] at hx hra
          obtain ⟨rfl, rfl⟩ := hx
          have hp := remoteAns_accept_payload hr
          exact inv_finish hI hne (judge_none_iff.mpr ⟨hst, hfin, by rw [htok, hp], acceptJustified_of hg hok hsg (htok ▸ hra)⟩)
            ⟨by rw [hp], g, ks, hI.nf ▸ hg, hres, hra⟩
        | noKey | badSig =>
          simp only [hr, classify_noKey, classify_badSig, Option.some.injEq, Prod.mk.injEq] at hx hra
          obtain ⟨rfl, rfl⟩ := hx
          exact inv_finish hI hne (judge_none_iff.mpr ⟨hst, hfin, hhit, rejectJustified_of hg hok (Or.inl ⟨hag, htok ▸ hra⟩)⟩) trivial
      · rename_i k hs
        have hres := hI.res_of_sig hs
        obtain ⟨hk1, hk2⟩ := hI.resKind g k hres
        rw [fullVerify_miss cfg hd _ _ _ hmiss, logic_remote_err, classify_fetch_fail] at hx
        simp only [Option.some.injEq, Prod.mk.injEq] at hx
        obtain ⟨rfl, rfl⟩ := hx
        have hfw : failedWith m g k = true := by
          unfold failedWith
          rw [hI.res, hres]
          simp [resOf, hk1]
        exact inv_finish hI hne (judge_none_iff.mpr ⟨hst, hfin, hhit, fun h => absurd h hk2, fetchErrJustified_of hg hag hfw⟩) hk2

theorem mstep_fetchBegin_ok {m : MState} {f : Fid} {c : Cid} (h1 : anyOpen m = false) (h2 : (m.callers c).started = true)
    (h3 : (m.callers c).owned = 0) (h4 : m.begun f = false) :
    mstep m (.fetchBegin f c) =
      { m with nf := max m.nf (f + 1), begun := upd m.begun f true, callers := upd m.callers c { m.callers c with owned := 1 } } := by
  simp [mstep, h1, h2, h3, h4]

theorem mstep_fetchEnd_ok {m : MState} {f : Fid} {a : Option Answer} (h1 : m.begun f = true) (h2 : m.res f = none) :
    mstep m (.fetchEnd f a) = { m with res := upd m.res f (some (endOf a)) } := by
  simp [mstep, h1, h2]

/-- the call turns to the endpoint: only the monitor's snapshot `asked` of that call changes -/
theorem inv_ask {c : Cid} {seen : List JWK} (hI : Inv cfg s m) (hpc : (s.callers c).pc = .atLock seen) :
    Inv cfg s (mstep m (.ask c)) := by
  simp only [mstep]
  refine inv_caller_update hI c (fun _ _ => rfl) (fun _ h => upd_other _ _ _ _ h) id ?_
  have hC := hI.callers c
  unfold CallerInv at hC ⊢
  rw [hpc] at hC ⊢
  simpa [upd] using hC

/-- `enter` under the regenerated facts: the call joins the request in flight, or creates request `s.nf` and joins that -/
theorem exec_enter_fixed {L : Logic} {c : Cid} {seen : List JWK} (hpc : (s.callers c).pc = .atLock seen) (hcr : s.crashed = false) :
    exec fixedFacts L cfg s (.enter c) = some (
      match s.inflight with
      | some g => ({ s with callers := upd s.callers c { s.callers c with pc := .atSelect g seen } },
                   [Obs.ask c, .point (.caller c) "select"])
      | none => ({ s with nf := s.nf + 1, fetches := upd s.fetches s.nf { owner := c }, inflight := some s.nf,
                          callers := upd s.callers c { s.callers c with pc := .atSelect s.nf seen } },
                 [Obs.ask c, .fetchBegin s.nf c, .point (.caller c) "spawn", .point (.caller c) "select"])) := by
  cases hi : s.inflight <;> simp [exec, hpc, hcr, hi, fixedFacts]

/-- a call at the lock that has just asked may wait for a request that has not been announced -/
theorem callerInv_join {s' : State} {m' : MState} {c : Cid} {g : Fid} {seen : List JWK} {n : Nat} (hC : CallerInv cfg s m c)
    (hpc : (s.callers c).pc = .atLock seen) (hask : (m.callers c).asked = m.announced) (hna : m.announced g = false)
    (hs : s'.callers c = { s.callers c with pc := .atSelect g seen }) (hm : m'.callers c = { m.callers c with owned := n })
    (hann : m'.announced = m.announced) (hg : g < s'.nf) : CallerInv cfg s' m' c := by
  unfold CallerInv at hC ⊢
  rw [hpc] at hC
  rw [hs, hm, hann]
  simp only [ne_eq, reduceCtorEq, not_false_eq_true, forall_const] at hC
  obtain ⟨hst, hfin, h3, -, hhit, hmiss⟩ := hC
  refine ⟨by rw [hst]; rfl, hfin, fun _ => h3, hhit, hmiss, hg, ?_, by rw [hask]; exact hna⟩
  cases hsg : (m.callers c).stale g with
  | false => rfl
  | true => rw [h3.2.2 g hsg] at hna; cases hna

theorem inv_join {c : Cid} {g : Fid} {seen : List JWK} (hI : Inv cfg s m) (hask : (m.callers c).asked = m.announced)
    (hpc : (s.callers c).pc = .atLock seen) (hinf : s.inflight = some g) :
    Inv cfg { s with callers := upd s.callers c { s.callers c with pc := .atSelect g seen } }
      (mrun m [.point (.caller c) "select"]) := by
  obtain ⟨hgl, hgu⟩ := hI.infl g hinf
  have hna : m.announced g = false := by rw [hI.ann]; simp; omega
  simp only [mrun_cons, mrun_nil, mstep]
  exact inv_caller_update hI c (fun _ h => upd_other _ _ _ _ h) (fun _ _ => rfl) (fun _ => by simp)
    (callerInv_join (hI.callers c) hpc hask hna (upd_same ..) rfl rfl hgl)

theorem inv_create {c : Cid} {seen : List JWK} (hI : Inv cfg s m) (hask : (m.callers c).asked = m.announced)
    (hpc : (s.callers c).pc = .atLock seen) (hinf : s.inflight = none) :
    Inv cfg { s with nf := s.nf + 1, fetches := upd s.fetches s.nf { owner := c }, inflight := some s.nf,
                     callers := upd s.callers c { s.callers c with pc := .atSelect s.nf seen } }
      (mrun m [.fetchBegin s.nf c, .point (.caller c) "spawn", .point (.caller c) "select"]) := by
  obtain ⟨hst, -, -, h4⟩ := hI.callers c
  rw [hpc] at hst h4
  have hnotowner : ∀ f, f < s.nf → (s.fetches f).owner ≠ c := by
    intro f hf ho
    have := hI.owner f hf
    rw [ho, hpc] at this
    exact this
  have hb : m.begun s.nf = false := by rw [hI.begun]; simp
  have hfr := hI.fresh s.nf (Nat.le_refl _)
  have hna : m.announced s.nf = false := by rw [hI.ann, hfr.2]; simp
  rw [mrun_cons, mstep_fetchBegin_ok (hI.anyOpen_false hinf) (by simp [hst]) h4.1 hb]
  simp only [mrun_cons, mrun_nil, mstep]
  have hmax : max m.nf (s.nf + 1) = s.nf + 1 := by rw [hI.nf]; exact Nat.max_eq_right (by omega)
  refine Inv.of_fetch hI.noViol hI.noCrash hI.skipEq hI.served hmax hI.cache (fun f => ?_) ?_ ?_ ?_ ?_
  · by_cases hf : f = s.nf
    · simp [FetchInv, upd, hf, hI.res, hna, hfr.1, resOf]
    · have hlt : f < s.nf + 1 ↔ f < s.nf := by omega
      have hle : s.nf + 1 ≤ f ↔ s.nf ≤ f := by omega
      simpa [FetchInv, upd, hf, Ne.symm hf, hlt, hle, hinf] using hI.fetch f
  · refine hI.cacheSafe.imp id fun ⟨f, hf, hr⟩ => ⟨f, Nat.lt_succ_of_lt hf, ?_⟩
    have hf' : f ≠ s.nf := by omega
    simpa [upd, hf'] using hr
  · intro f hf
    by_cases hf' : f = s.nf
    · simp [upd, hf']
    · have hlt : f < s.nf := by dsimp only at hf; omega
      simpa [upd, hf', hnotowner f hlt] using hI.owner f hlt
  · intro f g hf hg ho
    dsimp only at hf hg ho
    by_cases hf' : f = s.nf <;> by_cases hg' : g = s.nf <;> simp only [upd, hf', hg', if_true, if_false] at ho
    · rw [hf', hg']
    · exact absurd ho.symm (hnotowner g (by omega))
    · exact absurd ho (hnotowner f (by omega))
    · exact hI.ownerUniq f g (by omega) (by omega) ho
  · intro c'
    by_cases hc : c' = c
    · subst hc
      exact callerInv_join (hI.callers c') hpc hask hna (upd_same ..) (upd_same ..) rfl (Nat.lt_succ_self _)
    · refine callerInv_congr (hI.callers c') (by simp [upd, hc]) (by simp [upd, hc]) rfl (by simp) ?_ (fun _ h => h)
      intro f hf _
      have hf' : f ≠ s.nf := by omega
      simp [upd, hf']

theorem inv_enter {c : Cid} (hI : Inv cfg s m)
    (hx : exec fixedFacts GenJwks.logic cfg s (.enter c) = some (s', obs)) : Inv cfg s' (mrun m obs) := by
  cases hpc : (s.callers c).pc
  case atLock seen =>
    rw [exec_enter_fixed hpc hI.noCrash] at hx
    -- the monitor first takes the snapshot `asked` of the call (`ask c`)
    have hask : ((mstep m (.ask c)).callers c).asked = (mstep m (.ask c)).announced := by simp [mstep]
    cases hinf : s.inflight with
    | none =>
      simp only [hinf, Option.some.injEq, Prod.mk.injEq] at hx
      obtain ⟨rfl, rfl⟩ := hx
      exact inv_create (inv_ask hI hpc) hask hpc hinf
    | some g =>
      simp only [hinf, Option.some.injEq, Prod.mk.injEq] at hx
      obtain ⟨rfl, rfl⟩ := hx
      rw [← hinf]
      exact inv_join (inv_ask hI hpc) hask hpc hinf
  all_goals simp [exec, hpc] at hx

theorem upd_upd {α : Type} (t : Nat → α) (i : Nat) (a b : α) : upd (upd t i a) i b = upd t i b := by
  funext j; by_cases h : j = i <;> simp [upd, h]

theorem runBlock_fixed_0 {f : Fid} {s : State} (h : (s.fetches f).upc = 0) :
    runBlock fixedFacts f s =
      ({ s with fetches := upd s.fetches f { s.fetches f with upc := 1 } }, [Obs.point (.updater f) "fetched"]) := by
  simp [runBlock, fixedFacts, h, ublock, uop]

theorem inv_respond {f : Fid} {a : Answer} (hI : Inv cfg s m)
    (hx : exec fixedFacts GenJwks.logic cfg s (.respond f a) = some (s', obs)) : Inv cfg s' (mrun m obs) := by
  simp only [exec] at hx
  split at hx
  · simp at hx
  · rename_i hcond
    simp only [Bool.or_eq_true, not_or, Bool.not_eq_true, bne_eq_false_iff_eq, Bool.not_eq_false', decide_eq_true_eq, beq_eq_false_iff_ne, ne_eq] at hcond
    obtain ⟨⟨hcr, hf⟩, hres⟩ := hcond
    have hupc0 : (s.fetches f).upc = 0 := (hI.upc f).2.mp hres
    rw [runBlock_fixed_0 (by simpa [upd] using hupc0)] at hx
    simp only [Option.some.injEq, Prod.mk.injEq, List.cons_append, List.nil_append] at hx
    obtain ⟨rfl, rfl⟩ := hx
    have hb : m.begun f = true := by rw [hI.begun]; simpa using hf
    have hr0 : m.res f = none := by rw [hI.res, hres]; rfl
    rw [mrun_cons, mstep_fetchEnd_ok hb hr0]
    simp only [mrun_cons, mrun_nil, mstep, upd_same, upd_upd]
    have hin : s.inflight = some f := hI.inflight_of_open hf (by omega)
    have hsig : (s.fetches f).sig = none := by rw [hI.sig, hupc0]; rfl
    refine Inv.of_fetch hI.noViol hI.noCrash hI.skipEq hI.served hI.nf hI.cache (fun g => ?_) ?_ ?_ ?_ ?_
    · by_cases hg : g = f
      · subst hg
        have hk := @ofAnswer_fail a
        simp [FetchInv, hf, hb, hin, hsig, hI.ann, hupc0, jwks_download_classification]
        exact fun k h => hk h
      · simpa [FetchInv, upd, hg] using hI.fetch g
    · refine hI.cacheSafe.imp id fun ⟨g, hg, hr⟩ => ⟨g, hg, ?_⟩
      have hne : g ≠ f := by rintro rfl; rw [hres] at hr; cases hr
      simpa [upd, hne] using hr
    · simpa only [upd_owner] using hI.owner
    · simpa only [upd_owner] using hI.ownerUniq
    · intro c'
      refine callerInv_congr (hI.callers c') rfl rfl rfl (Nat.le_refl _) ?_ (fun _ h => h)
      intro g hg hr
      have hne : g ≠ f := by intro h; rw [h] at hr; exact hr hres
      simp [upd, hne]

def storeKeys (cached : List JWK) : Option FetchRes → List JWK
  | some (.keys ks) => ks
  | _ => cached

theorem runBlock_fixed_1 {f : Fid} {s : State} (h : (s.fetches f).upc = 1) (hi : s.inflight = some f) (hs : (s.fetches f).sig = none)
    (hc : s.crashed = false) :
    runBlock fixedFacts f s =
      ({ s with cached := storeKeys s.cached (s.fetches f).res, inflight := none,
                fetches := upd s.fetches f { s.fetches f with upc := 2, sig := (s.fetches f).res } },
       [Obs.point (.updater f) "ulocked", Obs.announce f, Obs.retire f]) := by
  cases hr : (s.fetches f).res with
  | none => simp [runBlock, fixedFacts, h, ublock, uop, hi, hs, hc, hr, storeKeys, upd_upd]
  | some r =>
    cases r <;> simp [runBlock, fixedFacts, h, ublock, uop, hi, hs, hc, hr, storeKeys, upd_upd]

/-- the key set of a successful download replaces the cache (`retire` for the monitor) -/
theorem inv_store {f : Fid} {ks : List JWK} (hI : Inv cfg s m) (hf : f < s.nf) (hr : (s.fetches f).res = some (.keys ks)) :
    Inv cfg { s with cached := ks }
      { m with cacheExpect := ks, callers := fun c => { m.callers c with hit := (m.callers c).hit && refAccepts ks (m.callers c).tok,
                                                                          mayHit := (m.callers c).mayHit || refAccepts ks (m.callers c).tok } } := by
  refine Inv.of_fetch hI.noViol hI.noCrash hI.skipEq hI.served hI.nf rfl hI.fetch (Or.inr ⟨f, hf, hr⟩) hI.owner hI.ownerUniq fun c => ?_
  obtain ⟨h1, h2, h3, h4⟩ := hI.callers c
  refine ⟨h1, h2, h3, ?_⟩
  dsimp only
  cases hpc : (s.callers c).pc with
  | idle => trivial
  | atCache =>
    simp only [hpc] at h4 ⊢
    rw [← (h3 (by rw [hpc]; simp)).1, Bool.and_eq_true, Bool.or_eq_true]
    exact ⟨h4.1, fun hh => hh.2, Or.inr⟩
  | atLock seen | atSelect g seen =>
    simp only [hpc] at h4 ⊢
    simp [h4]
  | done o =>
    simp only [hpc] at h4 ⊢
    exact h4

theorem inv_upd {f : Fid} (hI : Inv cfg s m)
    (hx : exec fixedFacts GenJwks.logic cfg s (.upd f) = some (s', obs)) : Inv cfg s' (mrun m obs) := by
  simp only [exec] at hx
  split at hx
  · simp at hx
  · rename_i hcond
    have hlen : fixedFacts.updBlocks.length = 2 := rfl
    simp only [hlen, Bool.or_eq_true, not_or, Bool.not_eq_true, Bool.not_eq_false', decide_eq_true_eq, beq_eq_false_iff_ne, ne_eq] at hcond
    obtain ⟨⟨⟨⟨hcr, hf⟩, hres⟩, hu0⟩, hu2⟩ := hcond
    have hupc : (s.fetches f).upc = 1 := by omega
    have hinf : s.inflight = some f := hI.inflight_of_open hf (by omega)
    have hsig : (s.fetches f).sig = none := by rw [hI.sig, hupc]; simp
    rw [runBlock_fixed_1 hupc hinf hsig hcr] at hx
    simp only [Option.some.injEq, Prod.mk.injEq] at hx
    obtain ⟨rfl, rfl⟩ := hx
    -- the request is signalled, announced and released; the cache is dealt with afterwards
    have hA : Inv cfg
        { s with inflight := none,
                 fetches := upd s.fetches f { owner := (s.fetches f).owner, res := (s.fetches f).res, upc := 2, sig := (s.fetches f).res } }
        { m with announced := upd m.announced f true } := by
      refine Inv.of_fetch hI.noViol hI.noCrash hI.skipEq hI.served hI.nf hI.cache (fun g => ?_) ?_ ?_ ?_ ?_
      · by_cases hg : g = f
        · subst hg
          simpa [FetchInv, hf, hres, hI.begun] using And.intro (hI.res g) (hI.resKind g)
        · simpa [FetchInv, upd, hg, Ne.symm hg, hinf] using hI.fetch g
      · exact hI.cacheSafe.imp id fun ⟨g, hg, hr⟩ => ⟨g, hg, (upd_res ..).trans hr⟩
      · simpa only [upd_owner] using hI.owner
      · simpa only [upd_owner] using hI.ownerUniq
      · intro c
        refine callerInv_congr (hI.callers c) rfl rfl rfl (Nat.le_refl _) (fun g _ _ => upd_res ..) (fun g hg => ?_)
        by_cases hgf : g = f
        · subst hgf; simp [upd]
        · simpa [upd, hgf] using hg
    cases hr : (s.fetches f).res with
    | none => exact absurd hr hres
    | some r =>
      rw [hr] at hA
      cases r with
      | keys ks =>
        simp only [mrun_cons, mrun_nil, mstep, okKeys, hI.res, hr, resOf]
        exact inv_store (ks := ks) hA hf (by simp [upd])
      | fail k =>
        have hk := (hI.resKind f k hr).1
        simp only [mrun_cons, mrun_nil, mstep, okKeys, hI.res, hr, resOf]
        cases k <;> first | exact absurd rfl hk | exact hA

end steps

/-! ## Part 3 — the property theorems -/

theorem inv_step {cfg : JwksSet} (hd : cfg.defaultAlg = "") {s s' : State} {m : MState} {obs : List Obs} (hI : Inv cfg s m) (a : Act)
    (hx : exec fixedFacts GenJwks.logic cfg s a = some (s', obs)) : Inv cfg s' (mrun m obs) := by
  cases a with
  | start c tok => exact inv_start hI hx
  | cacheRead c => exact inv_cacheRead hd hI hx
  | enter c => exact inv_enter hI hx
  | wake c v => exact inv_wake hd hI hx
  | cancel c => exact inv_cancel hI hx
  | expire c => exact inv_expire hI hx
  | rotate ks => exact inv_rotate hI hx
  | respond f a => exact inv_respond hI hx
  | upd f => exact inv_upd hI hx

theorem inv_run {cfg : JwksSet} (hd : cfg.defaultAlg = "") (tr : List Act) :
    ∀ (s s' : State) (m : MState) (obs : List Obs), Inv cfg s m →
      run fixedFacts GenJwks.logic cfg s tr = some (s', obs) → Inv cfg s' (mrun m obs) := by
  induction tr with
  | nil =>
    intro s s' m obs hI hr
    simp only [run, Option.some.injEq, Prod.mk.injEq] at hr
    obtain ⟨rfl, rfl⟩ := hr
    exact hI
  | cons a rest ih =>
    intro s s' m obs hI hr
    simp only [run] at hr
    split at hr
    · simp at hr
    · rename_i s1 o1 h1
      split at hr
      · simp at hr
      · rename_i s2 o2 h2
        simp only [Option.some.injEq, Prod.mk.injEq] at hr
        obtain ⟨rfl, rfl⟩ := hr
        rw [mrun_append]
        exact ih s1 s2 (mrun m o1) o2 (inv_step hd hI a h1) h2

/-- every reachable state of the model (as regenerated from jwks.go) satisfies the invariant, together with the state of
    the monitor that has consumed the run's observations -/
theorem reach_inv (cfg : JwksSet) (hd : cfg.defaultAlg = "") {tr : List Act} {s : State} {obs : List Obs}
    (h : run GenJwks.facts GenJwks.logic cfg {} tr = some (s, obs)) :
    Inv cfg s (mrun { skip := cfg.skipRemoteCheck } obs) := by
  rw [facts_bridge] at h
  exact inv_run hd tr {} s _ obs (inv_init cfg) h

/-- **C13 (main theorem).** For EVERY schedule — any number of concurrent calls, any interleaving of cache reads, critical
    sections, downloads, faults (5xx, bad JSON, dropped unknown key types), rotations, cancellations and passing deadlines
    (`Act.cancel`, `Act.expire` of any call at any position), any `select` choice —
    the observations the model produces satisfy the monitor. -/
theorem jwks_model_satisfies_monitor (cfg : JwksSet) (hd : cfg.defaultAlg = "") (tr : List Act) (s : State) (obs : List Obs)
    (h : run GenJwks.facts GenJwks.logic cfg {} tr = some (s, obs)) :
    C13.monitor cfg.skipRemoteCheck obs = none :=
  (reach_inv cfg hd h).noViol

section clauses
variable (cfg : JwksSet) (hd : cfg.defaultAlg = "") {tr : List Act} {s : State} {obs : List Obs}
  (h : run GenJwks.facts GenJwks.logic cfg {} tr = some (s, obs))
include hd h

/-- single flight: at most one download is running, and it is the one recorded in `r.inflight` -/
theorem jwks_single_flight (f g : Nat) (hf : f < s.nf) (hg : g < s.nf)
    (h1 : (s.fetches f).res = none) (h2 : (s.fetches g).res = none) : f = g ∧ s.inflight = some f := by
  have hI := reach_inv cfg hd h
  have u1 := (hI.upc f).2.mp h1
  have u2 := (hI.upc g).2.mp h2
  have i1 : s.inflight = some f := hI.inflight_of_open hf (by omega)
  have i2 : s.inflight = some g := hI.inflight_of_open hg (by omega)
  rw [i1] at i2
  exact ⟨by simpa using i2, i1⟩

/-- cache safety: the cache is empty or holds exactly the key set of a SUCCESSFUL download (a failed or malformed download
    never replaces or discards it) -/
theorem jwks_cache_safe : s.cached = [] ∨ ∃ f, f < s.nf ∧ (s.fetches f).res = some (.keys s.cached) :=
  (reach_inv cfg hd h).cacheSafe

/-- soundness: a call returns a payload only if it is its token's payload and the token verifies (C02 semantics) against
    the key set of a successful download -/
theorem jwks_sound (c : Nat) (b : Nat) (hc : (s.callers c).pc = .done (.payload b)) :
    b = (s.callers c).tok.payload.bytes ∧
      ∃ f ks, f < s.nf ∧ (s.fetches f).res = some (.keys ks) ∧ refAccepts ks (s.callers c).tok = true :=
  (reach_inv cfg hd h).done hc

/-- … hence (C02) a genuine signature by a key of that successfully downloaded set -/
theorem jwks_sound_key (c : Nat) (b : Nat) (hc : (s.callers c).pc = .done (.payload b)) :
    ∃ f ks sg k, f < s.nf ∧ (s.fetches f).res = some (.keys ks) ∧ (s.callers c).tok.Signatures = [sg] ∧
      C02.justifies { kind := .published, keys := ks } (s.callers c).tok sg k = true := by
  obtain ⟨_, f, ks, hf, hr, ha⟩ := jwks_sound cfg hd h c b hc
  obtain ⟨sg, k, hs, hj⟩ := refAccepts_justified ha
  exact ⟨f, ks, sg, k, hf, hr, hs, hj⟩

/-- at most one refresh per call: a call owns at most one download -/
theorem jwks_one_refresh_per_call (f g : Nat) (hf : f < s.nf) (hg : g < s.nf)
    (ho : (s.fetches f).owner = (s.fetches g).owner) : f = g :=
  (reach_inv cfg hd h).ownerUniq f g hf hg ho

/-- an unknown or retired key id is rejected: if no successfully downloaded key set contains a key that the token's (non-empty)
    kid could select, the call does not return a payload -/
theorem jwks_unknown_kid_rejected (c : Nat) (o : Outcome) (hc : (s.callers c).pc = .done o)
    (hkid : (GetKeyIDAndAlg (s.callers c).tok).1 ≠ "")
    (hunk : ∀ f ks, (s.fetches f).res = some (.keys ks) → ∀ k ∈ ks, k.KeyID ≠ (GetKeyIDAndAlg (s.callers c).tok).1 ∧ k.KeyID ≠ "") :
    ∀ b, o ≠ .payload b := by
  intro b hb
  subst hb
  obtain ⟨_, f, ks, _, hr, ha⟩ := jwks_sound cfg hd h c b hc
  rw [refAccepts_eq] at ha
  unfold remoteAns at ha
  cases hfm : FindMatchingKey (GetKeyIDAndAlg (s.callers c).tok).1 "sig" (GetKeyIDAndAlg (s.callers c).tok).2 ks with
  | error e => simp [hfm] at ha
  | ok k =>
    obtain ⟨hmem, _, _, hk⟩ := C02.findMatchingKey_ok hfm
    obtain ⟨n1, n2⟩ := hunk f ks hr k hmem
    rcases hk with hk | hk | hk
    · exact n1 hk
    · exact n2 hk
    · exact hkid hk

/-- cancel isolation, for both kinds of ending of a context (`Act.cancel c`: `cancel()` is called; `Act.expire c`: its deadline passes;
    `live = false` after either): no download is ever aborted by the end of a call's context, a call fails with its own context error
    only if its own context has ended, and never with the end of another call's context (`fetchErr .cancelled` = the download it waited
    for ended with `context canceled` or `context deadline exceeded`). Position-explicit form: `jwks_own_context_isolation` (C13Trace). -/
theorem jwks_cancel_isolation :
    (∀ f : Nat, (s.fetches f).res ≠ some (.fail .cancelled)) ∧
    (∀ c : Nat, (s.callers c).pc = .done .ctxErr → (s.callers c).live = false) ∧
    (∀ (c : Nat) k, (s.callers c).pc = .done (.fetchErr k) → k ≠ .cancelled) := by
  have hI := reach_inv cfg hd h
  exact ⟨fun f hf => (hI.resKind f _ hf).2 rfl, fun c hc => hI.done hc, fun c k hc => hI.done hc⟩

/-- freshness: the request a call waits for had not been announced (`inflight.done`) when the call started, nor when it turned to
    the endpoint (`ask`, the instant in front of `keysFromRemote`'s critical section), and it is either
    still the in-flight one or completely finished (result published, signalled and released in one step) -/
theorem jwks_fresh (c g : Nat) (seen : List JWK) (hc : (s.callers c).pc = .atSelect g seen) :
    ((mrun { skip := cfg.skipRemoteCheck } obs).callers c).stale g = false ∧
    ((mrun { skip := cfg.skipRemoteCheck } obs).callers c).asked g = false ∧ g < s.nf ∧
      (s.inflight = some g ∨ ((s.fetches g).upc = 2 ∧ (s.fetches g).sig = (s.fetches g).res)) := by
  have hI := reach_inv cfg hd h
  have := hI.callers c
  unfold CallerInv at this
  rw [hc] at this
  obtain ⟨_, _, _, _, _, hg, hs, ha⟩ := this
  refine ⟨hs, ha, hg, ?_⟩
  by_cases hi : s.inflight = some g
  · exact Or.inl hi
  · have hu := hI.others g hg hi
    exact Or.inr ⟨hu, by rw [hI.sig, hu]; simp⟩

/-- no panic: the nil `*inflight` dereference and the double `close(doneCh)` are unreachable -/
theorem jwks_no_panic : s.crashed = false := (reach_inv cfg hd h).noCrash

end clauses

/-! ## Part 4 — non-vacuity and sensitivity to the extracted facts -/

def wk1 : JWK := { KeyID := "k1", Use := "sig", kty := .ec, keyNo := 2 }
def wk2 : JWK := { KeyID := "k2", Use := "sig", kty := .ec, keyNo := 3 }
def wtok (kid : String) (signer pid : Nat) : JWS :=
  { Signatures := [{ Header := { Algorithm := "ES256", KeyID := kid }, signer := some signer, signedAlg := "ES256", signedBytes := pid, signedHdr := { Algorithm := "ES256", KeyID := kid } }],
    payload := { bytes := pid, claims := none } }

/-- answers of the endpoint: the JWKS document of a key set; an error status; a 200 that is not JSON; a 200 whose body is the
    document of `ks` followed by other bytes -/
def ansOk (ks : List ServedKey) : Answer := { whole := some ks, first := some ks }
def ans5xx : Answer := { status200 := false, wellFormed := false }
def ansBad : Answer := { wellFormed := false }
def ansTrailing (ks : List ServedKey) : Answer := { wellFormed := false, whole := none, first := some ks }

def outcomes (obs : List Obs) : List (Cid × Outcome) :=
  obs.filterMap fun o => match o with
    | .finish c out => some (c, out)
    | _ => none

/-- verdict of the monitor on the run of a schedule (none: the schedule is not executable) -/
def verdict (F : Facts) (tr : List Act) : Option (Option String × List (Cid × Outcome)) :=
  (run F GenJwks.logic {} {} tr).map fun r => (C13.monitor false r.2, outcomes r.2)

/-- a run of the model with a cache hit, a refresh after rotation that verifies, a retired kid rejected after
    one refresh, a failed download, and a cancelled waiter — all judged fine -/
def traceOK : List Act :=
  [.rotate [{ jwk := wk1 }], .start 0 (wtok "k1" 2 1), .cacheRead 0, .enter 0, .respond 0 (ansOk [{ jwk := wk1 }]), .upd 0, .wake 0 false,
   .start 1 (wtok "k1" 2 2), .cacheRead 1,
   .rotate [{ jwk := wk2 }], .start 2 (wtok "k2" 3 3), .cacheRead 2, .enter 2, .start 3 (wtok "k1" 2 4), .respond 1 (ansOk [{ jwk := wk2 }]), .upd 1, .wake 2 false,
   .cacheRead 3, .enter 3, .start 4 (wtok "k2" 3 5), .cacheRead 4, .start 5 (wtok "k7" 3 6), .cacheRead 5, .enter 5, .cancel 5, .wake 5 true,
   .respond 2 ans5xx, .upd 2, .wake 3 false]

example : verdict GenJwks.facts traceOK =
    some (none, [(0, .payload 1), (1, .payload 2), (2, .payload 3), (4, .payload 5), (5, .ctxErr), (3, .fetchErr .http5xx)]) := by rw [facts_bridge]; decide +kernel

/-- the call that started the download is cancelled while another call waits for it -/
def traceA : List Act :=
  [.rotate [{ jwk := wk1 }], .start 0 (wtok "k1" 2 1), .start 1 (wtok "k1" 2 2), .cacheRead 0, .cacheRead 1,
   .enter 0, .enter 1, .cancel 0, .wake 0 true, .respond 0 (ansOk [{ jwk := wk1 }]), .upd 0, .wake 1 false]

/-- the waiter is unaffected … -/
example : verdict GenJwks.facts traceA = some (none, [(0, .ctxErr), (1, .payload 2)]) := by rw [facts_bridge]; decide +kernel

/-- … and the clause is not vacuous: with the download bound to the first caller's context (`spawnCtx := .caller`)
    the same cancellation fails the waiter, and the monitor says so -/
def traceA' : List Act :=
  [.rotate [{ jwk := wk1 }], .start 0 (wtok "k1" 2 1), .start 1 (wtok "k1" 2 2), .cacheRead 0, .cacheRead 1,
   .enter 0, .enter 1, .cancel 0, .wake 0 true, .upd 0, .wake 1 false]
theorem jwks_cancel_isolation_needs_detached_ctx :
    verdict { fixedFacts with spawnCtx := .caller } traceA' = some (some "cancel-isolation", [(0, .ctxErr), (1, .fetchErr .cancelled)]) := by decide +kernel

/-- a call starts after the waiters were signalled; with `done` before the critical section (`legacyFacts.updBlocks`) it is
    answered from the finished download -/
def traceB : List Act :=
  [.rotate [{ jwk := wk1 }], .start 0 (wtok "k9" 2 1), .cacheRead 0, .enter 0, .respond 0 (ansOk [{ jwk := wk1 }]), .upd 0,
   .rotate [{ jwk := wk1 }, { jwk := wk2 }], .start 1 (wtok "k2" 3 2), .cacheRead 1, .enter 1, .wake 1 false]
theorem jwks_fresh_needs_done_under_lock :
    verdict { fixedFacts with updBlocks := legacyFacts.updBlocks } traceB = some (some "rejected-without-fresh-key-set", [(1, .noKey)]) := by decide +kernel

/-- on the extracted facts that window does not exist: the late call starts its own download and verifies -/
def traceB' : List Act :=
  [.rotate [{ jwk := wk1 }], .start 0 (wtok "k9" 2 1), .cacheRead 0, .enter 0, .respond 0 (ansOk [{ jwk := wk1 }]), .upd 0,
   .rotate [{ jwk := wk1 }, { jwk := wk2 }], .start 1 (wtok "k2" 3 2), .cacheRead 1, .enter 1, .respond 1 (ansOk [{ jwk := wk1 }, { jwk := wk2 }]), .upd 1, .wake 1 false]
example : verdict GenJwks.facts traceB' = some (none, [(1, .payload 2)]) := by rw [facts_bridge]; decide +kernel

/-- single flight depends on the `r.inflight == nil` test -/
theorem jwks_single_flight_needs_nil_test :
    verdict { fixedFacts with guardNil := false }
      [.start 0 (wtok "k1" 2 1), .start 1 (wtok "k1" 2 2), .cacheRead 0, .cacheRead 1, .enter 0, .enter 1]
      = some (some "second-download-in-flight", []) := by decide +kernel

/-- cache safety depends on the `err == nil` guard of `r.cachedKeys = keys` -/
theorem jwks_cache_safe_needs_err_guard :
    verdict { fixedFacts with updBlocks := [[.point "fetched"], [.point "ulocked", .store false, .doneField, .point "done", .clear, .point "published"]] }
      [.rotate [{ jwk := wk1 }], .start 0 (wtok "k1" 2 1), .cacheRead 0, .enter 0, .respond 0 (ansOk [{ jwk := wk1 }]), .upd 0, .wake 0 false,
       .start 1 (wtok "k9" 2 2), .cacheRead 1, .enter 1, .respond 1 ans5xx, .upd 1, .wake 1 false,
       .start 2 (wtok "k1" 2 3), .cacheRead 2, .enter 2, .respond 2 ansBad, .upd 2, .wake 2 false]
      = some (some "cached-keys-discarded", [(0, .payload 1), (1, .fetchErr .http5xx), (2, .fetchErr .badJson)]) := by decide +kernel

/-- a key set followed by other bytes is a failed download: the waiting call fails, the cache keeps `k1`,
    nothing is accepted because of it … -/
def traceTrailing : List Act :=
  [.start 0 (wtok "k1" 2 1), .cacheRead 0, .enter 0, .respond 0 (ansOk [{ jwk := wk1 }]), .upd 0, .wake 0 false,
   .start 1 (wtok "k2" 3 2), .cacheRead 1, .enter 1, .respond 1 (ansTrailing [{ jwk := wk2 }]), .upd 1, .wake 1 false,
   .start 2 (wtok "k1" 2 3), .cacheRead 2]
example : verdict GenJwks.facts traceTrailing = some (none, [(0, .payload 1), (1, .fetchErr .badJson), (2, .payload 3)]) := by rw [facts_bridge]; decide +kernel

/-- … and this depends on `HttpRequest` decoding the WHOLE body: with a streaming decoder (`json.NewDecoder(resp.Body).Decode`,
    which stops after the first JSON value) the same answer is taken for a successful download of `k2`: the token is accepted,
    the cached `k1` is gone (call 2 misses the cache), and the monitor objects -/
theorem jwks_sound_needs_whole_body_decode :
    verdict { fixedFacts with http := { fixedFacts.http with decodesWholeBody := false } } traceTrailing
      = some (some "accepted-without-served-key", [(0, .payload 1), (1, .payload 2)]) := by decide +kernel

/-- a perfect key set under a status other than 200 is a failed download, because `HttpRequest` tests the status first -/
theorem jwks_sound_needs_status_check :
    verdict { fixedFacts with http := { fixedFacts.http with checksStatus := false } }
      [.start 0 (wtok "k1" 2 1), .cacheRead 0, .enter 0, .respond 0 { ansOk [{ jwk := wk1 }] with status200 := false }, .upd 0, .wake 0 false]
      = some (some "accepted-without-served-key", [(0, .payload 1)]) := by decide +kernel

/-- the statement skeleton of `HttpRequest` that the streaming refactoring produces is read as `decodesWholeBody := false` -/
example : HttpFacts.ofSkeleton
    ["resp, err := client.Do(req)", "if err != nil {", "return err", "}", "defer resp.Body.Close()",
     "if resp.StatusCode != http.StatusOK {", "body, err := io.ReadAll(resp.Body)", "if err != nil {",
     "return fmt.Errorf(\"unable to read response body: %v\", err)", "}", "var oidcErr oidc.Error", "err = json.Unmarshal(body, &oidcErr)",
     "if err != nil || oidcErr.ErrorType == \"\" {", "return fmt.Errorf(\"http status not ok: %s %s\", resp.Status, body)", "}", "return &oidcErr", "}",
     "err = json.NewDecoder(resp.Body).Decode(response)", "if err != nil {", "return fmt.Errorf(\"failed to unmarshal response: %v\", err)", "}", "return nil"]
    = some { checksStatus := true, decodesWholeBody := false, decodeErrReturned := true } := by decide +kernel

end C13
