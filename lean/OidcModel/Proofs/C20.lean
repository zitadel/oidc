/-
  C20 — shared instances are race-free and isolated: theorems about the write-set facts that `factgen`
  regenerates from the Go source on every run (`Gen.facts`).

  Shape (DESIGN §4 C20, §5):
   * the generic theorems of `Proofs/Footprint.lean` hold for ALL programs (any sequence of constructions with any
     options and of API calls on any instances) and ALL interleavings (any number of goroutines, any schedule);
   * their hypotheses are `decide`d here on the generated lists.  The hypotheses are stated as EXACT lists:
     `hidden_exact`, `undisciplined_exact`.  A new hidden write, a dropped eager initialisation, a lock that no longer
     covers a write, … changes the generated list, the `decide` fails and the error names the list (and through it
     the site); so does a removed write.
   * The audited lists are in Model/C20Known.lean.  No package-level variable is written by any program
     (`c20_package_defaults_unchanged`, full strength); of the caller-supplied objects only the spare capacity of option /
     audience slices (class E) and the call-local JWKS decode target are excluded (`c20_supplied_objects_unchanged`, the
     `…_partial` theorems).
   * class E really is written (`c20e_witness`); closure-captured state is made concrete on the facts of seeded change C20-D (`factsD`).
-/
import OidcModel.Proofs.Footprint
import OidcModel.Generated.Footprint
import OidcModel.Spec.C20
import OidcModel.Model.C20Known
namespace C20
open Footprint

/-- the source minus the audited sites (`knownUnsync`, `auditedReads` of Model/C20Known.lean): what the race-freedom theorem is about -/
def rest : Facts := Gen.facts.drop knownUnsync auditedReads

/-! ## hypotheses decided on the generated lists -/

/- diagnostics for the build log (empty lists on the audited source): when one of the `…_exact` theorems below fails,
   these lines name the write sites that are new, or the audited entries that no longer exist. -/
#eval IO.println s!"C20-diagnostic new shared writes: {((hidden Gen.facts).filter fun p => !knownHidden.contains p).map fun p => (p.1, p.2.name)}"
#eval IO.println s!"C20-diagnostic new undisciplined sites: {(undisciplinedSites Gen.facts).filter fun p => !knownUnsync.contains p} reads: {(undisciplinedReads Gen.facts).filter fun p => !auditedReads.contains p}"
#eval IO.println s!"C20-diagnostic audited entries without a site: {(knownHidden.filter fun p => !(hidden Gen.facts).contains p).map fun p => (p.1, p.2.name)} {knownUnsync.filter fun p => !(undisciplinedSites Gen.facts).contains p}"

/-- the shared cells (package-level variables, caller-supplied objects) the library may write are EXACTLY the audited
    ones.  A new hidden write breaks this proof. -/
theorem hidden_exact : sameSet (hidden Gen.facts) knownHidden = true := by decide +kernel

/-- the write sites / guarded-field reads that fail the discipline check are EXACTLY the audited ones.
    Dropping an eager initialisation from a constructor, writing a field outside its mutex, … breaks this proof. -/
theorem undisciplined_exact :
    sameSet (undisciplinedSites Gen.facts) knownUnsync = true ∧ sameSet (undisciplinedReads Gen.facts) auditedReads = true := by decide +kernel

theorem rest_disciplined : disciplined rest = true := by decide +kernel

/-- "RP constructors pre-initialise lazily created fields": every `if x.f == nil { x.f = … }` of an instance type is
    executed by every constructor of that type -/
theorem lazy_fields_preinitialised :
    (Gen.facts.sites.filter fun s => s.guard == .ifNil && !lazyForm Gen.facts s) = [] := by decide +kernel

/-- "Provider holds only read-only configuration after NewProvider": no method of `op.Provider` writes at all -/
theorem provider_read_only :
    (Gen.facts.sites.filter fun s => apiPhase s && (siteTy s == "op.Provider")) = [] := by decide +kernel

theorem hidden_known {p : String × Cell} (hp : p ∈ hidden Gen.facts) : p ∈ knownHidden := by
  have hx := hidden_exact
  simp only [sameSet, Bool.and_eq_true, List.all_eq_true] at hx
  simpa using hx.1 p hp

theorem hidden_cells_known {c : Cell} (h : c ∈ (hidden Gen.facts).map Prod.snd) : c ∈ knownCells := by
  obtain ⟨p, hp, rfl⟩ := List.mem_map.mp h
  exact List.mem_map_of_mem (hidden_known hp)

/-- **C20, defaults and supplied objects (partial)**: for EVERY program — any order of constructing providers, relying
    parties, resource servers, token exchangers and key sets with any options, interleaved with any API calls on any of
    them — every package-level variable and every caller-supplied object other than the audited cells
    (class E: spare capacity of option / audience slices; the call-local JWKS decode target) has, after the program,
    exactly the value it had before. -/
theorem c20_globals_unchanged_partial (prog : List Step) (m m' : Mem) (h : RunRel Gen.facts prog m m')
    (c : Cell) (hs : c.shared = true) (hk : c.norm ∉ knownCells) : m' c = m c :=
  run_shared_frame Gen.facts prog m m' h c hs fun hmem => hk (hidden_cells_known hmem)

theorem knownCells_no_global (g : String) (p : List String) : Cell.global g p ∉ knownCells := by
  simp [knownCells, knownHidden, knownE, auditedHidden]

theorem no_global_root {s : WriteSite} (hs : s ∈ Gen.facts.sites) (g : String) : s.root ≠ .global g := by
  intro hr
  have hc : Cell.global g s.path ∈ (hidden Gen.facts).map Prod.snd :=
    List.mem_map.mpr ⟨(s.fn, .global g s.path),
      List.mem_flatMap.mpr ⟨s, hs, List.mem_map.mpr ⟨.global g s.path, by simp [siteAny, hr], rfl⟩⟩, rfl⟩
  exact knownCells_no_global g s.path (hidden_cells_known hc)

/-- **C20, package-level defaults (full strength)**: for EVERY program — any order of constructing providers (with any
    `WithCustom*Endpoint(s)` options), relying parties, resource servers, token exchangers and key sets, interleaved with
    any API calls (including `EndSession` / `RevokeToken`) — EVERY package-level variable of the library
    (`op.DefaultEndpoints`, `httphelper.DefaultHTTPClient`, …) has, after the program, exactly the value it had before.
    No exclusion. -/
theorem c20_package_defaults_unchanged (prog : List Step) (m m' : Mem) (h : RunRel Gen.facts prog m m')
    (g : String) (p : List String) : m' (.global g p) = m (.global g p) :=
  c20_globals_unchanged_partial prog m m' h (.global g p) rfl (knownCells_no_global g p)

theorem knownCells_no_captured (k : Nat) (o v : String) (p : List String) : Cell.captured k o v p ∉ knownCells := by
  simp [knownCells, knownHidden, knownE, auditedHidden]

/-- why a step keeps off the shared cells: to write one it has to run one of the audited writers (what `step_footprints`
    evaluates for the steps listed there) -/
theorem shared_write_needs_known_writer (st : Step) (c : Cell) (hc : c ∈ stepCells Gen.facts st) (hs : c.shared = true) :
    ∃ f ∈ stepFns Gen.facts st, f ∈ knownHidden.map Prod.fst := by
  obtain ⟨s, hsF, hact, hcs⟩ := stepCells_site hc
  have hk := hidden_known (hidden_of_site hsF hcs hs)
  refine ⟨s.fn, ?_, List.mem_map.mpr ⟨_, hk, rfl⟩⟩
  simp only [active, runsIn, Bool.and_eq_true, Bool.or_eq_true] at hact
  rcases hact.1 with h | h
  · exact List.contains_iff_mem.mp h
  · -- reached only through the function that made the closure: the site writes a captured variable, and no audited cell is one
    exfalso
    cases hr : s.root with
    | captured o v d =>
      have hcap : ∃ k p, c = .captured k o v p := by
        simp only [siteCells, hr, capturedCells] at hcs
        split at hcs
        · obtain ⟨k, _, rfl⟩ := List.mem_map.mp hcs; exact ⟨k, _, rfl⟩
        · rw [List.mem_singleton.mp hcs] at hs; cases hs
      obtain ⟨k, p, rfl⟩ := hcap
      exact knownCells_no_captured 0 o v p (List.mem_map_of_mem hk)
    | _ => simp [hr] at h

/-- **C20, closure-captured state (full strength)**: for EVERY program, every variable captured by a closure inside an
    option / issuer-factory value — whichever value, made by whichever library function, handed to however many
    constructions in whatever order — has, after the program, exactly the value it had before: no construction and no
    API call writes state that lives in a value shared between constructions.  No exclusion. -/
theorem c20_captured_state_unchanged (prog : List Step) (m m' : Mem) (h : RunRel Gen.facts prog m m')
    (k : Nat) (o v : String) (p : List String) : m' (.captured k o v p) = m (.captured k o v p) :=
  c20_globals_unchanged_partial prog m m' h (.captured k o v p) rfl (knownCells_no_captured 0 o v p)

/-- the types of the slices whose spare capacity may be written (class E) and of the call-local decode target -/
def exemptTypes : List String := ["[]rp.VerifierOption", "[]string", "[]op.ServerOption", "rp.jsonWebKeySet"]

/-- **C20, caller-supplied objects**: for every program, every object handed in by a caller — the `*http.Client`
    (also the one reached through `caller.HttpClient()`), the `*oauth2.Config`, a `DeviceAuthorizationState`, a `[]byte` —
    is unchanged, with the only exception of the slice types of class E and the decode target (`exemptTypes`). -/
theorem c20_supplied_objects_unchanged (prog : List Step) (m m' : Mem) (h : RunRel Gen.facts prog m m')
    (t : String) (p : List String) (ht : t ∉ exemptTypes) : m' (.supplied t p) = m (.supplied t p) := by
  apply c20_globals_unchanged_partial prog m m' h (.supplied t p) rfl
  intro hmem
  apply ht
  simp [knownCells, knownHidden, knownE, auditedHidden, Cell.norm] at hmem
  simp only [exemptTypes, List.mem_cons]
  rcases hmem with h | h | h | h <;> simp [h.1]

/-- **C20, isolation (partial)**: a step that constructs or uses instance `i` changes no field of any other instance `j`,
    no package-level variable, and no caller-supplied object outside the audited cells (class E) — so whatever another
    instance reads is unchanged. -/
theorem c20_instances_isolated_partial (st : Step) (m m' : Mem) (h : StepRel Gen.facts st m m') (c : Cell)
    (hc : (∃ j t f, c = .own j t f ∧ j ≠ st.inst.id) ∨ (c.shared = true ∧ c.norm ∉ knownCells)) : m' c = m c := by
  rcases hc with ⟨j, t, f, rfl, hj⟩ | ⟨hs, hk⟩
  · exact own_cells_of_step Gen.facts st m m' h j t f hj
  · exact c20_globals_unchanged_partial [st] m m' (.cons h (.nil m')) c hs hk

/-- **C20, race freedom (partial)**: for every pool of goroutines, each running any sequence of constructions and API
    calls on any (shared) instances, and for every schedule, no data-race state is reachable — for the source minus
    the audited sites (`rest`).  Race freedom is derived from the extracted discipline (read-only after construction,
    eager initialisation of lazy fields, writes and reads of guarded fields under the instance's mutex); the Go memory
    model itself is not modelled. -/
theorem c20_race_free_partial (threads : List (List Step)) (p : Pool)
    (hr : Reach (initPool (threads.map (threadSegs rest))) p) : ¬ Race p :=
  race_free_of_disciplined rest rest_disciplined threads p hr

/-- the model's own observation of a step -/
def modelObs (F : Facts) (st : Step) : Obs :=
  let cs := (stepCells F st).filter Cell.shared
  { globalsChanged := (cs.filter fun c => match c with | .global .. => true | _ => false).map Cell.name,
    suppliedChanged := (cs.filter fun c => match c with | .supplied .. => true | _ => false).map Cell.name,
    behaviourChanged := [], othersChanged := [],
    -- state captured inside a shared option / issuer-factory value: every other holder of the value behaves differently
    instanceBehaviourChanged := (cs.filter fun c => match c with | .captured .. => true | _ => false).map Cell.name,
    races := 0, panicked := false }

/-- the model satisfies the monitor on every step that touches no shared cell -/
theorem c20_model_satisfies_monitor (F : Facts) (st : Step) (h : (stepCells F st).filter Cell.shared = []) :
    monitor (modelObs F st) = none := by
  simp [modelObs, monitor, h]

/-- the model never observes a changed package-level default, for any step -/
theorem c20_model_never_changes_defaults (st : Step) : (modelObs Gen.facts st).globalsChanged = [] := by
  simp only [modelObs, List.map_eq_nil_iff, List.filter_eq_nil_iff, List.mem_filter]
  rintro c ⟨hc, hs⟩
  have hk : c.norm ∈ knownCells := hidden_cells_known (stepCells_hidden Gen.facts st c hc hs)
  cases c with
  | global g q => exact absurd hk (knownCells_no_global g q)
  | supplied t q => simp
  | own i t f => simp
  | captured k o v q => simp

/-- the model never predicts that a step changes how ANOTHER holder of a shared option / issuer-factory value behaves:
    no step writes a closure-captured cell of a shared value (this is what seeded change C20-D breaks) -/
theorem c20_model_never_changes_instance_behaviour (st : Step) : (modelObs Gen.facts st).instanceBehaviourChanged = [] := by
  simp only [modelObs, List.map_eq_nil_iff, List.filter_eq_nil_iff, List.mem_filter]
  rintro c ⟨hc, hs⟩
  have hk : c.norm ∈ knownCells := hidden_cells_known (stepCells_hidden Gen.facts st c hc hs)
  cases c with
  | global g q => simp
  | supplied t q => simp
  | own i t f => simp
  | captured k o v q => exact absurd hk (knownCells_no_captured 0 o v q)

/-! ## concrete steps on the regenerated lists: custom endpoints, logout / revocation, `WithAuthStyle` touch no shared cell
    (a source in which one of them writes a package default or a caller's object makes `step_footprints` — and
    `hidden_exact` — fail) -/

def provCustom : Inst := { id := 2, ty := "op.Provider", entry := "op.NewProvider", opts := ["op.WithCustomAuthEndpoint"] }
def provCustomAll : Inst :=
  { id := 2, ty := "op.Provider", entry := "op.NewProvider", opts := ["op.WithCustomEndpoints", "op.WithCustomIntrospectionEndpoint", "op.WithCustomDeviceAuthorizationEndpoint"] }
def rpDefault : Inst := { id := 1, ty := "rp.relyingParty", entry := "rp.NewRelyingPartyOIDC", opts := [] }
def rpOwnClient : Inst := { id := 1, ty := "rp.relyingParty", entry := "rp.NewRelyingPartyOIDC", opts := ["rp.WithHTTPClient"] }
def rpOAuth : Inst := { id := 1, ty := "rp.relyingParty", entry := "rp.NewRelyingPartyOAuth", opts := ["rp.WithAuthStyle"] }
def rpVOpts : Inst := { id := 1, ty := "rp.relyingParty", entry := "rp.NewRelyingPartyOIDC", opts := ["rp.WithVerifierOpts", "rp.WithSigningAlgsFromDiscovery"] }
def devState : Inst := { id := 3, ty := "op.Provider", entry := "op.NewProvider", opts := [] }

def provInsecureShared : Inst :=
  { id := 1, ty := "op.Provider", entry := "op.NewProvider", opts := ["op.WithAllowInsecure"], vals := [("op.IssuerFromHost", 1)] }
def provSecureShared : Inst := { id := 2, ty := "op.Provider", entry := "op.NewProvider", opts := [], vals := [("op.IssuerFromHost", 1)] }
def provSecureOwn : Inst := { id := 3, ty := "op.Provider", entry := "op.NewProvider", opts := [], vals := [("op.IssuerFromHost", 7)] }
def provFresh : Inst := { id := 4, ty := "op.Provider", entry := "op.NewDynamicOpenIDProvider", opts := [] }

/-- calls that write no cell at all -/
def silentCalls : List Step :=
  [⟨.call, "rp.EndSession", rpDefault⟩, ⟨.call, "rp.RevokeToken", rpOwnClient⟩, ⟨.call, "client.CallEndSessionEndpoint", rpOwnClient⟩,
   ⟨.call, "client.CallRevokeEndpoint", rpOwnClient⟩, ⟨.call, "op.DeviceAuthorizationState.GetAudience", devState⟩,
   ⟨.call, "http.ConcatenateJSON", devState⟩, ⟨.call, "op.WithIssuerFromCustomHeaders$ret", devState⟩,
   ⟨.call, "op.WithIssuerFromCustomHeaders", devState⟩]

/-- steps that write cells of their own instance only -/
def unsharedSteps : List Step :=
  [⟨.construct, "op.NewProvider", provCustom⟩, ⟨.construct, "op.NewProvider", provCustomAll⟩,
   ⟨.construct, "rp.NewRelyingPartyOAuth", rpOAuth⟩, ⟨.construct, "op.NewProvider", provSecureShared⟩,
   ⟨.construct, "op.NewProvider", { provCustom with opts := ["op.WithAllowInsecure", "op.WithLogger"] }⟩,
   ⟨.construct, "rp.NewRelyingPartyOIDC", rpOwnClient⟩, ⟨.call, "rp.CodeExchange", rpDefault⟩, ⟨.call, "rp.EndSession", rpDefault⟩]

/- All steps are judged in one evaluation, and the statements below select from it: every declaration that looks a
   function up in `Gen.reach` makes the kernel decode the names of the whole table again. -/
theorem step_footprints :
    (∀ st ∈ silentCalls, stepCells Gen.facts st = []) ∧
    (∀ st ∈ unsharedSteps, (stepCells Gen.facts st).filter Cell.shared = []) ∧
    Cell.own 2 "op.Provider" "endpoints" ∈ stepCells Gen.facts ⟨.construct, "op.NewProvider", provCustom⟩ ∧
    Cell.own 1 "rp.relyingParty" "oauthConfig" ∈ stepCells Gen.facts ⟨.construct, "rp.NewRelyingPartyOAuth", rpOAuth⟩ ∧
    Cell.supplied "[]rp.VerifierOption" ["[]"] ∈ stepCells Gen.facts ⟨.construct, "rp.NewRelyingPartyOIDC", rpVOpts⟩ := by
  decide +kernel

theorem silent {st : Step} (h : st ∈ silentCalls) : stepCells Gen.facts st = [] := step_footprints.1 st h

theorem unshared {st : Step} (h : st ∈ unsharedSteps) : (stepCells Gen.facts st).filter Cell.shared = [] :=
  step_footprints.2.1 st h

/-- a provider with custom endpoints writes its own `endpoints`, not the package-level `op.DefaultEndpoints` -/
theorem c20a_repaired :
    (stepCells Gen.facts ⟨.construct, "op.NewProvider", provCustom⟩).filter Cell.shared = [] ∧
    (stepCells Gen.facts ⟨.construct, "op.NewProvider", provCustomAll⟩).filter Cell.shared = [] ∧
    Cell.own 2 "op.Provider" "endpoints" ∈ stepCells Gen.facts ⟨.construct, "op.NewProvider", provCustom⟩ :=
  ⟨unshared (by simp [unsharedSteps]), unshared (by simp [unsharedSteps]), step_footprints.2.2.1⟩

/-- logout / revocation calls write neither the package default client nor the caller's client -/
theorem c20b_repaired :
    stepCells Gen.facts ⟨.call, "rp.EndSession", rpDefault⟩ = [] ∧
    stepCells Gen.facts ⟨.call, "rp.RevokeToken", rpOwnClient⟩ = [] ∧
    stepCells Gen.facts ⟨.call, "client.CallEndSessionEndpoint", rpOwnClient⟩ = [] ∧
    stepCells Gen.facts ⟨.call, "client.CallRevokeEndpoint", rpOwnClient⟩ = [] :=
  ⟨silent (by simp [silentCalls]), silent (by simp [silentCalls]), silent (by simp [silentCalls]), silent (by simp [silentCalls])⟩

/-- the getter writes nothing -/
theorem c20c_repaired :
    stepCells Gen.facts ⟨.call, "op.DeviceAuthorizationState.GetAudience", devState⟩ = [] := silent (by simp [silentCalls])

/-- `NewRelyingPartyOAuth` with `WithAuthStyle` writes the auth style into its own copy of the config, not into the caller's `*oauth2.Config` -/
theorem c20d_repaired :
    (stepCells Gen.facts ⟨.construct, "rp.NewRelyingPartyOAuth", rpOAuth⟩).filter Cell.shared = [] ∧
    Cell.own 1 "rp.relyingParty" "oauthConfig" ∈ stepCells Gen.facts ⟨.construct, "rp.NewRelyingPartyOAuth", rpOAuth⟩ :=
  ⟨unshared (by simp [unsharedSteps]), step_footprints.2.2.2.1⟩

/-- `ConcatenateJSON` and the option returned by `WithIssuerFromCustomHeaders` write no cell at all -/
theorem c20fg_repaired :
    stepCells Gen.facts ⟨.call, "http.ConcatenateJSON", devState⟩ = [] ∧
    stepCells Gen.facts ⟨.call, "op.WithIssuerFromCustomHeaders$ret", devState⟩ = [] ∧
    stepCells Gen.facts ⟨.call, "op.WithIssuerFromCustomHeaders", devState⟩ = [] :=
  ⟨silent (by simp [silentCalls]), silent (by simp [silentCalls]), silent (by simp [silentCalls])⟩

/-! ## witnesses: what is excluded really is written (class E, DESIGN §5) -/

/-- class E: a constructor appends to a slice that may share its backing array with the caller's slice -/
theorem c20e_witness :
    Cell.supplied "[]rp.VerifierOption" ["[]"] ∈ stepCells Gen.facts ⟨.construct, "rp.NewRelyingPartyOIDC", rpVOpts⟩ :=
  step_footprints.2.2.2.2

/-- a step that writes a caller-supplied object is rejected by the monitor on the model's own observation -/
theorem monitor_supplied_changed {st : Step} {t : String} {p : List String} (h : Cell.supplied t p ∈ stepCells Gen.facts st) :
    monitor (modelObs Gen.facts st) = some "supplied-object-changed" := by
  have hs : (Cell.supplied t p).name ∈ (modelObs Gen.facts st).suppliedChanged :=
    List.mem_map_of_mem (List.mem_filter.mpr ⟨List.mem_filter.mpr ⟨h, rfl⟩, rfl⟩)
  have hp : (modelObs Gen.facts st).panicked = false := rfl
  simp [monitor, hp, c20_model_never_changes_defaults st, List.ne_nil_of_mem hs]

/-- the audited sites really make the unrestricted source fail the discipline check -/
theorem c20_full_discipline_fails : disciplined Gen.facts = false := by decide +kernel

/-! ## closure-captured state: what the theorems above exclude, made concrete (seeded change C20-D)

    `factsD` = the regenerated facts plus the two write sites that factgen extracts from the C20-D variant of
    `issuerFromForwardedOrHost` (the closure returned by `op.IssuerFromHost` / `op.IssuerFromForwardedOrHost` stores
    `path` and `allowInsecure` in the `issuerConfig` captured by the factory). -/

def siteD (f : String) : WriteSite :=
  { file := "pkg/op/config.go", fn := "op.issuerFromForwardedOrHost$ret", meth := "issuerFromForwardedOrHost", line := 112, lhs := "c." ++ f,
    root := .captured "op.issuerFromForwardedOrHost" "c" 0, path := [f], op := .assign, phase := .func, guard := .none }

def factsD : Facts :=
  { Gen.facts with
    sites := Gen.facts.sites ++ [siteD "path", siteD "allowInsecure"],
    reach := [("op.IssuerFromHost", ["op.issuerFromForwardedOrHost"]), ("op.IssuerFromForwardedOrHost", ["op.issuerFromForwardedOrHost"]),
              ("op.issuerFromForwardedOrHost", ["op.issuerFromForwardedOrHost"]),
              ("op.NewDynamicOpenIDProvider", ["op.NewProvider", "op.issuerFromForwardedOrHost"])] ++ Gen.facts.reach }

/-- with C20-D the audited list is not exact: `hidden_exact` (and with it every frame theorem) does not go through -/
example : sameSet (hidden factsD) knownHidden = false := by decide +kernel
example : ("op.issuerFromForwardedOrHost$ret", Cell.captured 0 "op.issuerFromForwardedOrHost" "c" ["allowInsecure"]) ∈ hidden factsD := by decide +kernel
example : ("op.issuerFromForwardedOrHost$ret", "c.allowInsecure") ∈ undisciplinedSites factsD := by decide +kernel
/-- both constructions from value #1 write the SAME cell, a construction from value #7 another one: a cell captured at
    factory level is shared by exactly the constructions using that factory value -/
example : Cell.captured 1 "op.issuerFromForwardedOrHost" "c" ["allowInsecure"] ∈ stepCells factsD ⟨.construct, "op.NewProvider", provInsecureShared⟩ ∧
          Cell.captured 1 "op.issuerFromForwardedOrHost" "c" ["allowInsecure"] ∈ stepCells factsD ⟨.construct, "op.NewProvider", provSecureShared⟩ ∧
          Cell.captured 1 "op.issuerFromForwardedOrHost" "c" ["allowInsecure"] ∉ stepCells factsD ⟨.construct, "op.NewProvider", provSecureOwn⟩ ∧
          Cell.captured 7 "op.issuerFromForwardedOrHost" "c" ["allowInsecure"] ∈ stepCells factsD ⟨.construct, "op.NewProvider", provSecureOwn⟩ := by decide +kernel
/-- a construction that makes its own factory value owns the captured cell: nothing shared is touched -/
example : Cell.own 4 "closure:op.issuerFromForwardedOrHost" "c" ∈ stepCells factsD ⟨.construct, "op.NewDynamicOpenIDProvider", provFresh⟩ ∧
          (stepCells factsD ⟨.construct, "op.NewDynamicOpenIDProvider", provFresh⟩).filter Cell.shared = [] := by decide +kernel
/-- the monitor rejects the model's own observation of the second construction from a shared value under C20-D … -/
example : monitor (modelObs factsD ⟨.construct, "op.NewProvider", provSecureShared⟩) = some "instance-behaviour-changed" := by decide +kernel
/-- … and accepts it for the regenerated facts (same program) -/
example : monitor (modelObs Gen.facts ⟨.construct, "op.NewProvider", provSecureShared⟩) = none :=
  c20_model_satisfies_monitor _ _ (unshared (by simp [unsharedSteps]))
/-- an observed behaviour change of an earlier instance is a violation -/
example : monitor { globalsChanged := [], suppliedChanged := [], behaviourChanged := [], othersChanged := [],
                    instanceBehaviourChanged := ["#1:op.Provider.discovery"], races := 0, panicked := false } = some "instance-behaviour-changed" := by decide
/-- a variable captured per construction (owner = a function literal, depth 1, or a constructor) is instance-owned whatever
    values the instance shares -/
example : siteCells factsD provInsecureShared { siteD "x" with root := .captured "op.issuerFromForwardedOrHost$ret" "allowInsecure" 1 } =
            [.own 1 "closure:op.issuerFromForwardedOrHost$ret" "allowInsecure"] ∧
          siteCells factsD provInsecureShared { siteD "x" with root := .captured "op.NewProvider" "o" 0 } = [.own 1 "closure:op.NewProvider" "o"] := by decide +kernel

/-- a provider with defaults / harmless options, an RP with its own client: no shared cell is touched, the monitor is satisfied -/
example : monitor (modelObs Gen.facts ⟨.construct, "op.NewProvider", { provCustom with opts := ["op.WithAllowInsecure", "op.WithLogger"] }⟩) = none :=
  c20_model_satisfies_monitor _ _ (unshared (by simp [unsharedSteps]))
example : monitor (modelObs Gen.facts ⟨.construct, "rp.NewRelyingPartyOIDC", rpOwnClient⟩) = none :=
  c20_model_satisfies_monitor _ _ (unshared (by simp [unsharedSteps]))
example : monitor (modelObs Gen.facts ⟨.call, "rp.CodeExchange", rpDefault⟩) = none :=
  c20_model_satisfies_monitor _ _ (unshared (by simp [unsharedSteps]))
/-- custom endpoints, logout on the default client, `WithAuthStyle`: the monitor is satisfied -/
example : monitor (modelObs Gen.facts ⟨.construct, "op.NewProvider", provCustom⟩) = none :=
  c20_model_satisfies_monitor _ _ (unshared (by simp [unsharedSteps]))
example : monitor (modelObs Gen.facts ⟨.call, "rp.EndSession", rpDefault⟩) = none :=
  c20_model_satisfies_monitor _ _ (unshared (by simp [unsharedSteps]))
example : monitor (modelObs Gen.facts ⟨.construct, "rp.NewRelyingPartyOAuth", rpOAuth⟩) = none :=
  c20_model_satisfies_monitor _ _ (unshared (by simp [unsharedSteps]))
/-- … and the monitor rejects the model's own observation of a class-E step, and an observed change of a package default -/
example : monitor (modelObs Gen.facts ⟨.construct, "rp.NewRelyingPartyOIDC", rpVOpts⟩) = some "supplied-object-changed" :=
  monitor_supplied_changed c20e_witness
example : monitor { globalsChanged := ["op.DefaultEndpoints.Authorization"], suppliedChanged := [], behaviourChanged := [], othersChanged := [], races := 0, panicked := false } = some "package-default-changed" := by decide
/-- logout and revocation take part in no race with the other calls of the same relying party -/
example : mayRace rest [⟨.call, "rp.EndSession", rpDefault⟩, ⟨.call, "rp.RevokeToken", rpDefault⟩, ⟨.call, "rp.CodeExchange", rpDefault⟩] = false :=
  mayRace_of_disciplined rest rest_disciplined _
/-- the lazily initialised RP fields are not written by API calls (constructor initialised them), the key-set cache is written under its mutex -/
example : mayRace rest [⟨.call, "rp.CodeExchange", rpDefault⟩, ⟨.call, "rp.Userinfo", rpDefault⟩] = false :=
  mayRace_of_disciplined rest rest_disciplined _
example : (stepSegs rest ⟨.call, "rp.CodeExchange", rpDefault⟩).length > 0 := by decide +kernel
/-- an RP whose constructor did not call `IDTokenVerifier()` would race on first use -/
example : mayRace { rest with ctors := rest.ctors.map fun c => { c with eager := c.eager.filter (· != "IDTokenVerifier") } }
    [⟨.call, "rp.CodeExchange", rpDefault⟩] = true := by decide +kernel
/-- the machine does have races: two goroutines writing one unguarded cell -/
example : Race (initPool [[.free ⟨.global "g" [], true⟩], [.free ⟨.global "g" [], false⟩]]) :=
  ⟨0, 1, ⟨.global "g" [], true⟩, ⟨.global "g" [], false⟩, none, none, by decide, rfl, rfl, rfl, Or.inl rfl⟩

end C20
