/-
  C12 proofs: registered claims win / custom claims survive (for all objects), the tolerant decoders
  are total and exact, CFB and base64 invert for every input, hence the sealing round trip - first on the hand-written models
  of Model/Codec.lean (Spec/C12.lean), then (`*_exact_gen`, `c12_merge_exact`) one characterisation lemma per regenerated function
  of Generated/Codec.lean (namespace GenCodec: Locale(s), Audience, Time, Bool, SpaceDelimitedArray, Display,
  unmarshalJSONMulti, mergeAndMarshalClaims, the AES sealing) and the bridges (`*_bridge`) between the two.
-/
import OidcModel.Proofs.Cfb
import OidcModel.Proofs.Base64
import OidcModel.Spec.C12
import OidcModel.Generated.Codec
import OidcModel.GoTac
import OidcModel.Proofs.F64
namespace C12
open Codec

theorem lookup_append (a b : Obj) (k : String) :
    lookup (a ++ b) k = (lookup a k).or (lookup b k) := by
  unfold lookup
  rw [List.find?_append]
  cases List.find? (fun x => x.1 == k) a <;> simp

theorem lookup_filter (o : Obj) (p : String → Bool) (k : String) :
    lookup (o.filter fun kv => p kv.1) k = if p k = true then lookup o k else none := by
  unfold lookup
  rw [List.find?_filter]
  split
  · rename_i h; congr 2; funext x; by_cases hx : x.1 = k <;> simp [hx, h]
  · rename_i h; simp only [Option.map_eq_none_iff, List.find?_eq_none]; intro x _; by_cases hx : x.1 = k <;> simp_all

theorem lookup_cons (x : String × String) (xs : Obj) (k : String) :
    lookup (x :: xs) k = if (x.1 == k) = true then some x.2 else lookup xs k := by
  unfold lookup
  rw [List.find?_cons]
  cases h : (x.1 == k) <;> simp

theorem keys_contains_iff_lookup (o : Obj) (k : String) : (keys o).contains k = (lookup o k).isSome := by
  induction o with
  | nil => rfl
  | cons x xs ih =>
    rw [lookup_cons, keys, List.map_cons, List.contains_cons, ← keys, ih, Bool.beq_comm]
    cases (x.1 == k) <;> rfl

theorem lookup_none_of_not_key (o : Obj) (k : String) (h : (keys o).contains k = false) : lookup o k = none := by
  rw [keys_contains_iff_lookup] at h
  cases hl : lookup o k with
  | none => rfl
  | some v => rw [hl] at h; cases h

theorem lookup_isSome_of_key (o : Obj) (k : String) (h : (keys o).contains k = true) : (lookup o k).isSome = true :=
  keys_contains_iff_lookup o k ▸ h

theorem keys_append_single_nodup {o : Obj} {k : String} (v : String) (ho : (keys o).Nodup) (hk : k ∉ keys o) :
    (keys (o ++ [(k, v)])).Nodup := by
  simp only [keys, List.map_append, List.map_cons, List.map_nil]
  exact List.nodup_append.2 ⟨ho, by simp, fun a ha b hb => by rw [List.mem_singleton.1 hb]; exact fun e => hk (e ▸ ha)⟩

/-- registered wins, custom survives: the two lookup facts about an object whose lookups are `registered, else custom` -/
theorem wins_of_lookup_or {r c m : Obj} (h : ∀ k, lookup m k = (lookup r k).or (lookup c k)) :
    (∀ k, (keys r).contains k = true → lookup m k = lookup r k) ∧ (∀ k, (keys r).contains k = false → lookup m k = lookup c k) :=
  ⟨fun k hk => by rw [h, Option.or_of_isSome (lookup_isSome_of_key r k hk)],
   fun k hk => by rw [h, lookup_none_of_not_key r k hk]; rfl⟩

theorem lookup_merge (registered custom : Obj) (k : String) :
    lookup (merge registered custom) k = (lookup registered k).or (lookup custom k) := by
  unfold merge
  split
  · rename_i he
    rw [List.isEmpty_iff.1 he]
    exact Option.or_none.symm
  · rw [lookup_append, lookup_filter custom (fun k => !(keys registered).contains k)]
    cases h : (keys registered).contains k
    · rw [lookup_none_of_not_key _ _ h]
      exact Option.or_none
    · rw [Option.or_of_isSome (lookup_isSome_of_key _ _ h)]
      rfl

/-- registered claims win: whatever the custom map contains, every registered key has its registered value -/
theorem c12_registered_wins (registered custom : Obj) (k : String) (h : (keys registered).contains k = true) :
    lookup (merge registered custom) k = lookup registered k :=
  (wins_of_lookup_or (lookup_merge registered custom)).1 k h

/-- custom claims that do not collide with a registered name survive -/
theorem c12_custom_survives (registered custom : Obj) (k : String) (h : (keys registered).contains k = false)
    (hc : custom.isEmpty = false) :
    lookup (merge registered custom) k = lookup custom k :=
  (wins_of_lookup_or (lookup_merge registered custom)).2 k h

theorem all_key_or (r : Obj) (l : List String) (f : String → Bool)
    (h : ∀ k ∈ l, (keys r).contains k = false → f k = true) : (l.all fun k => (keys r).contains k || f k) = true := by
  rw [List.all_eq_true]
  intro k hk
  cases hr : (keys r).contains k
  · exact h k hk hr
  · rfl

theorem marshalOK_of_lookup (r c m : Obj)
    (h1 : ∀ k, (keys r).contains k = true → lookup m k = lookup r k)
    (h2 : ∀ k, (keys r).contains k = false → lookup m k = lookup c k) : marshalOK r c m = none := by
  unfold marshalOK
  have c1 : (keys r).all (fun k => lookup m k == lookup r k) = true := by
    simp only [List.all_eq_true, beq_iff_eq]
    intro k hk
    exact h1 k (by simpa using hk)
  have c2 := all_key_or r (keys c) (fun k => lookup m k == lookup c k) fun k _ hr => by simpa using h2 k hr
  have c3 := all_key_or r (keys m) (keys c).contains fun k hk hr => by
    rw [keys_contains_iff_lookup, ← h2 k hr, ← keys_contains_iff_lookup]
    simpa using hk
  simp only [c1, c2, c3, Bool.not_true, Bool.false_eq_true, if_false]

/-- the model's merge satisfies the marshal monitor for all registered / custom objects -/
theorem c12_merge_monitor (registered custom : Obj) : marshalOK registered custom (merge registered custom) = none :=
  have h := wins_of_lookup_or (lookup_merge registered custom)
  marshalOK_of_lookup _ _ _ h.1 h.2

/-- the decoder models are total and exact w.r.t. the document -/
theorem c12_audience_exact (doc : JIn) : audienceOK doc (decodeAudience doc) = true := by
  unfold audienceOK decodeAudience
  cases doc with
  | atom a => cases a <;> simp
  | arr l =>
    cases h : l.all JAtom.isStr <;> simp [h]

theorem c12_time_exact (rfc : String → Option Int) (doc : JIn) : timeOK rfc doc (decodeTime rfc doc) = true := by
  unfold timeOK decodeTime
  cases doc with
  | atom a =>
    cases a with
    | int n => by_cases h : int64Min ≤ n ∧ n ≤ timeMax <;> simp [h]
    | float t ok => cases ok <;> simp
    | str s => cases h : rfc s <;> simp [h]
    | _ => simp
  | arr l => simp

theorem c12_bool_exact (doc : JIn) : boolOK doc (decodeBool doc) = true := by
  unfold boolOK decodeBool
  cases doc with
  | atom a =>
    cases a with
    | bool b => cases b <;> simp
    | str s => by_cases h : s = "true" <;> simp [h]
    | _ => simp
  | arr l => simp

/-- model of `crypto.EncryptAES` (given the random iv) and `crypto.DecryptAES` over a block function -/
def encryptAES (E : Cfb.Block → Cfb.Block) (iv : Cfb.Block) (plain : List UInt8) : List Char :=
  B64.encode (Cfb.sealBytes E 16 iv plain)

def decryptAES (E : Cfb.Block → Cfb.Block) (s : List Char) : Option (List UInt8) :=
  (B64.decode s).bind (Cfb.unsealBytes E 16)

/-- every sealed string decrypts back to its plaintext: any block function (AES under any key), any
    16-byte iv, any plaintext of any length -/
theorem c12_seal_roundtrip (E : Cfb.Block → Cfb.Block) (hE : ∀ b, (E b).length = 16) (iv : Cfb.Block) (hiv : iv.length = 16)
    (plain : List UInt8) : decryptAES E (encryptAES E iv plain) = some plain := by
  unfold decryptAES encryptAES
  rw [B64.decode_encode]
  exact Cfb.unseal_seal E 16 (by decide) hE iv hiv plain

theorem c12_seal_monitor (E : Cfb.Block → Cfb.Block) (hE : ∀ b, (E b).length = 16) (iv : Cfb.Block) (hiv : iv.length = 16)
    (plain : List UInt8) : sealOK plain (decryptAES E (encryptAES E iv plain)) none = none := by
  rw [c12_seal_roundtrip E hE iv hiv]; simp [sealOK]

/-! non-vacuity -/
example : marshalOK [("iss", "\"op\""), ("sub", "\"u\"")] [("iss", "\"evil\""), ("x", "1")]
    (merge [("iss", "\"op\""), ("sub", "\"u\"")] [("iss", "\"evil\""), ("x", "1")]) = none := by decide +kernel
example : lookup (merge [("iss", "\"op\"")] [("iss", "\"evil\""), ("x", "1")]) "iss" = some "\"op\"" := by decide +kernel
example : marshalOK [("iss", "\"op\"")] [("iss", "\"evil\"")] [("iss", "\"evil\"")] = some "registered-claim-lost-or-overridden" := by decide +kernel
example : audienceOK (.arr [.str "a", .int 1]) .panic = false ∧ decodeAudience (.arr [.str "a", .int 1]) = .err := by decide +kernel
example : B64.decode (B64.encode [1, 2, 3, 250]) = some [1, 2, 3, 250] := B64.decode_encode _

end C12

/-! # Part 2: theorems about the REGENERATED codec (Generated/Codec.lean, namespace `GenCodec`)

  factgen rewrites `GenCodec.*` from pkg/oidc/types.go, userinfo.go, util.go and pkg/crypto/crypto.go on every run; the
  theorems below are about those definitions, for every document, every raw text and every oracle answer
  (`Cdc.Oracles`: encoding/json on generic values, x/text/language, time.Parse, aes.NewCipher, crypto/rand).  The bridge
  theorems tie them to the hand-written models of part 1 (`Codec.merge`, `Codec.decode…`, `Cfb.sealBytes/unsealBytes`). -/
namespace C12
open Codec Cdc

def outR {α : Type} : Go.R α → Out α
  | .ok v => .val v
  | .error _ => .err

theorem c12_locale_exact (now : Int) (o : Oracles) (l : Locale) (data : String) :
    GenCodec.LocaleUnmarshalJSON now o l data =
      if (Go.len data == (0 : Int) || data == "\"\"") = true then .ok l else
      match o.jsonTag data l.tag with
      | (t, .ok _) => .ok { tag := t }
      | (_, .error e) => if e = "language.ValueError" then .ok { tag := Tag.zero } else .error e := by
  unfold GenCodec.LocaleUnmarshalJSON
  split
  · rfl
  · rcases h : o.jsonTag data l.tag with ⟨t, r⟩
    cases r with
    | ok u => rfl
    | error e =>
      simp only [GoX.errorsAs, beq_iff_eq]

/-- a fully valid tag decodes to that tag -/
theorem c12_locale_valid (now : Int) (o : Oracles) (l : Locale) (data : String) (t : Tag)
    (hne : (Go.len data == (0 : Int) || data == "\"\"") = false) (h : o.jsonTag data l.tag = (t, .ok ())) :
    GenCodec.LocaleUnmarshalJSON now o l data = .ok { tag := t } := by
  rw [c12_locale_exact, hne, h]; rfl

/-- a well-formed tag with an unknown subtag (`language.ValueError`) decodes to the zero value, without an error,
    WHATEVER x/text left in the tag (`p`) -/
theorem c12_locale_unknown (now : Int) (o : Oracles) (l : Locale) (data : String) (p : Tag)
    (hne : (Go.len data == (0 : Int) || data == "\"\"") = false) (h : o.jsonTag data l.tag = (p, .error "language.ValueError")) :
    GenCodec.LocaleUnmarshalJSON now o l data = .ok { tag := Tag.zero } := by
  rw [c12_locale_exact, hne, h]; rfl

/-- an ill-formed tag or a non-string (any other error of the json / language layer) is an error -/
theorem c12_locale_illformed (now : Int) (o : Oracles) (l : Locale) (data : String) (p : Tag) (e : String)
    (hne : (Go.len data == (0 : Int) || data == "\"\"") = false) (h : o.jsonTag data l.tag = (p, .error e)) (he : e ≠ "language.ValueError") :
    GenCodec.LocaleUnmarshalJSON now o l data = .error e := by
  rw [c12_locale_exact, hne, h]; simp [he]

/-- how the json/x-text oracle's answer classifies the document's tag string -/
def classOfJsonTag (r : Tag × Go.R Unit) : TagClass :=
  match r with
  | (t, .ok _) => .valid t
  | (_, .error e) => if e = "language.ValueError" then .unknown else .illformed

theorem c12_locale_monitor (now : Int) (o : Oracles) (data s : String) (hs : (s == "") = false)
    (hne : (Go.len data == (0 : Int) || data == "\"\"") = false) :
    localeOK (fun _ => classOfJsonTag (o.jsonTag data Tag.zero)) (.str s)
      (outR ((GenCodec.LocaleUnmarshalJSON now o {} data).map (·.tag))) = true := by
  rw [c12_locale_exact, hne]
  simp only [Bool.false_eq_true, if_false]
  rcases h : o.jsonTag data ({} : Locale).tag with ⟨t, r⟩
  cases r with
  | ok u => simp [localeOK, hs, classOfJsonTag, outR, Except.map]
  | error e =>
    by_cases he : e = "language.ValueError" <;> simp [localeOK, hs, classOfJsonTag, outR, Except.map, he]

/-- what `ParseLocales` keeps: entries `language.Parse` accepts without error and that are not `und` -/
def keepTags (o : Oracles) (ss : List String) : List Tag :=
  ss.filterMap fun s => if ((o.languageParse s).2.isNone && !(o.languageParse s).1.root) = true then some (o.languageParse s).1 else none

theorem foldl_keep (o : Oracles) (ss : List String) (acc : List Tag) :
    List.foldl (fun out locale =>
      match o.languageParse locale with
      | (tag, err) => if (GoX.errIsNil err && !tag.IsRoot) = true then Go.append out tag else out) acc ss = acc ++ keepTags o ss := by
  induction ss generalizing acc with
  | nil => simp [keepTags]
  | cons s rest ih =>
    rw [List.foldl_cons, ih]
    rcases h : o.languageParse s with ⟨t, e⟩
    simp only [keepTags, List.filterMap_cons, h, GoX.errIsNil, Tag.IsRoot, Go.append]
    split <;> simp_all

theorem c12_parseLocales (now : Int) (o : Oracles) (ss : List String) : GenCodec.ParseLocales now o ss = keepTags o ss := by
  unfold GenCodec.ParseLocales GoX.foldList
  have := foldl_keep o ss []
  simpa using this

theorem assertStrings_eq (l : List JVal) :
    assertStrings l = if allStr l = true then .ok (strsOf l) else .error "error:cannot assert" := by
  induction l with
  | nil => rfl
  | cons a rest ih =>
    cases a <;> simp [assertStrings, allStr, strsOf, ih]
    by_cases hr : allStr rest = true <;> simp [hr]

/-- `Locales.UnmarshalJSON`, for every document and every answer of `language.Parse` -/
theorem c12_locales_exact (now : Int) (o : Oracles) (l0 : List Tag) (data : String) :
    GenCodec.LocalesUnmarshalJSON now o l0 data =
      match o.jsonAny data with
      | .error _ => .error "error:oidc locales: %w"
      | .ok .null => .ok []
      | .ok (.str v) => .ok (keepTags o (Cdc.split v " "))
      | .ok (.arr v) => if allStr v = true then .ok (keepTags o (strsOf v)) else .error "error:oidc locales: %w"
      | .ok _ => .error "error:oidc locales: unsupported type: %T" := by
  unfold GenCodec.LocalesUnmarshalJSON
  cases h : o.jsonAny data with
  | error e => rfl
  | ok doc =>
    cases doc with
    | arr v =>
      simp only [assertStrings_eq, c12_parseLocales]
      by_cases hv : allStr v = true <;> simp [hv]
    | str v => simp only [c12_parseLocales]
    | _ => rfl

/-- how `language.Parse`'s answer classifies an entry -/
def classOfParse (o : Oracles) (s : String) : TagClass :=
  match o.languageParse s with
  | (t, none) => .valid t
  | (_, some e) => if e = "language.ValueError" then .unknown else .illformed

theorem validTags_keep (o : Oracles) (ss : List String) : validTags (classOfParse o) ss = keepTags o ss := by
  induction ss with
  | nil => rfl
  | cons s rest ih =>
    simp only [validTags, keepTags, List.filterMap_cons] at ih ⊢
    rw [ih]
    rcases h : o.languageParse s with ⟨t, e⟩
    cases e with
    | none => cases hr : t.root <;> simp [classOfParse, h, hr]
    | some e => by_cases he : e = "language.ValueError" <;> simp [classOfParse, h, he]

theorem c12_locales_monitor (now : Int) (o : Oracles) (l0 : List Tag) (data : String) (doc : JVal) (h : o.jsonAny data = .ok doc) :
    localesOK (classOfParse o) doc (outR (GenCodec.LocalesUnmarshalJSON now o l0 data)) = true := by
  rw [c12_locales_exact, h]
  cases doc with
  | arr v => by_cases hv : allStr v = true <;> simp [localesOK, outR, hv, validTags_keep]
  | _ => simp [localesOK, outR, validTags_keep]

theorem c12_locales_text (now : Int) (o : Oracles) (l0 : List Tag) (text : String) :
    GenCodec.LocalesUnmarshalText now o l0 text = .ok (keepTags o (Cdc.split text " ")) := by
  simp [GenCodec.LocalesUnmarshalText, c12_parseLocales]

theorem collect_gen {β : Type} (f : JVal → Sum β String) (E : β) (hs : ∀ s, f (.str s) = .inr s)
    (hn : ∀ a, (match a with | .str _ => False | _ => True) → f a = .inl E) (l : List JVal) :
    GoX.collect l f = if allStr l = true then .inr (strsOf l) else .inl E := by
  induction l with
  | nil => rfl
  | cons a rest ih =>
    rw [GoX.collect]
    cases a with
    | str s =>
      rw [hs, ih]
      by_cases hr : allStr rest = true <;> simp [hr, allStr, strsOf]
    | _ => rw [hn _ trivial]; simp [allStr]

/-- `Audience.UnmarshalJSON`, for every document: a string is the one-element list, an array of strings is that list,
    an array with another member is an error, anything else leaves the value as it was -/
theorem c12_audience_exact_gen (now : Int) (o : Oracles) (a0 : List String) (text : String) :
    GenCodec.AudienceUnmarshalJSON now o a0 text =
      match o.jsonAny text with
      | .error e => .error e
      | .ok (.str s) => .ok [s]
      | .ok (.arr l) => if allStr l = true then .ok (strsOf l) else .error "error:oidc audience: unsupported member type: %T"
      | .ok _ => .ok a0 := by
  unfold GenCodec.AudienceUnmarshalJSON
  cases h : o.jsonAny text with
  | error e => rfl
  | ok doc =>
    cases doc with
    | arr v =>
      have hc := collect_gen (β := Go.R (List String))
        (f := fun audience => match JVal.asString audience with
          | (value, ok) => if (!ok) = true then Sum.inl (Except.error "error:oidc audience: unsupported member type: %T") else Sum.inr value)
        (E := Except.error "error:oidc audience: unsupported member type: %T") (fun s => rfl)
        (fun a ha => by cases a <;> first | exact False.elim ha | rfl) v
      simp only [hc]
      by_cases hv : allStr v = true <;> simp [hv]
    | _ => rfl

theorem c12_audience_monitor (now : Int) (o : Oracles) (text : String) (doc : JVal) (h : o.jsonAny text = .ok doc) :
    audienceOKJ doc (outR (GenCodec.AudienceUnmarshalJSON now o [] text)) = true := by
  rw [c12_audience_exact_gen, h]
  cases doc with
  | arr v => by_cases hv : allStr v = true <;> simp [audienceOKJ, outR, hv]
  | _ => simp [audienceOKJ, outR]

theorem F64.decide_ge (a b : F64) : decide (a ≥ b) = F64.le b a := by
  show decide (F64.le b a = true) = _
  simp
theorem F64.decide_lt (a b : F64) : decide (a < b) = F64.lt a b := by
  show decide (F64.lt a b = true) = _
  simp

/-! the facts about the comparisons the range guard of `Time.UnmarshalJSON` is made of are in Proofs/F64.lean (`Cdc.F64.*`) -/
theorem F64.neg_int (n : Int) : -({ floor := n } : F64) = { floor := -n } := rfl
theorem F64.toInt64_mk (fl : Int) (fr nan : Bool) :
    F64.toInt64 { floor := fl, frac := fr, nan := nan } = if fl < 0 ∧ fr = true then fl + 1 else fl := rfl
theorem F64.inTime_mk (fl : Int) (fr nan : Bool) :
    F64.inTime { floor := fl, frac := fr, nan := nan } =
      (!nan && decide (-9223372036854775808 ≤ fl) && decide (fl ≤ 9223371974719179007)) := rfl

/-- `Time.UnmarshalJSON`, for every document and every answer of `time.Parse`: a number is decoded exactly when it is one of
    the instants `oidc.Time` stands for (`F64.inTime`: int64 AND no wrap-around in `time.Unix`), every other number is refused -/
theorem c12_time_exact_gen (now : Int) (o : Oracles) (ts0 : Int) (data : String) :
    GenCodec.TimeUnmarshalJSON now o ts0 data =
      match o.jsonAny data with
      | .error _ => .error "error:oidc.Time: %w"
      | .ok (.num x) => if F64.inTime x = true then .ok x.toInt64 else .error "error:oidc.Time: value %v out of range"
      | .ok (.str s) => (match o.timeParse s with | .ok t => .ok (Go.fromTime t) | .error _ => .error "error:oidc.Time: %w")
      | .ok .null => .ok 0
      | .ok _ => .error "error:oidc.Time: unable to parse type %T with value %v" := by
  unfold GenCodec.TimeUnmarshalJSON
  cases h : o.jsonAny data with
  | error e => rfl
  | ok doc =>
    cases doc with
    | num x =>
      rcases x with ⟨fl, fr, nan⟩
      simp only [Cdc.two63, Cdc.F64.neg_int, Cdc.F64.bne_self, Cdc.F64.ge_int, Cdc.F64.lt_int, Cdc.F64.toInt64_mk, F64.inTime_mk]
      cases nan <;> go_leaf
    | str s => simp only []; cases o.timeParse s <;> rfl
    | _ => rfl

/-- no number the regenerated decoder hands out lies in the zone `time.Unix` wraps around (last 62135596800 seconds of int64) -/
theorem c12_time_never_in_wrap_zone (now : Int) (o : Oracles) (ts0 : Int) (data : String) (x : F64) (v : Int)
    (hj : o.jsonAny data = .ok (.num x)) (hv : GenCodec.TimeUnmarshalJSON now o ts0 data = .ok v) :
    int64Min ≤ v ∧ v ≤ timeMax ∧ v = x.toInt64 := by
  rw [c12_time_exact_gen, hj] at hv
  cases hin : F64.inTime x with
  | false => simp [hin] at hv
  | true =>
    simp only [hin, if_true, Except.ok.injEq] at hv
    subst hv
    rcases x with ⟨fl, fr, nan⟩
    simp only [F64.inTime_mk, Bool.and_eq_true, Bool.not_eq_true', decide_eq_true_eq] at hin
    simp only [F64.toInt64_mk]
    unfold int64Min timeMax
    refine ⟨?_, ?_, trivial⟩ <;> split <;> omega

theorem c12_time_monitor (now : Int) (o : Oracles) (data : String) (doc : JVal) (h : o.jsonAny data = .ok doc) :
    timeOKJ o.timeParse doc (outR (GenCodec.TimeUnmarshalJSON now o 0 data)) = true := by
  rw [c12_time_exact_gen, h]
  cases doc with
  | num x => cases hx : F64.inTime x <;> simp [timeOKJ, outR, hx]
  | str s => simp only []; cases ht : o.timeParse s <;> simp [timeOKJ, outR, ht]
  | _ => simp [timeOKJ, outR]

/-- `Bool.UnmarshalJSON`: the literal `true`, or a JSON STRING whose decoded value is "true" (whatever its spelling - the
    string is decoded by encoding/json, oracle `jsonString`), sets it; everything else, including every value that is not a
    string, leaves it as it was; there is never an error -/
theorem c12_bool_exact_gen (now : Int) (o : Oracles) (bs : Bool) (data : String) :
    GenCodec.BoolUnmarshalJSON now o bs data =
      .ok (if (data == "true") = true then true else
        match o.jsonString data "" with
        | .ok s => if (s == "true") = true then true else bs
        | .error _ => bs) := by
  unfold GenCodec.BoolUnmarshalJSON
  split
  · rfl
  · simp only []
    cases o.jsonString data "" with
    | error e => rfl
    | ok s => simp only []; split <;> rfl

/-- `SpaceDelimitedArray.UnmarshalJSON`: whatever string encoding/json decodes (`""` stays for `null`), split on single spaces -/
theorem c12_space_exact (now : Int) (o : Oracles) (s0 : List String) (data : String) :
    GenCodec.SpaceDelimitedArrayUnmarshalJSON now o s0 data =
      match o.jsonString data "" with
      | .error e => .error e
      | .ok str => .ok (Cdc.split str " ") := by
  unfold GenCodec.SpaceDelimitedArrayUnmarshalJSON
  simp only []
  cases h : o.jsonString data "" <;> rfl

/-- encoding/json's contract for a `string` destination, as far as the theorem needs it -/
def jsonStringCoherent (o : Oracles) (data : String) (doc : JVal) : Prop :=
  match doc with
  | .str s => o.jsonString data "" = .ok s
  | .null => o.jsonString data "" = .ok ""
  | _ => ∃ e, o.jsonString data "" = .error e

/-- the Bool monitor holds for EVERY document: `lit` is the raw text of `doc` (the only raw text that equals `true` is the
    boolean true - `hraw`), and encoding/json decodes a string destination as `jsonStringCoherent` says.  In particular
    the string "true" is accepted in every spelling (`"true"`, `"\u0074rue"`, …) -/
theorem c12_bool_monitor (now : Int) (o : Oracles) (lit : String) (doc : JVal)
    (hraw : (lit == "true") = (match doc with | .bool true => true | _ => false))
    (hs : jsonStringCoherent o lit doc) :
    boolOKJ doc (outR (GenCodec.BoolUnmarshalJSON now o false lit)) = true := by
  rw [c12_bool_exact_gen]
  cases doc with
  | bool b => obtain ⟨e, he⟩ := hs; cases b <;> simp only at hraw <;> simp [hraw, he, boolOKJ, outR]
  | str s =>
    simp only [jsonStringCoherent] at hs
    simp only at hraw
    cases hst : (s == "true") <;> simp [hraw, hs, boolOKJ, outR, hst]
  | null => simp only [jsonStringCoherent] at hs; simp only at hraw; simp [hraw, hs, boolOKJ, outR]
  | _ => obtain ⟨e, he⟩ := hs; simp only at hraw; simp [hraw, he, boolOKJ, outR]

/-- non-vacuity: the escaped spelling (encoding/json decodes it to "true"), the plain literal, another string, a number -/
example : outR (GenCodec.BoolUnmarshalJSON 0 { jsonString := fun _ _ => .ok "true" } false "\"\\u0074rue\"") = .val true := by decide +kernel
example : outR (GenCodec.BoolUnmarshalJSON 0 {} false "true") = .val true := by decide +kernel
example : outR (GenCodec.BoolUnmarshalJSON 0 { jsonString := fun _ _ => .ok "TRUE" } false "\"TRUE\"") = .val false := by decide +kernel
example : outR (GenCodec.BoolUnmarshalJSON 0 { jsonString := fun _ _ => .error "json.UnmarshalTypeError" } false "1") = .val false := by decide +kernel

theorem c12_space_monitor (now : Int) (o : Oracles) (data : String) (doc : JVal) (h : jsonStringCoherent o data doc) :
    spaceOK doc (outR (GenCodec.SpaceDelimitedArrayUnmarshalJSON now o [] data)) = true := by
  rw [c12_space_exact]
  cases doc with
  | str s => simp only [jsonStringCoherent] at h; simp [h, spaceOK, outR]
  | null =>
    simp only [jsonStringCoherent] at h
    have hsplit : Cdc.split "" " " = [""] := by decide
    simp [h, spaceOK, outR, hsplit]
  | _ => obtain ⟨e, he⟩ := h; simp [he, spaceOK, outR]

theorem c12_space_string (now : Int) (s : List String) : GenCodec.SpaceDelimitedArrayString now s = " ".intercalate s := rfl

/-- `Display.UnmarshalText`: the four values of the (regenerated) constants are kept, anything else leaves the value as it was -/
theorem c12_display_exact (now : Int) (d text : String) :
    GenCodec.DisplayUnmarshalText now d text = .ok (if displayValues.contains text = true then text else d) := by
  split <;> simp_all [GenCodec.DisplayUnmarshalText, GenCodec.DisplayPage, GenCodec.DisplayPopup, GenCodec.DisplayTouch,
    GenCodec.DisplayWAP, displayValues]
  rename_i h
  rcases h with h | h | h | h <;> simp [h]

theorem c12_display_monitor (now : Int) (text : String) :
    displayOK text (outR (GenCodec.DisplayUnmarshalText now "" text)) = true := by
  rw [c12_display_exact]
  cases h : displayValues.contains text <;> simp only [displayOK, outR, h, if_true, if_false, beq_self_eq_true, Bool.false_eq_true]

/-! ### unmarshalJSONMulti -/

theorem first_none_iff {α β : Type} (l : List α) (f : α → Option β) : GoX.first l f = none ↔ ∀ x ∈ l, f x = none := by
  induction l with
  | nil => simp [GoX.first]
  | cons x xs ih =>
    rw [GoX.first]
    cases h : f x with
    | some r => simp [h]
    | none => simp [h, ih]

/-- `unmarshalJSONMulti` succeeds exactly when EVERY destination decodes; otherwise it returns an error
    (a later destination that decodes does not hide an earlier failure) -/
theorem c12_multi_exact (now : Int) (o : Oracles) (data : String) (ds : List Dst) :
    GenCodec.unmarshalJSONMulti now o data ds =
      if (ds.all fun d => (o.unmarshalInto data d).isOk) = true then .ok () else .error "error:oidc: %w into %T" := by
  unfold GenCodec.unmarshalJSONMulti
  induction ds with
  | nil => rfl
  | cons d rest ih =>
    rw [GoX.first]
    cases h : o.unmarshalInto data d with
    | error e => simp [h, Except.isOk, Except.toBool]
    | ok u =>
      simp only [h, List.all_cons, Except.isOk, Except.toBool, Bool.true_and]
      exact ih

/-! ### mergeAndMarshalClaims -/

theorem lookup_map_set (m : Codec.Obj) (k k' v : String) :
    lookup (m.map fun kv => if (kv.1 == k) = true then (k, v) else kv) k' =
      if k = k' then (if (m.any fun kv => kv.1 == k) = true then some v else none) else lookup m k' := by
  induction m with
  | nil => by_cases h : k = k' <;> simp [lookup, h]
  | cons x xs ih =>
    rw [List.map_cons, lookup_cons, ih, lookup_cons, List.any_cons]
    by_cases hx : (x.1 == k) = true
    · have hk : x.1 = k := by simpa using hx
      by_cases h : k = k'
      · subst h; simp [hk]
      · have : (x.1 == k') = false := by rw [hk]; simpa using h
        have hkk : (k == k') = false := by simpa using h
        simp [hx, h, this, hkk]
    · have hx' : (x.1 == k) = false := by simpa using hx
      by_cases h : k = k'
      · subst h; simp only [hx', Bool.false_eq_true, if_false, if_true, Bool.false_or]
      · simp [hx', h]

theorem lookup_none_of_any_false (m : Codec.Obj) (k : String) (h : (m.any fun kv => kv.1 == k) = false) : lookup m k = none := by
  rw [lookup, List.find?_eq_none.2 (List.any_eq_false.1 h)]; rfl

theorem lookup_mapSet (m : Codec.Obj) (k k' v : String) :
    lookup (GoX.mapSet m k v) k' = if k = k' then some v else lookup m k' := by
  unfold GoX.mapSet
  by_cases hany : (m.any fun kv => kv.1 == k) = true
  · simp only [hany, if_true]
    rw [lookup_map_set, hany]
    simp
  · have hany' : (m.any fun kv => kv.1 == k) = false := by rw [Bool.not_eq_true] at hany; exact hany
    simp only [hany', Bool.false_eq_true, if_false]
    rw [lookup_append]
    by_cases h : k = k'
    · subst h
      rw [lookup_none_of_any_false m k hany']
      simp [lookup]
    · have hkk : (k == k') = false := by simpa using h
      simp [h, lookup, hkk]

/-- storing all members of `d` over `m`, one after the other (the keys of `d` are distinct, as in a JSON object / Go map) -/
theorem lookup_foldKV_set (d : Codec.Obj) (hd : (keys d).Nodup) (m : Codec.Obj) (k : String) :
    lookup (GoX.foldKV d m (fun m k v => GoX.mapSet m k v)) k = (lookup d k).or (lookup m k) := by
  unfold GoX.foldKV
  induction d generalizing m with
  | nil => simp [lookup]
  | cons x xs ih =>
    obtain ⟨hx, hxs⟩ : x.1 ∉ keys xs ∧ (keys xs).Nodup := List.nodup_cons.1 hd
    rw [List.foldl_cons, ih hxs, lookup_mapSet, lookup_cons]
    by_cases h : x.1 = k
    · subst h
      have : lookup xs x.1 = none := by
        apply lookup_none_of_not_key
        simpa using hx
      simp [this]
    · have hb : (x.1 == k) = false := by simpa using h
      simp [h, hb]

/-- the map `mergeAndMarshalClaims` encodes when there are custom claims: the custom claims copied into a fresh map,
    then the registered members stored OVER them -/
def mergedMap (r custom : Codec.Obj) : Codec.Obj :=
  GoX.foldKV r (GoX.foldKV custom ([] : Codec.Obj) (fun m k v => GoX.mapSet m k v)) (fun m k v => GoX.mapSet m k v)

theorem len_beq_zero (l : Codec.Obj) : ((Go.len l : Int) == 0) = l.isEmpty := by
  cases l with
  | nil => rfl
  | cons c cs =>
    show ((((c :: cs).length : Nat) : Int) == 0) = false
    simp only [List.length_cons, beq_eq_false_iff_ne, ne_eq]; omega
theorem len_bne_zero (l : Codec.Obj) : ((Go.len l : Int) != 0) = !l.isEmpty := by
  simp only [bne, len_beq_zero]
theorem len_gt_zero (l : Codec.Obj) : decide ((Go.len l : Int) > 0) = !l.isEmpty := by
  cases l with
  | nil => rfl
  | cons c cs =>
    show decide ((((c :: cs).length : Nat) : Int) > 0) = true
    simp only [List.length_cons, decide_eq_true_eq]; omega

set_option linter.unusedSimpArgs false in
/-- `mergeAndMarshalClaims`, for every registered encoding (or encoding error), every custom map, every encoder answer
    (characterisation lemma, proved with `go_spec`: the branches are those of the right-hand side, whatever shape the Go text has) -/
theorem c12_merge_exact (now : Int) (o : Oracles) (reg : Reg) (custom : Codec.Obj) :
    (GenCodec.mergeAndMarshalClaims now o reg custom).2 =
      match reg.enc with
      | .error _ => .error "error:oidc registered claims: %w"
      | .ok r =>
        if custom.isEmpty = true then .ok [r]
        else if o.mapEncodable (mergedMap r custom) = true then .ok [mergedMap r custom] else .error "error:oidc custom claims: %w" := by
  go_spec [GenCodec.mergeAndMarshalClaims, bufEncode, Encodable.enc, bufDecodeInto, Buf.empty, Buf.Bytes, mergedMap,
    len_gt_zero, len_beq_zero, len_bne_zero]

theorem lookup_mergedMap (r custom : Codec.Obj) (hr : (keys r).Nodup) (hc : (keys custom).Nodup) (k : String) :
    lookup (mergedMap r custom) k = (lookup r k).or (lookup custom k) := by
  unfold mergedMap
  rw [lookup_foldKV_set r hr, lookup_foldKV_set custom hc]
  simp [lookup]

/-- BRIDGE: the regenerated merge and the hand-written `Codec.merge` agree on every key -/
theorem c12_merge_bridge (r custom : Codec.Obj) (hr : (keys r).Nodup) (hc : (keys custom).Nodup) (k : String) :
    lookup (if custom.isEmpty = true then r else mergedMap r custom) k = lookup (Codec.merge r custom) k := by
  rw [lookup_merge]
  split
  · rename_i he
    rw [List.isEmpty_iff.1 he]
    exact Option.or_none.symm
  · exact lookup_mergedMap r custom hr hc k

theorem c12_merge_ok (now : Int) (o : Oracles) (reg : Reg) (r custom : Codec.Obj) (hreg : reg.enc = .ok r)
    (henc : o.mapEncodable (mergedMap r custom) = true) :
    (GenCodec.mergeAndMarshalClaims now o reg custom).2 = .ok [if custom.isEmpty = true then r else mergedMap r custom] := by
  rw [c12_merge_exact, hreg]
  by_cases he : custom.isEmpty = true <;> simp [he, henc]

/-- registered claims win in the REGENERATED merge: whatever the custom map contains (colliding names included), every
    registered key of the produced document has its registered value; the other custom claims survive -/
theorem c12_registered_wins_gen (now : Int) (o : Oracles) (reg : Reg) (r custom : Codec.Obj) (hreg : reg.enc = .ok r)
    (hr : (keys r).Nodup) (hc : (keys custom).Nodup) (henc : o.mapEncodable (mergedMap r custom) = true) :
    ∃ m, (GenCodec.mergeAndMarshalClaims now o reg custom).2 = .ok [m] ∧
      (∀ k, (keys r).contains k = true → lookup m k = lookup r k) ∧
      (∀ k, (keys r).contains k = false → lookup m k = lookup custom k) := by
  have h := wins_of_lookup_or fun k => (c12_merge_bridge r custom hr hc k).trans (lookup_merge r custom k)
  exact ⟨_, c12_merge_ok now o reg r custom hreg henc, h.1, h.2⟩

/-! ### Locale: decode → encode -/

theorem c12_locale_marshal (now : Int) (o : Oracles) (l : Option Locale) :
    GenCodec.LocaleMarshalJSON now o l = if (Locale.Tag l).IsRoot = true then .ok "null" else o.marshalTag (Locale.Tag l) := by
  simp only [GenCodec.LocaleMarshalJSON]

/-- what a successful decode leaves: the tag x/text accepted completely, or the zero tag -/
theorem locale_decoded {now : Int} {o : Oracles} {data : String} {loc : Locale}
    (h : GenCodec.LocaleUnmarshalJSON now o {} data = .ok loc) :
    loc.tag = Tag.zero ∨ o.jsonTag data Tag.zero = (loc.tag, .ok ()) := by
  rw [c12_locale_exact] at h
  split at h
  · cases h
    exact .inl rfl
  · split at h
    · rename_i hj
      cases h
      exact .inr hj
    · split at h <;> cases h
      exact .inl rfl

/-- decode → encode of a `locale` member: whatever text the document holds and whatever x/text answers, the registered
    `locale` written back is `null` unless x/text accepted the tag completely - then it is the encoding of exactly that
    tag; and it wins over a custom claim of the same name.  (An unknown subtag can therefore never turn into `de`, `en-US` …) -/
theorem c12_locale_roundtrip (now : Int) (o : Oracles) (data : String) (loc : Locale) (txt : String)
    (hdec : GenCodec.LocaleUnmarshalJSON now o {} data = .ok loc)
    (hm : GenCodec.LocaleMarshalJSON now o (some loc) = .ok txt)
    (others custom : Codec.Obj) (hno : (keys others).contains "locale" = false) (hnd : (keys others).Nodup) (hc : (keys custom).Nodup)
    (henc : o.mapEncodable (mergedMap (others ++ [("locale", txt)]) custom) = true) :
    (∃ m, (GenCodec.mergeAndMarshalClaims now o { enc := .ok (others ++ [("locale", txt)]) } custom).2 = .ok [m] ∧ lookup m "locale" = some txt) ∧
    (txt = "null" ∨ ∃ t, o.jsonTag data Tag.zero = (t, .ok ()) ∧ t.root = false ∧ o.marshalTag t = .ok txt) := by
  constructor
  · obtain ⟨m, hm1, hm2, _⟩ := c12_registered_wins_gen now o { enc := .ok (others ++ [("locale", txt)]) } _ custom rfl
      (keys_append_single_nodup txt hnd (by simpa using hno)) hc henc
    refine ⟨m, hm1, ?_⟩
    rw [hm2 "locale" (by simp [keys]), lookup_append, lookup_none_of_not_key others "locale" hno]
    simp [lookup]
  · rw [c12_locale_marshal] at hm
    cases hroot : loc.tag.root with
    | true => exact .inl (by simpa [Locale.Tag, Tag.IsRoot, hroot] using hm.symm)
    | false =>
      -- a tag that is not the root is not the zero tag: it is the one x/text accepted
      have hj := (locale_decoded hdec).resolve_left fun hz => by rw [hz] at hroot; cases hroot
      exact .inr ⟨loc.tag, hj, hroot, by simpa [Locale.Tag, Tag.IsRoot, hroot] using hm⟩

/-! ### AES sealing: the regenerated functions are the hand-written CFB sealing -/

/-- BRIDGE: `DecryptBytesAES` as regenerated = key check, then `Cfb.unsealBytes` (length guard `<`, iv = first block) -/
theorem c12_decrypt_bridge (now : Int) (o : Oracles) (c key : Bytes) (E : Cfb.Block → Cfb.Block)
    (hk : o.newCipher key = .ok E) (hE : ∀ b, (E b).length = 16) :
    GenCodec.DecryptBytesAES now o c key =
      match Cfb.unsealBytes E 16 c with
      | none => .error "ErrCipherTextBlockSize"
      | some p => .ok p := by
  unfold GenCodec.DecryptBytesAES
  simp only [hk, Cfb.unsealBytes]
  have hlen : decide ((Go.len c : Int) < aesBlockSize) = decide (c.length < 16) := by
    show decide (((c.length : Nat) : Int) < 16) = _
    simp only [decide_eq_decide]; omega
  rw [hlen]
  by_cases hc : c.length < 16
  · simp [hc]
  · simp only [hc, decide_false, Bool.false_eq_true, if_false]
    have h16 : (aesBlockSize).toNat = 16 := rfl
    simp only [GoX.sliceTo, GoX.sliceFrom, h16, newCFBDecrypter, Stream.XORKeyStream, if_true]
    have hl : (Cfb.dec E 16 (List.take 16 c) (List.drop 16 c)).length = (List.drop 16 c).length := by
      unfold Cfb.dec
      exact Cfb.decAux_length E 16 (by decide) hE _ _ _ (Nat.le_refl _)
    have hd : List.drop (Cfb.dec E 16 (List.take 16 c) (List.drop 16 c)).length (List.drop 16 c) = [] :=
      List.drop_of_length_le (by rw [hl]; exact Nat.le_refl _)
    simp [hd]

theorem c12_decrypt_keyerr (now : Int) (o : Oracles) (c key : Bytes) (e : String) (hk : o.newCipher key = .error e) :
    GenCodec.DecryptBytesAES now o c key = .error e := by
  simp [GenCodec.DecryptBytesAES, hk]

/-- BRIDGE: `EncryptBytesAES` as regenerated = key check, random iv, `Cfb.sealBytes` (iv ++ CFB(plain)) -/
theorem c12_encrypt_bridge (now : Int) (o : Oracles) (plain key : Bytes) (E : Cfb.Block → Cfb.Block) (iv : Bytes)
    (hk : o.newCipher key = .ok E) (hE : ∀ b, (E b).length = 16)
    (hr : o.randRead (GoX.zeros 16) = .ok iv) (hiv : iv.length = 16) :
    GenCodec.EncryptBytesAES now o plain key = .ok (Cfb.sealBytes E 16 iv plain) := by
  unfold GenCodec.EncryptBytesAES
  have h16 : (aesBlockSize).toNat = 16 := rfl
  have hz : GoX.sliceTo (GoX.zeros (aesBlockSize + Go.len plain)) aesBlockSize = GoX.zeros 16 := by
    show List.take 16 (List.replicate (((16 : Int) + ((plain.length : Nat) : Int)).toNat) (0 : UInt8)) = List.replicate 16 0
    have : ((16 : Int) + ((plain.length : Nat) : Int)).toNat = 16 + plain.length := by omega
    rw [this, List.take_replicate]; simp
  simp only [hk, hz, hr]
  have hlen : (Cfb.enc E 16 iv plain).length = plain.length := by
    unfold Cfb.enc
    exact Cfb.encAux_length E 16 (by decide) hE _ _ _ (Nat.le_refl _)
  have hzl : (GoX.zeros (aesBlockSize + Go.len plain)).length = 16 + plain.length := by
    show (List.replicate (((16 : Int) + ((plain.length : Nat) : Int)).toNat) (0 : UInt8)).length = _
    simp; omega
  generalize GoX.zeros (aesBlockSize + Go.len plain) = Z at hzl
  simp only [GoX.setSliceTo, GoX.setSliceFrom, GoX.sliceFrom, h16, newCFBEncrypter, Stream.XORKeyStream, Cfb.sealBytes, Bool.false_eq_true, if_false]
  have hR : (List.drop iv.length Z).length = plain.length := by simp [hzl, hiv]
  rw [List.take_left' hiv, List.drop_left' hiv]
  rw [List.drop_of_length_le (by omega)]
  simp

/-- sealing round trip of the REGENERATED functions: for every key the cipher accepts (block function of size 16), every
    iv the random source delivers (16 bytes) and every plaintext of any length -/
theorem c12_seal_roundtrip_gen (now : Int) (o : Oracles) (plain key : Bytes) (E : Cfb.Block → Cfb.Block) (iv : Bytes)
    (hk : o.newCipher key = .ok E) (hE : ∀ b, (E b).length = 16)
    (hr : o.randRead (GoX.zeros 16) = .ok iv) (hiv : iv.length = 16) :
    ∃ sealed, GenCodec.EncryptAES now o plain key = .ok sealed ∧ GenCodec.DecryptAES now o sealed key = .ok plain := by
  refine ⟨B64.encode (Cfb.sealBytes E 16 iv plain), ?_, ?_⟩
  · simp [GenCodec.EncryptAES, c12_encrypt_bridge now o plain key E iv hk hE hr hiv, b64Encode]
  · unfold GenCodec.DecryptAES
    simp only [b64Decode, B64.decode_encode]
    rw [c12_decrypt_bridge now o _ key E hk hE, Cfb.unseal_seal E 16 (by decide) hE iv hiv plain]

/-! ### Bridges to the hand-written decoder models of `Model/Codec.lean` (on which `c12_audience_exact`, `c12_time_exact`
     are stated): the regenerated audience and time decoders compute the same answers -/

def toAtom : JVal → JAtom
  | .null => .null
  | .bool b => .bool b
  | .num x => .float x.toInt64 (F64.inTime x)
  | .str s => .str s
  | .arr _ => .obj
  | .obj _ => .obj
def toJIn : JVal → JIn
  | .arr l => .arr (l.map toAtom)
  | v => .atom (toAtom v)

theorem all_isStr_map (l : List JVal) : (l.map toAtom).all JAtom.isStr = allStr l := by
  induction l with
  | nil => rfl
  | cons a rest ih => cases a <;> simp [toAtom, JAtom.isStr, allStr, ih]

theorem filterMap_strOf_map (l : List JVal) (h : allStr l = true) : (l.map toAtom).filterMap JAtom.strOf = strsOf l := by
  induction l with
  | nil => rfl
  | cons a rest ih => cases a <;> simp_all [toAtom, JAtom.strOf, allStr, strsOf]

theorem c12_audience_bridge (now : Int) (o : Oracles) (text : String) (doc : JVal) (h : o.jsonAny text = .ok doc) :
    outR (GenCodec.AudienceUnmarshalJSON now o [] text) = decodeAudience (toJIn doc) := by
  rw [c12_audience_exact_gen, h]
  cases doc with
  | arr l =>
    simp only [toJIn, decodeAudience, all_isStr_map]
    by_cases hl : allStr l = true
    · simp [hl, outR, filterMap_strOf_map l hl]
    · simp [hl, outR]
  | _ => rfl

theorem c12_time_bridge (now : Int) (o : Oracles) (data : String) (doc : JVal) (h : o.jsonAny data = .ok doc) :
    outR (GenCodec.TimeUnmarshalJSON now o 0 data) =
      decodeTime (fun s => match o.timeParse s with | .ok t => some (Go.fromTime t) | .error _ => none) (toJIn doc) := by
  rw [c12_time_exact_gen, h]
  cases doc with
  | num x => simp only [toJIn, toAtom, decodeTime]; cases F64.inTime x <;> rfl
  | str s => simp only [toJIn, toAtom, decodeTime]; cases o.timeParse s <;> rfl
  | _ => rfl

/-! ### non-vacuity: concrete documents and oracle answers -/

/-- x/text's answer to `"de-AAAA"`: the partly parsed tag `de` next to a ValueError -/
def oDeAAAA : Oracles := { jsonTag := fun _ _ => ({ s := "de", root := false }, .error "language.ValueError") }
example : outR (GenCodec.LocaleUnmarshalJSON 0 oDeAAAA {} "\"de-AAAA\"") = .val { tag := Tag.zero } := by decide +kernel
example : localeOK (fun _ => .unknown) (.str "de-AAAA") (.val { s := "de", root := false }) = false := by decide +kernel
example : outR (GenCodec.LocaleUnmarshalJSON 0 { jsonTag := fun _ _ => ({ s := "en-US", root := false }, .ok ()) } {} "\"EN-us\"") = .val { tag := { s := "en-US", root := false } } := by decide +kernel
example : outR (GenCodec.LocaleUnmarshalJSON 0 { jsonTag := fun _ t => (t, .error "language: tag is not well-formed") } {} "\"de-\"") = .err := by decide +kernel
example : outR (GenCodec.LocaleUnmarshalJSON 0 {} {} "\"\"") = .val {} := by decide +kernel
/-- `["de-AAAA", "en-US", "x"]`: the unknown and the ill-formed entry are skipped -/
def oLocales : Oracles :=
  { jsonAny := fun _ => .ok (.arr [.str "de-AAAA", .str "en-US", .str "x"]),
    languageParse := fun s => if s == "en-US" then ({ s := "en-US", root := false }, none)
      else if s == "de-AAAA" then ({ s := "de", root := false }, some "language.ValueError") else (Tag.zero, some "language: tag is not well-formed") }
example : outR (GenCodec.LocalesUnmarshalJSON 0 oLocales [] "…") = .val [{ s := "en-US", root := false }] := by decide +kernel
example : outR (GenCodec.LocalesUnmarshalJSON 0 { jsonAny := fun _ => .ok (.arr [.str "de", .num { floor := 1 }]) } [] "…") = .err := by decide +kernel
example : outR (GenCodec.AudienceUnmarshalJSON 0 { jsonAny := fun _ => .ok (.arr [.str "a", .num { floor := 1 }]) } [] "…") = .err := by decide +kernel
example : outR (GenCodec.TimeUnmarshalJSON 0 { jsonAny := fun _ => .ok (.num { floor := -2, frac := true }) } 0 "-1.5") = .val (-1) := by decide +kernel
example : outR (GenCodec.TimeUnmarshalJSON 0 { jsonAny := fun _ => .ok (.num { floor := 9223372036854775808 }) } 0 "9223372036854775808") = .err := by decide +kernel
/-- the last second `time.Unix` does not wrap around is decoded, the next one (and `9223372036854774784`) refused -/
example : outR (GenCodec.TimeUnmarshalJSON 0 { jsonAny := fun _ => .ok (.num { floor := 9223371974719179007 }) } 0 "") = .val 9223371974719179007 := by decide +kernel
example : outR (GenCodec.TimeUnmarshalJSON 0 { jsonAny := fun _ => .ok (.num { floor := 9223371974719179008 }) } 0 "") = .err := by decide +kernel
example : outR (GenCodec.TimeUnmarshalJSON 0 { jsonAny := fun _ => .ok (.num { floor := 9223372036854774784 }) } 0 "9223372036854774784") = .err := by decide +kernel
example : outR (GenCodec.TimeUnmarshalJSON 0 { jsonAny := fun _ => .ok (.num { floor := -9223372036854775808 }) } 0 "") = .val (-9223372036854775808) := by decide +kernel
example : outR (GenCodec.TimeUnmarshalJSON 0 { jsonAny := fun _ => .ok (.num { floor := -9223372036854775809 }) } 0 "") = .err := by decide +kernel
example : outR (GenCodec.unmarshalJSONMulti 0 { unmarshalInto := fun _ d => if d == 0 then .error "json" else .ok () } "{}" [0, 1]) = .err := by decide +kernel
example : outR (GenCodec.mergeAndMarshalClaims 0 {} { enc := .ok [("iss", "\"op\""), ("locale", "null")] } [("locale", "\"de-AAAA\""), ("x", "1")]).2
    = .val [[("locale", "null"), ("x", "1"), ("iss", "\"op\"")]] := by decide +kernel
example : outR (GenCodec.DecryptBytesAES 0 { newCipher := fun _ => .ok (fun _ => List.replicate 16 0) } (List.replicate 15 7) []) = .err := by decide +kernel
example : outR (GenCodec.DecryptBytesAES 0 { newCipher := fun _ => .ok (fun _ => List.replicate 16 0) } (List.replicate 16 7) []) = .val [] := by decide +kernel

end C12
