/-
  C11, part 2: html/template.  The attribute escaper cannot be broken out of and is inverted by the user
  agent's character-reference decoder (all byte strings without NUL); the URL normaliser keeps the target;
  the page rendered from the REGENERATED form_post template tokenises to exactly the expected start tags,
  whatever the redirect URI and the parameter values are.
-/
import OidcModel.Proofs.C11Url

namespace C11
open UA

theorem attrEscape_cons (c : UInt8) (s : Bytes) : AR.attrEscape (c :: s) = AR.attrEscapeByte c ++ AR.attrEscape s := by
  simp [AR.attrEscape]

/-- bytes that end a double-quoted attribute value or open markup -/
def breaksOut (b : UInt8) : Bool := b == 0x22 || b == 0x3C || b == 0x3E || b == 0x27

/-- html/template's replacement table for attribute values: the seven bytes that are not written as they are
    (NUL becomes U+FFFD, `" & ' + < >` a character reference) -/
def attrTable : List (UInt8 × Bytes) :=
  [(0x00, [0xEF, 0xBF, 0xBD]), (0x22, [0x26, 0x23, 0x33, 0x34, 0x3B]), (0x26, [0x26, 0x61, 0x6D, 0x70, 0x3B]),
   (0x27, [0x26, 0x23, 0x33, 0x39, 0x3B]), (0x2B, [0x26, 0x23, 0x34, 0x33, 0x3B]), (0x3C, [0x26, 0x6C, 0x74, 0x3B]),
   (0x3E, [0x26, 0x67, 0x74, 0x3B])]

theorem attrEscapeByte_cases (c : UInt8) :
    (c, AR.attrEscapeByte c) ∈ attrTable ∨ (AR.attrEscapeByte c = [c] ∧ c ∉ attrTable.map (·.1)) := by
  by_cases h : c ∈ attrTable.map (·.1)
  · obtain ⟨p, hp, rfl⟩ := List.mem_map.mp h
    exact Or.inl ((by decide : ∀ p ∈ attrTable, (p.1, AR.attrEscapeByte p.1) ∈ attrTable) p hp)
  · refine Or.inr ⟨?_, h⟩
    simp only [attrTable, List.map_cons, List.map_nil, List.mem_cons, List.not_mem_nil, or_false, not_or] at h
    simp [AR.attrEscapeByte, h]

/-- no entry contains `"`, `'`, `<`, `>`, and each of the four has an entry -/
theorem attrEscapeByte_safe (c : UInt8) : ∀ b ∈ AR.attrEscapeByte c, breaksOut b = false := by
  rcases attrEscapeByte_cases c with h | ⟨h, hn⟩
  · exact (by decide : ∀ p ∈ attrTable, ∀ b ∈ p.2, breaksOut b = false) _ h
  · simp only [attrTable, List.map_cons, List.map_nil, List.mem_cons, List.not_mem_nil, or_false, not_or] at hn
    simp [h, breaksOut, hn]

/-- **no break-out**: whatever the value, its escaped form contains no `"`, `'`, `<`, `>` -/
theorem c11_attr_no_breakout (v : Bytes) : ∀ b ∈ AR.attrEscape v, breaksOut b = false := by
  intro b hb
  obtain ⟨c, _, hc⟩ := List.mem_flatMap.mp hb
  exact attrEscapeByte_safe c b hc

theorem attrEscapeByte_noCR (c : UInt8) (hc : c ≠ 0x0D) : ∀ b ∈ AR.attrEscapeByte c, b ≠ 0x0D := by
  rcases attrEscapeByte_cases c with h | ⟨h, _⟩
  · exact (by decide : ∀ p ∈ attrTable, ∀ b ∈ p.2, b ≠ 0x0D) _ h
  · rw [h]
    intro b hb
    rwa [List.mem_singleton.mp hb]

theorem attrEscape_noCR (v : Bytes) (h : ∀ c ∈ v, c ≠ 0x0D) : ∀ b ∈ AR.attrEscape v, b ≠ 0x0D := by
  intro b hb
  obtain ⟨c, hcv, hc⟩ := List.mem_flatMap.mp hb
  exact attrEscapeByte_noCR c (h c hcv) b hc

theorem lookup_amp : lookupRef [0x61, 0x6D, 0x70] = some (0x26, true) := by decide
theorem lookup_lt : lookupRef [0x6C, 0x74] = some (0x3C, true) := by decide
theorem lookup_gt : lookupRef [0x67, 0x74] = some (0x3E, true) := by decide

/-- one escaped byte is read back as that byte (NUL excepted: it is replaced by U+FFFD) -/
theorem attrUnescapeAux_escByte (f : Nat) (c : UInt8) (r : Bytes) (hc : c ≠ 0) :
    attrUnescapeAux (f + 1) (AR.attrEscapeByte c ++ r) = c :: attrUnescapeAux f r := by
  rcases attrEscapeByte_cases c with h | ⟨h, hn⟩
  · generalize AR.attrEscapeByte c = e at h
    simp only [attrTable, List.mem_cons, Prod.mk.injEq, List.not_mem_nil, or_false] at h
    rcases h with ⟨rfl, rfl⟩ | ⟨rfl, rfl⟩ | ⟨rfl, rfl⟩ | ⟨rfl, rfl⟩ | ⟨rfl, rfl⟩ | ⟨rfl, rfl⟩ | ⟨rfl, rfl⟩
    · exact absurd rfl hc
    · simp [attrUnescapeAux, isDigit, hexVal, digitsVal, fixCodePoint, utf8Encode]
    · simp [attrUnescapeAux, isAlnum, isDigit, isLetter, lookup_amp, utf8Encode]
    · simp [attrUnescapeAux, isDigit, hexVal, digitsVal, fixCodePoint, utf8Encode]
    · simp [attrUnescapeAux, isDigit, hexVal, digitsVal, fixCodePoint, utf8Encode]
    · simp [attrUnescapeAux, isAlnum, isDigit, isLetter, lookup_lt, utf8Encode]
    · simp [attrUnescapeAux, isAlnum, isDigit, isLetter, lookup_gt, utf8Encode]
  · have h26 : (c != 0x26) = true := bne_iff_ne.mpr fun hc' => hn (hc' ▸ by decide)
    simp [h, attrUnescapeAux, h26]

theorem attrUnescapeAux_attrEscape (v : Bytes) (hv : ∀ c ∈ v, c ≠ 0) (f : Nat) (hf : v.length ≤ f) :
    attrUnescapeAux f (AR.attrEscape v) = v := by
  induction v generalizing f with
  | nil => cases f <;> simp [AR.attrEscape, attrUnescapeAux]
  | cons c v ih =>
    cases f with
    | zero => simp at hf
    | succ f =>
      rw [attrEscape_cons, attrUnescapeAux_escByte f c _ (hv c (by simp)),
        ih (fun c hc => hv c (by simp [hc])) f (by simpa using hf)]

theorem attrEscapeByte_ne_nil (c : UInt8) : AR.attrEscapeByte c ≠ [] := by
  rcases attrEscapeByte_cases c with h | ⟨h, _⟩
  · exact (by decide : ∀ p ∈ attrTable, p.2 ≠ []) _ h
  · rw [h]; exact List.cons_ne_nil _ _

theorem attrEscape_length (v : Bytes) : v.length ≤ (AR.attrEscape v).length := by
  induction v with
  | nil => simp
  | cons c v ih =>
    rw [attrEscape_cons, List.length_append, List.length_cons]
    have := List.length_pos_iff.mpr (attrEscapeByte_ne_nil c)
    omega

/-- **the user agent's character-reference decoding inverts html/template's attribute escaper**, for every
    byte string without NUL (NUL cannot be carried by HTML: it becomes U+FFFD) -/
theorem c11_attr_roundtrip (v : Bytes) (hv : ∀ c ∈ v, c ≠ 0) : attrUnescape (AR.attrEscape v) = v := by
  unfold attrUnescape
  exact attrUnescapeAux_attrEscape v hv _ (by have := attrEscape_length v; omega)

/-- the sixteen digits of the normaliser's `%xx`: read back as their value, and alphanumeric -/
theorem lowerhex_digit : ∀ n, n < 16 → hexVal (AR.lowerhex n) = some n ∧ AR.isAlnum (AR.lowerhex n) = true := by decide

theorem urlKeeps_of_isAlnum {c : UInt8} (h : AR.isAlnum c = true) : AR.urlKeeps c = true := by
  rw [AR.urlKeeps, h, Bool.true_or]

theorem urlNormalize_out (u : Bytes) : ∀ b ∈ AR.urlNormalize u, b = 0x25 ∨ AR.urlKeeps b = true := by
  induction u with
  | nil => simp [AR.urlNormalize]
  | cons c u ih =>
    intro b hb
    simp only [AR.urlNormalize, List.mem_append] at hb
    rcases hb with hb | hb
    · split at hb
      · rename_i hk
        rw [List.mem_singleton.mp hb]
        simp only [Bool.or_eq_true, Bool.and_eq_true, beq_iff_eq] at hk
        exact hk.elim Or.inr (fun h => Or.inl h.1)
      · simp only [AR.pctLower, List.mem_cons, List.not_mem_nil, or_false] at hb
        rcases hb with rfl | rfl | rfl
        · exact Or.inl rfl
        · exact Or.inr (urlKeeps_of_isAlnum (lowerhex_digit _ (nibble_hi c)).2)
        · exact Or.inr (urlKeeps_of_isAlnum (lowerhex_digit _ (nibble_lo c)).2)
    · exact ih b hb

theorem urlNormalize_clean (u : Bytes) : ∀ b ∈ AR.urlNormalize u, b ≠ 0x0D ∧ b ≠ 0x00 := by
  intro b hb
  rcases urlNormalize_out u b hb with rfl | h
  · decide
  · constructor <;> (rintro rfl; exact absurd h (by decide))

theorem urlFilter_normalize_clean (uri : Bytes) : ∀ b ∈ AR.attrEscape (AR.urlNormalize (AR.urlFilter uri)), b ≠ 0x0D :=
  attrEscape_noCR _ (fun c hc => (urlNormalize_clean _ c hc).1)

def run (st : TState) (bs : Bytes) : TState := bs.foldl step st

theorem run_append (st : TState) (a b : Bytes) : run st (a ++ b) = run (run st a) b := by simp [run]
theorem run_cons (st : TState) (c : UInt8) (r : Bytes) : run st (c :: r) = run (step st c) r := rfl

/-- the tags found so far are never inspected: they can be framed out -/
def addOut (st : TState) (o : List Tag) : TState := { st with out := st.out ++ o }

theorem step_addOut (st : TState) (c : UInt8) (o : List Tag) : step (addOut st o) c = addOut (step st c) o := by
  obtain ⟨mode, name, attrs, an, av, out⟩ := st
  cases mode <;>
    simp only [step, addOut, TState.emit, TState.pushAttr, apply_ite (fun s : TState => ({ s with out := s.out ++ o } : TState)),
      List.cons_append]

theorem run_addOut (st : TState) (bs : Bytes) (o : List Tag) : run (addOut st o) bs = addOut (run st bs) o := by
  induction bs generalizing st with
  | nil => rfl
  | cons c bs ih => rw [run_cons, step_addOut, ih, run_cons]

/-- **inside a double-quoted attribute value, a byte other than `"` is a value byte and nothing else** -/
theorem step_valueDQ (st : TState) (hs : st.mode = .valueDQ) (c : UInt8) (hc : c ≠ 0x22) :
    step st c = { st with av := c :: st.av } := by
  obtain ⟨mode, name, attrs, an, av, out⟩ := st
  simp only at hs; subst hs
  simp [step, hc]

theorem run_valueDQ (st : TState) (hs : st.mode = .valueDQ) (x : Bytes) (hx : ∀ b ∈ x, b ≠ 0x22) :
    run st x = { st with av := x.reverse ++ st.av } := by
  induction x generalizing st with
  | nil => rfl
  | cons c x ih =>
    rw [run_cons, step_valueDQ st hs c (hx c (by simp)), ih { st with av := c :: st.av } hs (fun b hb => hx b (by simp [hb]))]
    simp

theorem attrEscape_noquote (v : Bytes) : ∀ b ∈ AR.attrEscape v, b ≠ 0x22 := by
  rintro b hb rfl
  exact absurd (c11_attr_no_breakout v _ hb) (by decide)

-- what a well-formed form_post template looks like to the tokenizer (all conditions are decidable and are
-- evaluated by the kernel on the template `factgen` regenerates)

/-- inside `<form method="post" action="`, the fixed part of the page already found -/
def formOpen : TState :=
  { mode := .valueDQ, name := (s "form").reverse, attrs := [(s "method", s "post")], an := (s "action").reverse, av := [], out := pageFrame.reverse }

/-- inside `<input type="hidden" name="<name>" value="` -/
def inputOpen (name : Bytes) : TState :=
  { mode := .valueDQ, name := (s "input").reverse, attrs := [(s "name", name), (s "type", s "hidden")], an := (s "value").reverse, av := [], out := [] }

def closesInput (post : Bytes) : Bool := post == [0x22, 0x2F, 0x3E] || post == [0x22, 0x20, 0x2F, 0x3E]

def noCR (b : Bytes) : Bool := b.all (· != 0x0D)

def restOK : List AR.Node → Bool
  | [] => true
  | .text t :: rest => (run {} t == ({} : TState)) && noCR t && restOK rest
  | .withParam name pre post :: rest =>
    (run {} pre == inputOpen name) && closesInput post && noCR pre && (attrUnescape name == name) && restOK rest
  | .redirectURI :: _ => false

def templateOK (tmpl : List AR.Node) : Bool :=
  match tmpl with
  | .text t0 :: .redirectURI :: .text t1 :: rest =>
    (run {} t0 == formOpen) && (t1.take 2 == [0x22, 0x3E]) && (run {} (t1.drop 2) == ({} : TState)) && noCR t0 && noCR t1 && restOK rest
  | _ => false

theorem templateOK_cases (tmpl : List AR.Node) (h : templateOK tmpl = true) :
    ∃ t0 t1 rest, tmpl = .text t0 :: .redirectURI :: .text t1 :: rest ∧ run {} t0 = formOpen ∧ t1.take 2 = [0x22, 0x3E]
      ∧ run {} (t1.drop 2) = {} ∧ noCR t0 = true ∧ noCR t1 = true ∧ restOK rest = true := by
  unfold templateOK at h
  split at h
  · simp only [Bool.and_eq_true, beq_iff_eq] at h
    obtain ⟨⟨⟨⟨⟨h0, h1⟩, h1'⟩, hc0⟩, hc1⟩, hr⟩ := h
    exact ⟨_, _, _, rfl, h0, h1, h1', hc0, hc1, hr⟩
  · exact absurd h (by decide)

def formTag (action : Bytes) : Tag := { name := s "form", attrs := [(s "method", s "post"), (s "action", action)] }
def inputTag (name v : Bytes) : Tag := { name := s "input", attrs := [(s "type", s "hidden"), (s "name", name), (s "value", v)] }

/-- the parameter names of the hidden inputs of a template -/
def nodeNames : List AR.Node → List Bytes
  | [] => []
  | .withParam name _ _ :: rest => name :: nodeNames rest
  | _ :: rest => nodeNames rest

/-- the fields a template submits for a response: one per listed parameter the response carries, first value -/
def restFields (params : AR.Values) (nodes : List AR.Node) : List (Bytes × Bytes) :=
  (nodeNames nodes).flatMap fun name => ((params.get name).take 1).map (name, ·)

/-- the hidden inputs a template renders for a response, in template order, values as given by `f` -/
def restTags (f : Bytes → Bytes) (params : AR.Values) (nodes : List AR.Node) : List Tag :=
  (restFields params nodes).map fun p => inputTag p.1 (f p.2)

theorem restTags_withParam (f : Bytes → Bytes) (params : AR.Values) (name pre post : Bytes) (rest : List AR.Node) :
    restTags f params (.withParam name pre post :: rest)
      = ((params.get name).take 1).map (fun v => inputTag name (f v)) ++ restTags f params rest := by
  simp [restTags, restFields, nodeNames, Function.comp_def]

theorem mem_restFields {params : AR.Values} {nodes : List AR.Node} {p : Bytes × Bytes} (h : p ∈ restFields params nodes) :
    p.1 ∈ nodeNames nodes ∧ p.2 ∈ params.get p.1 := by
  obtain ⟨name, hn, hp⟩ := List.mem_flatMap.mp h
  obtain ⟨v, hv, rfl⟩ := List.mem_map.mp hp
  exact ⟨hn, List.mem_of_mem_take hv⟩

/-- the escaped action and the `">` after it complete the form tag -/
theorem run_formValue (x : Bytes) (hx : ∀ b ∈ x, b ≠ 0x22) :
    run formOpen (x ++ [0x22, 0x3E]) = addOut {} (formTag x :: pageFrame.reverse) := by
  rw [run_append, run_valueDQ formOpen rfl x hx]
  simp [run, step, addOut, formOpen, formTag, TState.pushAttr, TState.emit, isSpace]

theorem run_inputValue (name x : Bytes) (hx : ∀ b ∈ x, b ≠ 0x22) (o : List Tag) :
    run (addOut (inputOpen name) o) x = addOut { inputOpen name with av := x.reverse } o := by
  rw [run_valueDQ _ rfl x hx]
  simp [addOut, inputOpen]

theorem run_closeInput (name x : Bytes) (post : Bytes) (hp : closesInput post = true) (o : List Tag) :
    run (addOut { inputOpen name with av := x.reverse } o) post = addOut {} (inputTag name x :: o) := by
  simp only [closesInput, Bool.or_eq_true, beq_iff_eq] at hp
  rcases hp with hp | hp <;> subst hp <;>
    simp [run, step, addOut, inputOpen, inputTag, TState.pushAttr, TState.emit, isSpace]

theorem run_rest (uri : Bytes) (params : AR.Values) (rest : List AR.Node) (h : restOK rest = true) (o : List Tag) :
    run (addOut {} o) (rest.flatMap (AR.renderNode true uri params))
      = addOut {} ((restTags AR.attrEscape params rest).reverse ++ o) := by
  induction rest generalizing o with
  | nil => rfl
  | cons n rest ih =>
    cases n with
    | text t =>
      simp only [restOK, Bool.and_eq_true, beq_iff_eq] at h
      rw [List.flatMap_cons, run_append]
      show run (run (addOut {} o) t) _ = _
      rw [run_addOut, h.1.1, ih h.2]
      rfl
    | redirectURI => simp [restOK] at h
    | withParam name pre post =>
      simp only [restOK, Bool.and_eq_true, beq_iff_eq] at h
      obtain ⟨⟨⟨⟨h1, h2⟩, _⟩, _⟩, h5⟩ := h
      rw [List.flatMap_cons, run_append, restTags_withParam]
      simp only [AR.renderNode]
      cases hg : params.get name with
      | nil => simpa [run] using ih h5 o
      | cons v vs =>
        simp only [if_true]
        rw [run_append, run_append, run_addOut, h1, run_inputValue name _ (attrEscape_noquote v),
          run_closeInput name _ post h2 o, ih h5]
        simp

theorem normalizeNL_id (x : Bytes) (h : ∀ b ∈ x, b ≠ 0x0D) : normalizeNL false x = x := by
  induction x with
  | nil => rfl
  | cons c x ih =>
    have hc : (c == 0x0D) = false := by simpa using h c (by simp)
    simp [normalizeNL, hc, ih (fun b hb => h b (by simp [hb]))]

theorem noCR_iff (x : Bytes) : noCR x = true ↔ ∀ b ∈ x, b ≠ 0x0D := by
  simp [noCR]

theorem noCR_append (a b : Bytes) : noCR (a ++ b) = (noCR a && noCR b) := List.all_append

theorem closesInput_noCR (post : Bytes) (h : closesInput post = true) : noCR post = true := by
  simp only [closesInput, Bool.or_eq_true, beq_iff_eq] at h
  rcases h with rfl | rfl <;> rfl

theorem rest_noCR (uri : Bytes) (params : AR.Values) (hv : ∀ name, ∀ v ∈ params.get name, ∀ c ∈ v, c ≠ 0x0D)
    (rest : List AR.Node) (h : restOK rest = true) : noCR (rest.flatMap (AR.renderNode true uri params)) = true := by
  induction rest with
  | nil => rfl
  | cons n rest ih =>
    rw [List.flatMap_cons, noCR_append]
    cases n with
    | text t =>
      simp only [restOK, Bool.and_eq_true] at h
      simp [AR.renderNode, h.1.2, ih h.2]
    | redirectURI => simp [restOK] at h
    | withParam name pre post =>
      simp only [restOK, Bool.and_eq_true] at h
      obtain ⟨⟨⟨⟨_, h2⟩, h3⟩, _⟩, h5⟩ := h
      simp only [AR.renderNode, ih h5, Bool.and_true]
      cases hg : params.get name with
      | nil => rfl
      | cons v vs =>
        have hv' := (noCR_iff _).mpr (attrEscape_noCR v (hv name v (by simp [hg])))
        simp [noCR_append, h3, hv', closesInput_noCR post h2]

/-- the page of a template of the expected shape: text, the escaped action, `">` and more text, the rest -/
theorem render_eq (t0 t1 : Bytes) (rest : List AR.Node) (h : t1.take 2 = [0x22, 0x3E]) (uri : Bytes) (params : AR.Values) :
    AR.render true (.text t0 :: .redirectURI :: .text t1 :: rest) uri params
      = t0 ++ ((AR.attrEscape (AR.urlNormalize (AR.urlFilter uri)) ++ [0x22, 0x3E])
          ++ (t1.drop 2 ++ rest.flatMap (AR.renderNode true uri params))) := by
  have ht1 : t1 = [0x22, 0x3E] ++ t1.drop 2 := by rw [← h, List.take_append_drop]
  conv => lhs; rw [ht1]
  simp [AR.render, AR.renderNode]

theorem noCR_render (tmpl : List AR.Node) (h : templateOK tmpl = true)
    (uri : Bytes) (params : AR.Values) (hv : ∀ name, ∀ v ∈ params.get name, ∀ c ∈ v, c ≠ 0x0D) :
    ∀ b ∈ AR.render true tmpl uri params, b ≠ 0x0D := by
  obtain ⟨t0, t1, rest, rfl, _, _, _, hc0, hc1, hr⟩ := templateOK_cases tmpl h
  rw [← noCR_iff]
  simp [AR.render, AR.renderNode, noCR_append, hc0, hc1, (noCR_iff _).mpr (urlFilter_normalize_clean uri),
    rest_noCR uri params hv rest hr]

/-- **the page rendered from a well-formed template tokenises to exactly: the page frame, ONE form tag whose
    action is the escaped (filtered, normalised) redirect URI, and one hidden input per listed parameter that the
    response carries — for every redirect URI and all parameter values (values without CR: HTML cannot carry it).
    Nothing a value or the URI contains becomes an element or an attribute.** -/
theorem tokenize_render (tmpl : List AR.Node) (h : templateOK tmpl = true)
    (uri : Bytes) (params : AR.Values) (hv : ∀ name, ∀ v ∈ params.get name, ∀ c ∈ v, c ≠ 0x0D) :
    tokenize (AR.render true tmpl uri params)
      = pageFrame ++ formTag (AR.attrEscape (AR.urlNormalize (AR.urlFilter uri))) :: restTags AR.attrEscape params (tmpl.drop 3) := by
  have hnocr := noCR_render tmpl h uri params hv
  obtain ⟨t0, t1, rest, rfl, h0, h1, h1', _, _, hr⟩ := templateOK_cases tmpl h
  unfold tokenize normalizeNewlines
  rw [normalizeNL_id _ hnocr, render_eq t0 t1 rest h1]
  show (run {} _).out.reverse = _
  rw [run_append, h0, run_append, run_formValue _ (attrEscape_noquote _), run_append, run_addOut, h1', run_rest uri params rest hr]
  simp [addOut]

def prefixOf : Pct → Bytes
  | .none => []
  | .pct => pct25
  | .pct1 a => pct25 ++ [a]

theorem canonS_nil (st : Pct) : canonS st [] = prefixOf st := by cases st <;> rfl

/-- a byte that is no hex digit ends any pending escape -/
theorem canonS_flush (st : Pct) (c : UInt8) (r : Bytes) (hc : hexVal c = none) :
    canonS st (c :: r) = prefixOf st ++ canonS .none (c :: r) := by
  cases st with
  | none => simp [prefixOf]
  | pct => simp [canonS, prefixOf, hc]
  | pct1 a =>
    simp only [canonS, prefixOf, hc]
    cases hexVal a <;> simp

theorem hexVal_pct : hexVal 0x25 = none := by decide

theorem ne_pct_of_hex {a : UInt8} {x : Nat} (h : hexVal a = some x) : (a == 0x25) = false := by
  rw [beq_eq_false_iff_ne]; intro heq; rw [heq, hexVal_pct] at h; cases h

/-- a `%` that starts no escape is spelled `%25` -/
theorem canonS_pct_invalid (r : Bytes) (h : AR.startsHexHex r = false) : canonS .pct r = pct25 ++ canonS .none r := by
  match r with
  | [] => rfl
  | a :: r1 =>
    cases ha : hexVal a with
    | none => exact canonS_flush .pct a r1 ha
    | some x =>
      have hne := ne_pct_of_hex ha
      match r1 with
      | [] => simp [canonS, ha, hne, pct25]
      | b :: r2 =>
        have hb : hexVal b = none := by
          cases hb : hexVal b with
          | none => rfl
          | some y =>
            have : AR.startsHexHex (a :: b :: r2) = true := by simp [AR.startsHexHex, unhex_eq, ha, hb]
            rw [this] at h; cases h
        have h1 : canonS .pct (a :: b :: r2) = canonS (.pct1 a) (b :: r2) := by simp [canonS, ha]
        rw [h1, canonS_flush (.pct1 a) b r2 hb]
        simp [canonS, prefixOf, hne]

theorem isAlnum_of_hexVal {c : UInt8} {x : Nat} (h : hexVal c = some x) : AR.isAlnum c = true := by
  unfold hexVal at h
  unfold AR.isAlnum
  split at h
  · rename_i h1; simp [h1]
  · split at h
    · rename_i h1; simp [h1.1, UInt8.le_trans h1.2 (by decide : (0x66 : UInt8) ≤ 0x7A)]
    · split at h
      · rename_i h1; simp [h1.1, UInt8.le_trans h1.2 (by decide : (0x46 : UInt8) ≤ 0x5A)]
      · cases h

theorem urlKeeps_of_structural {c : UInt8} (h : structural c = true) : AR.urlKeeps c = true ∨ c = 0x25 := by
  unfold structural at h
  exact (by decide : ∀ c ∈ [0x3A, 0x2F, 0x3F, 0x23, 0x5B, 0x5D, 0x40, 0x21, 0x24, 0x26, 0x2A, 0x2B, 0x2C, 0x3B, 0x3D, (0x25 : UInt8)],
    AR.urlKeeps c = true ∨ c = 0x25) c (List.contains_iff_mem.mp h)

theorem urlKeeps_pct : AR.urlKeeps 0x25 = false := by decide
theorem pctLower_pct : AR.pctLower 0x25 = [0x25, 0x32, 0x35] := by decide

/-- **html/template's URL normaliser does not change the target** -/
theorem canonS_urlNormalize (u : Bytes) : ∀ st, canonS st (AR.urlNormalize u) = canonS st u := by
  induction u with
  | nil => intro st; rfl
  | cons c r ih =>
    intro st
    simp only [AR.urlNormalize]
    by_cases hpct : c = 0x25
    · subst hpct
      by_cases hh : AR.startsHexHex r = true
      · -- a valid escape is kept
        simp only [urlKeeps_pct, hh, Bool.false_or, beq_self_eq_true, Bool.and_self, if_true, List.singleton_append]
        rw [canonS_flush st _ _ hexVal_pct, canonS_flush st _ _ hexVal_pct]
        simp [canonS, ih]
      · have hh' : AR.startsHexHex r = false := by simpa using hh
        simp only [urlKeeps_pct, hh', Bool.false_or, beq_self_eq_true, Bool.and_false, Bool.false_eq_true, if_false, pctLower_pct]
        show canonS st (0x25 :: 0x32 :: 0x35 :: AR.urlNormalize r) = _
        rw [canonS_flush st _ _ hexVal_pct, canonS_flush st _ _ hexVal_pct]
        have : canonS .none (0x25 :: 0x32 :: 0x35 :: AR.urlNormalize r) = pct25 ++ canonS .none (AR.urlNormalize r) := by
          simp [canonS, hexVal, structural, upperHex, pct25]
        rw [this, ih, show canonS .none (0x25 :: r) = canonS .pct r from by simp [canonS], canonS_pct_invalid r hh']
    · have hpct' : (c == 0x25) = false := by simpa using hpct
      by_cases hk : AR.urlKeeps c = true
      · simp only [hk, Bool.true_or, if_true, List.singleton_append]
        cases st <;> simp [canonS, hpct', ih]
      · -- an escaped byte is no hexadecimal digit and has no delimiter role: canonically, its `%xx` is the byte itself
        have hk' : AR.urlKeeps c = false := by simpa using hk
        have hhex : hexVal c = none := by
          cases h : hexVal c with
          | none => rfl
          | some x => exact absurd (urlKeeps_of_isAlnum (isAlnum_of_hexVal h)) hk
        have hstr : structural c = false := by
          cases h : structural c with
          | false => rfl
          | true => exact (urlKeeps_of_structural h).elim (absurd · hk) (absurd · hpct)
        simp only [hk', hpct', Bool.false_and, Bool.or_self, Bool.false_eq_true, if_false, AR.pctLower]
        show canonS st (0x25 :: AR.lowerhex (c.toNat / 16) :: AR.lowerhex (c.toNat % 16) :: AR.urlNormalize r) = _
        rw [canonS_flush st _ _ hexVal_pct, canonS_flush st c r hhex]
        simp only [canonS, beq_self_eq_true, if_true, (lowerhex_digit _ (nibble_hi c)).1, (lowerhex_digit _ (nibble_lo c)).1,
          Option.isSome_some, nibbles, hstr, Bool.false_eq_true, if_false, hpct', ih, List.singleton_append]

theorem canon_urlNormalize (u : Bytes) : canon (AR.urlNormalize u) = canon u := canonS_urlNormalize u .none

/-- the form's action addresses the redirect URI whenever html/template's URL filter lets its scheme through -/
theorem c11_form_action_target (uri : Bytes) (h : AR.isSafeURL uri = true) :
    sameTarget (AR.urlNormalize (AR.urlFilter uri)) uri = true := by
  simp [sameTarget, AR.urlFilter, h, canon_urlNormalize]

end C11
