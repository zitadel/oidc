/-
  C13 — trace-level statements with explicit POSITIONS: where in a run a rejection (or a fetch error) is justified.
  This is the module the C13 check builds (`checklib/props.d/C13.json`).

  Part 1 is about the monitor alone (no model): what `monitor = none` says about the positions of a run's observations.
  The linearisation point of a refresh is `Obs.ask c` — the instant call `c`, unanswered by the cache, is released into
  `keysFromRemote`'s critical section.  A rejection must rest on a successful download that had NOT been announced in the
  prefix of the run up to that instant (or on the named key itself), wherever rotations, other calls, answers and
  publications are placed in the run.

  Part 2 instantiates it with the runs of the transition system built from the regenerated facts and decision functions of
  jwks.go (`GenJwks.facts`, `GenJwks.logic`) for ALL schedules (`C13.jwks_model_satisfies_monitor`); it also shows that the
  end of one call's context (cancellation, deadline) touches only that call, with witness schedules for a download that keeps
  the starter's deadline.  Part 3 is a witness schedule for the window between a call's cache lookup and the critical section.
-/
import OidcModel.Proofs.C13

namespace C13
open Jwks Hand

/-! ## Part 1 — the monitor, position by position -/

@[simp] theorem flag_callers (m : MState) (cl : String) : (m.flag cl).callers = m.callers := by
  unfold MState.flag; split <;> rfl
@[simp] theorem flag_skip (m : MState) (cl : String) : (m.flag cl).skip = m.skip := by
  unfold MState.flag; split <;> rfl
@[simp] theorem flag_announced (m : MState) (cl : String) : (m.flag cl).announced = m.announced := by
  unfold MState.flag; split <;> rfl
theorem flag_viol_none {m : MState} {cl : String} (h : (m.flag cl).viol = none) : False := by
  unfold MState.flag at h; split at h <;> simp_all

/-- a violation, once recorded, stays: `flag` leaves a state that carries one as it is -/
theorem mstep_viol_mono {m : MState} {o : Obs} (h : (mstep m o).viol = none) : m.viol = none := by
  cases hv : m.viol with
  | none => rfl
  | some v =>
    have hf : ∀ cl, m.flag cl = m := fun cl => by simp [MState.flag, hv]
    cases o <;> simp only [mstep, hf, ite_self] at h <;> (try split at h) <;> simp [hv] at h

theorem mrun_viol_mono {obs : List Obs} {m : MState} (h : (mrun m obs).viol = none) : m.viol = none := by
  induction obs generalizing m with
  | nil => exact h
  | cons o os ih => exact mstep_viol_mono (ih (by rwa [mrun_cons] at h))

theorem mstep_skip (m : MState) (o : Obs) : (mstep m o).skip = m.skip := by
  cases o <;> simp only [mstep, apply_ite MState.skip, flag_skip, ite_self]
  case finish => split <;> simp only [flag_skip]
  case retire => split <;> rfl

theorem mrun_skip (obs : List Obs) (m : MState) : (mrun m obs).skip = m.skip := by
  induction obs generalizing m with
  | nil => rfl
  | cons o os ih => rw [mrun_cons, ih, mstep_skip]

theorem mstep_announced_eq (m : MState) (o : Obs) :
    (mstep m o).announced = match o with | .announce f => upd m.announced f true | _ => m.announced := by
  cases o <;> simp only [mstep, apply_ite MState.announced, flag_announced, ite_self]
  case finish => split <;> simp only [flag_announced]
  case retire => split <;> rfl

theorem mstep_callers (m : MState) (o : Obs) (c : Cid) :
    (mstep m o).callers c =
      match o with
      | .start c' tok => if c' = c ∧ (m.callers c).started = false then
          { tok := tok, started := true, stale := m.announced, hit := refAccepts m.cacheExpect tok, mayHit := refAccepts m.cacheExpect tok }
          else m.callers c
      | .finish c' _ => if c' = c then { m.callers c with finished := true } else m.callers c
      | .cancel c' => if c' = c then { m.callers c with cancelled := true } else m.callers c
      | .expire c' => if c' = c then { m.callers c with cancelled := true } else m.callers c
      | .ask c' => if c' = c then { m.callers c with asked := m.announced } else m.callers c
      | .fetchBegin _ c' => if c' = c then { m.callers c with owned := (m.callers c).owned + 1 } else m.callers c
      | .retire f => (match okKeys m f with
          | some ks => { m.callers c with hit := (m.callers c).hit && refAccepts ks (m.callers c).tok,
                                          mayHit := (m.callers c).mayHit || refAccepts ks (m.callers c).tok }
          | none => m.callers c)
      | _ => m.callers c := by
  cases o with
  | start c' tok =>
    by_cases hc : c' = c
    · subst hc; simp only [mstep]; split <;> simp_all [upd]
    · simp only [mstep]; split <;> simp [upd, hc, Ne.symm hc]
  | finish c' oc =>
    simp only [mstep]
    by_cases hc : c' = c
    · subst hc; split <;> simp [upd]
    · split <;> simp [upd, hc, Ne.symm hc]
  | fetchBegin f c' =>
    simp only [mstep, apply_ite MState.callers, flag_callers, ite_self]
    by_cases hc : c' = c
    · subst hc; simp [upd]
    · simp [upd, hc, Ne.symm hc]
  | retire f => simp only [mstep]; cases okKeys m f <;> rfl
  | cancel c' | expire c' | ask c' =>
    simp only [mstep]
    by_cases hc : c' = c
    · subst hc; simp [upd]
    · simp [upd, hc, Ne.symm hc]
  | fetchEnd f a => simp only [mstep, apply_ite MState.callers, flag_callers, ite_self]
  | rotate _ | announce _ | point _ _ => rfl

/-- Only `ask c` can make the snapshot `asked` of call `c` say "not yet announced" for a download: every other observation leaves it
    alone or (a fresh `start`) resets it to "everything is announced". -/
theorem mstep_asked {m : MState} {o : Obs} {c : Cid} {f : Fid} (ho : o ≠ Obs.ask c)
    (h : ((mstep m o).callers c).asked f = false) : (m.callers c).asked f = false := by
  rw [mstep_callers] at h
  cases o <;> try exact h
  case ask c' => have hc : c' ≠ c := fun e => ho (by rw [e]); simpa [hc] using h
  all_goals (simp only [] at h; split at h <;> first | exact h | simp at h)

theorem mrun_asked {obs : List Obs} {m : MState} {c : Cid} {f : Fid} (ho : ∀ x ∈ obs, x ≠ Obs.ask c)
    (h : ((mrun m obs).callers c).asked f = false) : (m.callers c).asked f = false := by
  induction obs generalizing m with
  | nil => exact h
  | cons o os ih =>
    exact mstep_asked (ho o (List.mem_cons_self ..)) (ih (fun x hx => ho x (List.mem_cons_of_mem _ hx)) h)

theorem mstep_announced (m : MState) (o : Obs) (f : Fid) :
    (mstep m o).announced f = true ↔ (m.announced f = true ∨ o = Obs.announce f) := by
  rw [mstep_announced_eq]
  cases o with
  | announce g =>
    by_cases hg : f = g
    · subst hg; simp [upd]
    · have : Obs.announce g ≠ Obs.announce f := fun e => hg (by injection e with e; exact e.symm)
      simp [upd, hg, this]
  | _ => simp

theorem mrun_announced (obs : List Obs) (m : MState) (f : Fid) :
    (mrun m obs).announced f = true ↔ (m.announced f = true ∨ Obs.announce f ∈ obs) := by
  induction obs generalizing m with
  | nil => simp [mrun_nil]
  | cons o os ih =>
    rw [mrun_cons, ih, mstep_announced, List.mem_cons, or_assoc, eq_comm (a := o)]

theorem judge_of_monitor {skip : Bool} {before post : List Obs} {c : Cid} {o : Outcome}
    (hmon : monitor skip (before ++ Obs.finish c o :: post) = none) :
    judge (mrun { skip := skip } before) c o = none := by
  unfold monitor at hmon
  rw [mrun_append, mrun_cons] at hmon
  have h1 := mrun_viol_mono hmon
  have h0 := mstep_viol_mono h1
  simp only [mstep] at h1
  split at h1
  · exact (flag_viol_none h1).elim
  · assumption

theorem judge_reject {m : MState} {c : Cid} {o : Outcome} (ho : o = .noKey ∨ o = .badSig) (hj : judge m c o = none) :
    rejectJustified m (m.callers c) = true := by
  obtain ⟨_, _, h⟩ := judge_none_iff.mp hj
  rcases ho with rfl | rfl <;> exact h.2

theorem rejectJustified_elim {m : MState} {mc : MCaller} (h : rejectJustified m mc = true) :
    ∃ f ks, f < m.nf ∧ okKeys m f = some ks ∧
      ((mc.asked f = false ∧ refAccepts ks mc.tok = false) ∨ namedKeyRejects m.skip ks mc.tok = true) := by
  unfold rejectJustified at h
  rw [List.any_eq_true] at h
  obtain ⟨f, hf, hm⟩ := h
  cases hk : okKeys m f with
  | none => simp [hk] at hm
  | some ks =>
    simp only [hk, Bool.or_eq_true, Bool.and_eq_true, Bool.not_eq_true'] at hm
    exact ⟨f, ks, List.mem_range.mp hf, hk, hm⟩

/-- the snapshot taken at `ask c` survives until the call returns: a download the call regards as unannounced then had not been
    announced when it asked -/
theorem not_announced_of_asked {skip : Bool} {pre mid : List Obs} {c : Cid} {f : Fid} (hmid : ∀ x ∈ mid, x ≠ Obs.ask c)
    (h : ((mrun { skip := skip } (pre ++ Obs.ask c :: mid)).callers c).asked f = false) : Obs.announce f ∉ pre := by
  rw [mrun_append, mrun_cons] at h
  have h1 : (mrun { skip := skip } pre).announced f = false := by simpa [mstep, upd] using mrun_asked hmid h
  intro hmem
  rw [(mrun_announced pre { skip := skip } f).mpr (Or.inr hmem)] at h1
  cases h1

/-- **Linearisation of a rejection.** In a run the monitor accepts, let `ask c` be the last instant before `finish c` at which call `c`
    turned to the endpoint. If the call is rejected (`noKey` / `badSig`), then a download `f` ended successfully before the call
    returned, with a key set `ks` such that EITHER no `announce f` occurs in the run before that `ask c` — the download was still
    under way when the call asked, it is the refresh the call triggered or shared — and `ks` does not verify the token, OR `ks`
    contains the very key the token names and that key does not verify it. Rotations, other calls, answers and publications may be
    anywhere in `pre`, `mid`, `post`. -/
theorem monitor_reject_linearised (skip : Bool) (pre mid post : List Obs) (c : Cid) (o : Outcome)
    (ho : o = .noKey ∨ o = .badSig) (hmid : ∀ x ∈ mid, x ≠ Obs.ask c)
    (hmon : monitor skip (pre ++ Obs.ask c :: (mid ++ Obs.finish c o :: post)) = none) :
    ∃ f ks, f < (mrun { skip := skip } (pre ++ Obs.ask c :: mid)).nf ∧
      okKeys (mrun { skip := skip } (pre ++ Obs.ask c :: mid)) f = some ks ∧
      ((Obs.announce f ∉ pre ∧ refAccepts ks ((mrun { skip := skip } (pre ++ Obs.ask c :: mid)).callers c).tok = false) ∨
        namedKeyRejects skip ks ((mrun { skip := skip } (pre ++ Obs.ask c :: mid)).callers c).tok = true) := by
  have hj : judge (mrun { skip := skip } (pre ++ Obs.ask c :: mid)) c o = none := by
    apply judge_of_monitor (post := post)
    simpa [List.append_assoc] using hmon
  obtain ⟨f, ks, hf, hk, hm⟩ := rejectJustified_elim (judge_reject ho hj)
  rw [mrun_skip] at hm
  exact ⟨f, ks, hf, hk, hm.imp_left fun ⟨ha, hr⟩ => ⟨not_announced_of_asked hmid ha, hr⟩⟩

/-- **No refresh, no rejection by ignorance.** A call that never turned to the endpoint (no `ask c` before its `finish`) can only be
    rejected because a downloaded key set contains the key its token names and that key does not verify it. -/
theorem monitor_reject_without_ask (skip : Bool) (before post : List Obs) (c : Cid) (o : Outcome)
    (ho : o = .noKey ∨ o = .badSig) (hno : ∀ x ∈ before, x ≠ Obs.ask c)
    (hmon : monitor skip (before ++ Obs.finish c o :: post) = none) :
    ∃ f ks, okKeys (mrun { skip := skip } before) f = some ks ∧
      namedKeyRejects skip ks ((mrun { skip := skip } before).callers c).tok = true := by
  obtain ⟨f, ks, _, hk, hm⟩ := rejectJustified_elim (judge_reject ho (judge_of_monitor hmon))
  rw [mrun_skip] at hm
  rcases hm with ⟨ha, _⟩ | hn
  · exact Bool.noConfusion (mrun_asked (m := { skip := skip }) hno ha)
  · exact ⟨f, ks, hk, hn⟩

/-- **Linearisation of a fetch error.** A call that fails with the error of a download (`k`) was failed by a download that ended with
    exactly `k` and had not been announced when the call asked. -/
theorem monitor_fetchErr_linearised (skip : Bool) (pre mid post : List Obs) (c : Cid) (k : EndKind)
    (hmid : ∀ x ∈ mid, x ≠ Obs.ask c)
    (hmon : monitor skip (pre ++ Obs.ask c :: (mid ++ Obs.finish c (.fetchErr k) :: post)) = none) :
    ∃ f, failedWith (mrun { skip := skip } (pre ++ Obs.ask c :: mid)) f k = true ∧ Obs.announce f ∉ pre := by
  have hj : judge (mrun { skip := skip } (pre ++ Obs.ask c :: mid)) c (.fetchErr k) = none := by
    apply judge_of_monitor (post := post)
    simpa [List.append_assoc] using hmon
  have hrj := (judge_none_iff.mp hj).2.2.2.2
  unfold fetchErrJustified at hrj
  rw [List.any_eq_true] at hrj
  obtain ⟨f, _, hm⟩ := hrj
  simp only [Bool.and_eq_true, Bool.not_eq_true'] at hm
  exact ⟨f, hm.2, not_announced_of_asked hmid hm.1⟩

/-- The monitor regards the own context of call `c` as ended only after it has observed `cancel c` or `expire c` (the deadline of that
    call's context passed): no observation about ANOTHER call, a download, a rotation or a publication ends it. -/
theorem mstep_cancelled {m : MState} {o : Obs} {c : Cid} (h : ((mstep m o).callers c).cancelled = true) :
    (m.callers c).cancelled = true ∨ o = Obs.cancel c ∨ o = Obs.expire c := by
  rw [mstep_callers] at h
  cases o <;> try exact Or.inl h
  case cancel c' =>
    simp only [] at h; split at h
    · subst_vars; exact Or.inr (Or.inl rfl)
    · exact Or.inl h
  case expire c' =>
    simp only [] at h; split at h
    · subst_vars; exact Or.inr (Or.inr rfl)
    · exact Or.inl h
  all_goals (simp only [] at h; split at h <;> first | exact Or.inl h | simp at h)

theorem mrun_cancelled {obs : List Obs} {m : MState} {c : Cid} (h : ((mrun m obs).callers c).cancelled = true) :
    (m.callers c).cancelled = true ∨ Obs.cancel c ∈ obs ∨ Obs.expire c ∈ obs := by
  induction obs generalizing m with
  | nil => exact Or.inl h
  | cons o os ih =>
    rw [mrun_cons] at h
    simp only [List.mem_cons]
    rcases ih h with h1 | h1 | h1
    · rcases mstep_cancelled h1 with h2 | h2 | h2 <;> simp [h2]
    · simp [h1]
    · simp [h1]

/-- **Isolation of contexts, for both kinds of ending (position-explicit).** In a run the monitor accepts, a call that returns its own
    context error, or the error of a download that was ended by a context (`context canceled` AND `context deadline exceeded`: somebody's
    `cancel()` or somebody's deadline), has seen ITS OWN context end before it returned: `cancel c` or `expire c` occurs in the run
    before `finish c`. Cancellations and deadlines of every other call may be anywhere in the run. -/
theorem monitor_own_context_isolation (skip : Bool) (before post : List Obs) (c : Cid) (o : Outcome)
    (ho : o = .ctxErr ∨ o = .fetchErr .cancelled)
    (hmon : monitor skip (before ++ Obs.finish c o :: post) = none) :
    Obs.cancel c ∈ before ∨ Obs.expire c ∈ before := by
  have hj := judge_of_monitor hmon
  have hc : ((mrun { skip := skip } before).callers c).cancelled = true := by
    rcases ho with rfl | rfl
    · exact (judge_none_iff.mp hj).2.2
    · exact (judge_none_iff.mp hj).2.2.2.1 rfl
  rcases mrun_cancelled hc with h | h | h
  · simp at h
  · exact Or.inl h
  · exact Or.inr h

/-! ## Part 2 — every schedule of the regenerated single-flight logic -/

section model
variable (cfg : JwksSet) (hd : cfg.defaultAlg = "") {tr : List Act} {s : State}
include hd

/-- **Rejected only after a refresh that was still under way when the call asked** — for every schedule `tr` of the transition system
    built from the regenerated `keysFromRemote` / `updateKeys` facts and the regenerated decision functions, with rotations
    (`Act.rotate`), answers of any kind (`Act.respond`), cancellations and any number of other calls at arbitrary positions: if the
    run's observations are `pre ++ ask c :: mid ++ finish c o :: post` with `o` a rejection and no further `ask c` in `mid`, then some
    download ended successfully with a key set that rejects the token and had not been announced anywhere in `pre`, or a downloaded
    key set contains the named key and that key rejects the token. -/
theorem jwks_reject_linearised (pre mid post : List Obs) (c : Cid) (o : Outcome)
    (h : run GenJwks.facts GenJwks.logic cfg {} tr = some (s, pre ++ Obs.ask c :: (mid ++ Obs.finish c o :: post)))
    (ho : o = .noKey ∨ o = .badSig) (hmid : ∀ x ∈ mid, x ≠ Obs.ask c) :
    ∃ f ks, okKeys (mrun { skip := cfg.skipRemoteCheck } (pre ++ Obs.ask c :: mid)) f = some ks ∧
      ((Obs.announce f ∉ pre ∧ refAccepts ks ((mrun { skip := cfg.skipRemoteCheck } (pre ++ Obs.ask c :: mid)).callers c).tok = false) ∨
        namedKeyRejects cfg.skipRemoteCheck ks ((mrun { skip := cfg.skipRemoteCheck } (pre ++ Obs.ask c :: mid)).callers c).tok = true) := by
  obtain ⟨f, ks, _, hk, hr⟩ :=
    monitor_reject_linearised cfg.skipRemoteCheck pre mid post c o ho hmid (jwks_model_satisfies_monitor cfg hd tr s _ h)
  exact ⟨f, ks, hk, hr⟩

/-- a call that is answered before it ever turns to the endpoint is rejected only by the key its token names -/
theorem jwks_reject_without_refresh (before post : List Obs) (c : Cid) (o : Outcome)
    (h : run GenJwks.facts GenJwks.logic cfg {} tr = some (s, before ++ Obs.finish c o :: post))
    (ho : o = .noKey ∨ o = .badSig) (hno : ∀ x ∈ before, x ≠ Obs.ask c) :
    ∃ f ks, okKeys (mrun { skip := cfg.skipRemoteCheck } before) f = some ks ∧
      namedKeyRejects cfg.skipRemoteCheck ks ((mrun { skip := cfg.skipRemoteCheck } before).callers c).tok = true :=
  monitor_reject_without_ask cfg.skipRemoteCheck before post c o ho hno (jwks_model_satisfies_monitor cfg hd tr s _ h)

/-- a call fails with a download's error only if that download had not been announced when the call asked -/
theorem jwks_fetchErr_linearised (pre mid post : List Obs) (c : Cid) (k : EndKind)
    (h : run GenJwks.facts GenJwks.logic cfg {} tr = some (s, pre ++ Obs.ask c :: (mid ++ Obs.finish c (.fetchErr k) :: post)))
    (hmid : ∀ x ∈ mid, x ≠ Obs.ask c) :
    ∃ f, failedWith (mrun { skip := cfg.skipRemoteCheck } (pre ++ Obs.ask c :: mid)) f k = true ∧ Obs.announce f ∉ pre :=
  monitor_fetchErr_linearised cfg.skipRemoteCheck pre mid post c k hmid (jwks_model_satisfies_monitor cfg hd tr s _ h)

/-- **One caller's cancellation — or deadline — does not fail another caller**, for every schedule of the transition system built from the
    regenerated facts (`GenJwks.facts`: the shared download runs under `context.WithoutCancel(ctx)`, i.e. `spawnCtx = detached`: no
    cancellation, no deadline) and decision functions, with `Act.cancel` and `Act.expire` steps of any calls at arbitrary positions: a call
    that returns a context error — its own, or that of a download ended by a context — has had `cancel c` or `expire c` of ITS OWN context
    before. -/
theorem jwks_own_context_isolation (before post : List Obs) (c : Cid) (o : Outcome)
    (h : run GenJwks.facts GenJwks.logic cfg {} tr = some (s, before ++ Obs.finish c o :: post))
    (ho : o = .ctxErr ∨ o = .fetchErr .cancelled) :
    Obs.cancel c ∈ before ∨ Obs.expire c ∈ before :=
  monitor_own_context_isolation cfg.skipRemoteCheck before post c o ho (jwks_model_satisfies_monitor cfg hd tr s _ h)

end model

/-! ## Part 2b — what the end of a call's context touches (one step, regenerated facts) -/

/-- The deadline of a call's context passes (`Act.expire c`): with the regenerated facts nothing but that call's own liveness changes — no
    download is ended, the cache, the in-flight request, every download and every other call are untouched, and the only observation is
    `expire c`. The download's context is a FACT regenerated from the source (`go r.updateKeys(context.WithoutCancel(ctx))` ⇒
    `spawnCtx = detached`); this statement is about `GenJwks.facts`, so another context expression changes or breaks it. -/
theorem jwks_expire_touches_only_its_call (cfg : JwksSet) (s s' : State) (c : Cid) (obs : List Obs)
    (hx : exec GenJwks.facts GenJwks.logic cfg s (.expire c) = some (s', obs)) :
    obs = [Obs.expire c] ∧ s'.fetches = s.fetches ∧ s'.nf = s.nf ∧ s'.cached = s.cached ∧ s'.inflight = s.inflight ∧ s'.crashed = s.crashed ∧
      (∀ c', c' ≠ c → s'.callers c' = s.callers c') ∧
      (s'.callers c).pc = (s.callers c).pc ∧ (s'.callers c).tok = (s.callers c).tok ∧ (s'.callers c).live = false := by
  simp only [facts_bridge, exec_expire_fixed, Option.ite_none_left_eq_some, Option.some.injEq, Prod.mk.injEq] at hx
  obtain ⟨_, rfl, rfl⟩ := hx
  refine ⟨rfl, rfl, rfl, rfl, rfl, rfl, ?_, by simp, by simp, by simp⟩
  intro c' hc
  simp [upd, hc]

/-- … and the same for an explicit `cancel()` of a call's context -/
theorem jwks_cancel_touches_only_its_call (cfg : JwksSet) (s s' : State) (c : Cid) (obs : List Obs)
    (hx : exec GenJwks.facts GenJwks.logic cfg s (.cancel c) = some (s', obs)) :
    obs = [Obs.cancel c] ∧ s'.fetches = s.fetches ∧ s'.nf = s.nf ∧ s'.cached = s.cached ∧ s'.inflight = s.inflight ∧ s'.crashed = s.crashed ∧
      (∀ c', c' ≠ c → s'.callers c' = s.callers c') ∧
      (s'.callers c).pc = (s.callers c).pc ∧ (s'.callers c).tok = (s.callers c).tok ∧ (s'.callers c).live = false := by
  simp only [facts_bridge, exec_cancel_fixed, Option.ite_none_left_eq_some, Option.some.injEq, Prod.mk.injEq] at hx
  obtain ⟨_, rfl, rfl⟩ := hx
  refine ⟨rfl, rfl, rfl, rfl, rfl, rfl, ?_, by simp, by simp, by simp⟩
  intro c' hc
  simp [upd, hc]

/-! ## Part 2c — non-vacuity and sensitivity: deadlines -/

/-- Call 0 carries a deadline and starts the download, call 1 joins it; the deadline of call 0 passes before the endpoint answers. -/
def traceDeadline : List Act :=
  [.rotate [{ jwk := wk1 }], .start 0 (wtok "k1" 2 1), .start 1 (wtok "k1" 2 2), .cacheRead 0, .cacheRead 1,
   .enter 0, .enter 1, .expire 0, .wake 0 true, .respond 0 (ansOk [{ jwk := wk1 }]), .upd 0, .wake 1 false]

/-- on the regenerated model the starter fails with its own context error and the joiner verifies -/
example : verdict GenJwks.facts traceDeadline = some (none, [(0, .ctxErr), (1, .payload 2)]) := by rw [facts_bridge]; decide +kernel

/-- the same schedule when the download is given the starter's deadline (cancellation detached, deadline kept — seeded C13-N): the
    starter's deadline ends the shared download and fails the joiner, and the monitor says so -/
def traceDeadline' : List Act :=
  [.rotate [{ jwk := wk1 }], .start 0 (wtok "k1" 2 1), .start 1 (wtok "k1" 2 2), .cacheRead 0, .cacheRead 1,
   .enter 0, .enter 1, .expire 0, .wake 0 true, .upd 0, .wake 1 false]
theorem jwks_deadline_isolation_needs_no_deadline :
    verdict { fixedFacts with spawnCtx := .deadlineOnly } traceDeadline' = some (some "cancel-isolation", [(0, .ctxErr), (1, .fetchErr .cancelled)]) := by decide +kernel

/-- with the caller's own context (`spawnCtx := .caller`) a deadline does the same as a cancellation -/
example : verdict { fixedFacts with spawnCtx := .caller } traceDeadline' = some (some "cancel-isolation", [(0, .ctxErr), (1, .fetchErr .cancelled)]) := by decide +kernel

/-- why cancellation tests do not notice a kept deadline: an explicit `cancel()` of the starter is still detached there -/
example : verdict { fixedFacts with spawnCtx := .deadlineOnly } traceA = some (none, [(0, .ctxErr), (1, .payload 2)]) := by decide +kernel

/-- a starter whose deadline has passed before it creates the download: with a kept deadline the download is dead on arrival -/
example : verdict { fixedFacts with spawnCtx := .deadlineOnly }
    [.rotate [{ jwk := wk1 }], .start 0 (wtok "k1" 2 1), .expire 0, .start 1 (wtok "k1" 2 2), .cacheRead 0, .cacheRead 1, .enter 0, .enter 1, .upd 0, .wake 1 false]
    = some (some "cancel-isolation", [(1, .fetchErr .cancelled)]) := by decide +kernel

/-- the monitor itself, on the observed run of the seeded change: the joiner's context is live, the download ended with the starter's deadline -/
example : C13.monitor false
    [.rotate [{ jwk := wk1 }], .start 0 (wtok "k1" 2 1), .start 1 (wtok "k1" 2 2), .ask 0, .fetchBegin 0 0, .ask 1, .expire 0, .fetchEnd 0 none,
     .finish 0 .ctxErr, .announce 0, .retire 0, .finish 1 (.fetchErr .cancelled)] = some "cancel-isolation" := by decide +kernel

/-- … and a call whose OWN deadline has passed may be answered with the context error (it is not live any more) -/
example : C13.monitor false
    [.rotate [{ jwk := wk1 }], .start 0 (wtok "k1" 2 1), .start 1 (wtok "k1" 2 2), .ask 0, .fetchBegin 0 0, .ask 1, .expire 1,
     .finish 1 .ctxErr, .fetchEnd 0 (some (ansOk [{ jwk := wk1 }])), .announce 0, .retire 0, .finish 0 (.payload 1)] = none := by decide +kernel

/-! ## Part 3 — non-vacuity: the window between a call's cache lookup and `keysFromRemote`'s critical section -/

/-- A rotation BETWEEN the answer of download 0 and its publication; call 1 (token signed with the rotated-in key `k2`) looks into the
    cache before the publication and enters `keysFromRemote` after it. -/
def traceOvertaken : List Act :=
  [.rotate [{ jwk := wk1 }], .start 0 (wtok "k9" 2 1), .cacheRead 0, .enter 0, .respond 0 (ansOk [{ jwk := wk1 }]),
   .rotate [{ jwk := wk1 }, { jwk := wk2 }], .start 1 (wtok "k2" 3 2), .cacheRead 1, .upd 0, .enter 1,
   .respond 1 (ansOk [{ jwk := wk1 }, { jwk := wk2 }]), .upd 1, .wake 1 false, .wake 0 false]

/-- the regenerated logic makes the overtaken call start a refresh of its own, and it verifies -/
example : verdict GenJwks.facts traceOvertaken = some (none, [(1, .payload 2), (0, .noKey)]) := by rw [facts_bridge]; decide +kernel

/-- what an observer sees up to the publication of download 0 in that schedule -/
def obsOvertakenPrefix : List Obs :=
  [.rotate [{ jwk := wk1 }], .start 0 (wtok "k9" 2 1), .point (.caller 0) "cache", .point (.caller 0) "lock",
   .ask 0, .fetchBegin 0 0, .point (.caller 0) "spawn", .point (.caller 0) "select",
   .fetchEnd 0 (some (ansOk [{ jwk := wk1 }])), .point (.updater 0) "fetched",
   .rotate [{ jwk := wk1 }, { jwk := wk2 }], .start 1 (wtok "k2" 3 2), .point (.caller 1) "cache", .point (.caller 1) "lock",
   .point (.updater 0) "ulocked", .announce 0, .retire 0]

/-- … and the clause is not vacuous: a key set that answers the overtaken call from the download that has just been published
    ("the cache was synced since my lookup": no refresh is triggered or joined) is flagged, although that download was still
    unannounced when the call STARTED — the linearisation point is `ask`, not `start`. -/
theorem jwks_refresh_needs_ask_linearisation :
    C13.monitor false (obsOvertakenPrefix ++ [.ask 1, .finish 1 .noKey]) = some "rejected-without-fresh-key-set" := by decide +kernel

/-- the same rejection is fine when the call had asked BEFORE the publication (it shared download 0: inherent in single flight) -/
example : C13.monitor false
    ([.rotate [{ jwk := wk1 }], .start 0 (wtok "k9" 2 1), .ask 0, .fetchBegin 0 0, .fetchEnd 0 (some (ansOk [{ jwk := wk1 }])),
      .rotate [{ jwk := wk1 }, { jwk := wk2 }], .start 1 (wtok "k2" 3 2), .ask 1, .announce 0, .retire 0, .finish 1 .noKey]) = none := by decide +kernel

end C13
