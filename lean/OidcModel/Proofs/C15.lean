/-
  C15 proofs over the REGENERATED token-exchange chain (Generated/TokenExchangeTE.lean, namespace GenTE):
  getTokenIDAndClaims, GetTokenIDAndSubjectFromToken (incl. the role dispatch to the optional verifier storage),
  CreateTokenExchangeRequest, ValidateTokenExchangeRequest, needsRefreshToken, createTokens, CreateTokenExchangeResponse, and
  `CreateAccessToken` / `CreateJWT` / `CreateIDToken` on exchange requests.  Libraries and the storage enter as function fields of
  `TEProvider` / `TEStore`; every theorem quantifies over all of them (any decrypt result, any verifier answers, any storage policy).
  Opaque tokens are followed from mint to resolution under `SealContract`, single and along chains of exchanges.
  Monitor and vocabulary: Spec/C15.lean.
-/
import OidcModel.Spec.C15
import OidcModel.Generated.TokenExchangeTE
import OidcModel.Proofs.C05
import OidcModel.Proofs.C15Parse
import OidcModel.GoTac
namespace C15
open Go Gen Hand

/-! ## the regenerated getters of `*tokenExchangeRequest` (Generated/TEGetters.lean): one characterisation each, by `rfl` - a getter
    that answers from another field breaks HERE, and every theorem below sees the request only through these lemmas -/
theorem getRequestedTokenType_eq (r : TEReq) : r.GetRequestedTokenType = r.requestedTokenType := rfl
theorem getScopes_eq (r : TEReq) : r.GetScopes = r.scopes := rfl
theorem getSubject_eq (r : TEReq) : r.GetSubject = r.subject := rfl
theorem getAudience_eq (r : TEReq) : r.GetAudience = r.audience := rfl
theorem getAuthTime_eq (r : TEReq) : r.GetAuthTime = r.authTime := rfl
theorem getClientID_eq (r : TEReq) : r.GetClientID = r.clientID := rfl
theorem getAMR_eq (r : TEReq) : r.GetAMR = [] := rfl
theorem getExchangeSubject_eq (r : TEReq) : r.GetExchangeSubject = r.exchangeSubject := rfl
theorem getExchangeActor_eq (r : TEReq) : r.GetExchangeActor = r.exchangeActor := rfl
theorem anyGetRequestedTokenType_eq (a : TEAnyReq) : a.GetRequestedTokenType = a.req.requestedTokenType := rfl
theorem anyGetScopes_eq (a : TEAnyReq) : a.GetScopes = a.req.scopes := rfl
theorem anyGetSubject_eq (a : TEAnyReq) : a.GetSubject = a.req.subject := rfl
theorem anyGetAudience_eq (a : TEAnyReq) : a.GetAudience = a.req.audience := rfl
theorem anyGetAuthTime_eq (a : TEAnyReq) : a.GetAuthTime = a.req.authTime := rfl
theorem anyGetClientID_eq (a : TEAnyReq) : a.GetClientID = a.req.clientID := rfl
theorem anyGetAMR_eq (a : TEAnyReq) : a.GetAMR = [] := rfl

/-- the regenerated `oidc.TokenType.IsSupported` over the regenerated table `AllTokenTypes`: the supported types are EXACTLY the
    monitor's four -/
theorem isSupported_iff (now : Int) (t : String) : GenTE.IsSupported now t = true ↔ t ∈ supported := by
  have htab : Gen.allTokenTypes = supported := by decide +kernel
  unfold GenTE.IsSupported
  simp [Go.contains, htab]

theorem isSupported_false_iff (now : Int) (t : String) : GenTE.IsSupported now t = false ↔ t ∉ supported := by
  rw [← isSupported_iff now t]; cases GenTE.IsSupported now t <;> simp

/-- the provider's OWN resolution of a presented token of the declared type: (id-or-token, subject, claims) -/
def ownResolution (p : TEProvider) (tok typ : String) : Option (String × String × TEClaims) :=
  if typ = Const.AccessTokenType then
    match p.Crypto.Decrypt tok with
    | .ok plain =>
      -- the payload IS `id:subject` with a colon in neither part (`TE.parsePair_some_iff`, Proofs/C15Parse.lean) - or the token is refused
      match TE.parsePair plain with
      | some (i, s) => some (i, s, [])
      | none => none
    | .error _ =>
      match p.AccessTokenVerifier.verify tok with
      | .ok c => some (c.JWTID, c.Subject, if c.set then c.Claims else [])
      | .error _ => none
  else if typ = Const.RefreshTokenType then
    match p.Storage.TokenRequestByRefreshToken tok with
    | .ok r => some (tok, r.subject, [])
    | .error _ => none
  else if typ = Const.IDTokenType then
    match p.IDTokenHintVerifier.verify tok with
    | .ok (.valid c) => some (tok, c.Subject, c.Claims)      -- an expired hint is NOT a live ID token
    | _ => none
  else none

def rolePolicy (s : TEStore) (isActor : Bool) : String → String → Go.R (String × String × TEClaims) :=
  if isActor then s.VerifyExchangeActorToken else s.VerifyExchangeSubjectToken

def resolve (p : TEProvider) (tok typ : String) (isActor : Bool) : String × String × TEClaims × Bool :=
  match ownResolution p tok typ with
  | some (i, s, c) => (i, s, c, true)
  | none =>
    if p.Storage.is_TokenExchangeTokensVerifierStorage then
      match rolePolicy p.Storage isActor tok typ with
      | .ok (i, s, c) => (i, s, c, true)
      | .error _ => ("", "", [], false)
    else ("", "", [], false)

/-- hand-readable specification of `getTokenIDAndClaims`: an opaque token (the provider's `Decrypt` succeeds) is `id:subject` with a colon
    in neither part or it is refused - NO fall-back to the JWT verifier; anything else is a JWT access token the provider's verifier accepts -/
def ownAccess (p : TEProvider) (tok : String) : String × String × TEATClaims × Bool :=
  match p.Crypto.Decrypt tok with
  | .ok plain =>
    match TE.parsePair plain with
    | some (i, s) => (i, s, {}, true)
    | none => ("", "", {}, false)
  | .error _ =>
    match p.AccessTokenVerifier.verify tok with
    | .ok c => (c.JWTID, c.Subject, c, true)
    | .error _ => ("", "", {}, false)

theorem pair_cases (L : List String) : (∃ a b, L = [a, b]) ∨ (L.length ≠ 2 ∧ ∀ a b, L ≠ [a, b]) := by
  match L with
  | [a, b] => exact .inl ⟨a, b, rfl⟩
  | [] => exact .inr ⟨by simp, by simp⟩
  | [_] => exact .inr ⟨by simp, by simp⟩
  | _ :: _ :: _ :: _ => exact .inr ⟨by simp, by simp⟩

/-- the regenerated `getTokenIDAndClaims` IS `ownAccess`. A parser that cuts at the last (or the first) colon, or that accepts more
    than two pieces, leaves an unprovable goal here. -/
theorem getTokenIDAndClaims_eq (now : Int) (p : TEProvider) (tok : String) :
    GenTE.getTokenIDAndClaims now p tok = ownAccess p tok := by
  unfold GenTE.getTokenIDAndClaims ownAccess Hand.teVerifyAccessToken TE.parsePair
  simp only [Go.nil, HasNil.nilv]
  rcases p.Crypto.Decrypt tok with e | plain
  · go_leaf
  · rcases pair_cases (TE.split plain ":") with ⟨a, b, h⟩ | ⟨h1, h2⟩ <;> go_leaf [Go.len, HasLen.len, Go.index]

theorem tokenTypes_distinct :
    Const.AccessTokenType ≠ Const.RefreshTokenType ∧ Const.AccessTokenType ≠ Const.IDTokenType ∧
    Const.RefreshTokenType ≠ Const.IDTokenType := by decide +kernel

theorem ownResolution_access (p : TEProvider) (tok : String) :
    ownResolution p tok Const.AccessTokenType =
      match ownAccess p tok with
      | (i, s, c, true) => some (i, s, if c.set then c.Claims else [])
      | (_, _, _, false) => none := by
  unfold ownResolution ownAccess
  rw [if_pos rfl]
  cases p.Crypto.Decrypt tok with
  | ok plain => simp only []; rcases TE.parsePair plain with _ | ⟨i, s⟩ <;> rfl
  | error e => simp only []; cases p.AccessTokenVerifier.verify tok <;> rfl

/-- the regenerated `GetTokenIDAndSubjectFromToken` (with `getTokenIDAndClaims`) IS `resolve`. The script does not depend on the
    shape of the Go text (order of the switch cases, early returns, …): per declared type it fixes the answer of that type's oracle,
    and `go_leaf` splits whatever `if` / `match` structure is left (the hand-over to the verifier storage, which the regenerated
    term repeats after every case). -/
theorem c15_resolution_spec (now : Int) (p : TEProvider) (tok typ : String) (isActor : Bool) :
    GenTE.GetTokenIDAndSubjectFromToken now p tok typ isActor = resolve p tok typ isActor := by
  obtain ⟨d1, d2, d3⟩ := tokenTypes_distinct
  unfold GenTE.GetTokenIDAndSubjectFromToken resolve rolePolicy
  simp only [getTokenIDAndClaims_eq, Go.nil, HasNil.nilv, Go.notNil, Nilable.isNil, beq_iff_eq]
  by_cases h1 : typ = Const.AccessTokenType
  · subst h1
    simp only [if_true, ownResolution_access]
    rcases ownAccess p tok with ⟨i, s, c, ok⟩
    cases ok <;> simp only [Bool.not_false, Bool.not_true, Bool.not_not, Bool.false_eq_true, if_true, if_false] <;> go_leaf
  unfold ownResolution
  by_cases h2 : typ = Const.RefreshTokenType
  · subst h2
    simp only [d1.symm, if_true, if_false, TERefreshReq.GetSubject]
    cases p.Storage.TokenRequestByRefreshToken tok <;>
      simp only [Bool.not_false, Bool.not_true, Bool.false_eq_true, if_true, if_false] <;> go_leaf
  by_cases h3 : typ = Const.IDTokenType
  · subst h3
    simp only [d2.symm, d3.symm, if_true, if_false, Hand.teVerifyIDTokenHint, TEHint.strict]
    rcases p.IDTokenHintVerifier.verify tok with e | (c | c) <;>
      simp only [Bool.not_false, Bool.not_true, Bool.false_eq_true, if_true, if_false] <;> go_leaf
  · simp only [h1, h2, h3, if_false, Bool.not_false, if_true]
    go_leaf

/-- ROLE DISPATCH: a subject token is only ever resolved through the provider's own resolution or the storage's SUBJECT
    policy - replacing the actor policy by anything at all changes nothing - and an actor token only through the ACTOR policy;
    for all providers, storages, oracle answers, tokens and declared types -/
theorem c15_role_dispatch (now : Int) (p : TEProvider) (tok typ : String) (f : String → String → Go.R (String × String × TEClaims)) :
    GenTE.GetTokenIDAndSubjectFromToken now { p with Storage := { p.Storage with VerifyExchangeActorToken := f } } tok typ false
      = GenTE.GetTokenIDAndSubjectFromToken now p tok typ false ∧
    GenTE.GetTokenIDAndSubjectFromToken now { p with Storage := { p.Storage with VerifyExchangeSubjectToken := f } } tok typ true
      = GenTE.GetTokenIDAndSubjectFromToken now p tok typ true := by
  simp only [c15_resolution_spec]
  constructor <;> rfl

/-- a token accepted in a role was resolved by the provider itself or accepted by THAT role's policy, with exactly the
    identity that policy returned -/
theorem c15_accepted_by_role_policy {now : Int} {p : TEProvider} {tok typ : String} {isActor : Bool} {i s : String} {c : TEClaims}
    (h : GenTE.GetTokenIDAndSubjectFromToken now p tok typ isActor = (i, s, c, true)) :
    ownResolution p tok typ = some (i, s, c) ∨
    (ownResolution p tok typ = none ∧ p.Storage.is_TokenExchangeTokensVerifierStorage = true ∧
      (if isActor then p.Storage.VerifyExchangeActorToken else p.Storage.VerifyExchangeSubjectToken) tok typ = .ok (i, s, c)) := by
  rw [c15_resolution_spec] at h
  unfold resolve rolePolicy at h
  split at h
  · rename_i ho
    cases h
    exact .inl ho
  · rename_i ho
    split at h
    · rename_i hv
      split at h
      · rename_i heq
        cases h
        exact .inr ⟨ho, hv, heq⟩
      · cases h
    · cases h

/-- the request the storage policy is asked about: the identities resolved FOR EACH ROLE, the requesting client, and the
    request's own scopes, audience, resources and requested type -/
def builtReq (now : Int) (rq : TEIn) (c : OPClient) (sid ssub : String) (scl : TEClaims) (aid asub : String) (acl : TEClaims) : TEReq :=
  { exchangeSubjectTokenIDOrToken := sid, exchangeSubjectTokenType := rq.SubjectTokenType, exchangeSubject := ssub, exchangeSubjectTokenClaims := scl,
    exchangeActorTokenIDOrToken := aid, exchangeActorTokenType := rq.ActorTokenType, exchangeActor := asub, exchangeActorTokenClaims := acl,
    subject := ssub, resource := rq.Resource, audience := rq.Audience, scopes := rq.Scopes, requestedTokenType := rq.RequestedTokenType,
    clientID := c.id, authTime := now }

/-- hand-readable specification of `CreateTokenExchangeRequest` -/
def createRequestSpec (now : Int) (rq : TEIn) (c : OPClient) (p : TEProvider) : Go.R TEReq :=
  if p.Storage.is_TokenExchangeStorage = false then .error (Hand.unimplementedGrantError Const.GrantTypeTokenExchange) else
  match resolve p rq.SubjectToken rq.SubjectTokenType false with
  | (_, _, _, false) => .error "ErrInvalidRequest"
  | (sid, ssub, scl, true) =>
    match (if rq.ActorToken = "" then ("", "", [], true) else resolve p rq.ActorToken rq.ActorTokenType true) with
    | (_, _, _, false) => .error "ErrInvalidRequest"
    | (aid, asub, acl, true) =>
      match p.Storage.ValidateTokenExchangeRequest (builtReq now rq c sid ssub scl aid asub acl) with
      | .error e => .error e
      | .ok r1 => p.Storage.CreateTokenExchangeRequest r1

theorem createTokenExchangeRequest_eq (now : Int) (rq : TEIn) (c : OPClient) (p : TEProvider) :
    GenTE.CreateTokenExchangeRequest now rq c p = createRequestSpec now rq c p := by
  unfold GenTE.CreateTokenExchangeRequest createRequestSpec builtReq
  simp only [c15_resolution_spec, Go.nil, HasNil.nilv, OPClient.GetID, bne_iff_ne, ne_eq, Bool.not_eq_true']
  cases p.Storage.is_TokenExchangeStorage
  · rfl
  simp only [Bool.true_eq_false, if_false]
  rcases resolve p rq.SubjectToken rq.SubjectTokenType false with ⟨sid, ssub, scl, ok⟩
  cases ok
  · rfl
  simp only [Bool.true_eq_false, if_false]
  by_cases ha : rq.ActorToken = ""
  · simp only [ha, not_true, if_true, if_false]; go_leaf
  simp only [ha, not_false_eq_true, if_true, if_false]
  rcases resolve p rq.ActorToken rq.ActorTokenType true with ⟨aid, asub, acl, ok⟩
  cases ok
  · rfl
  simp only [Bool.true_eq_false, if_false]; go_leaf

/-- what `CreateTokenExchangeRequest` establishes: exchange storage present, subject token resolved in the subject role, actor
    token (iff given) resolved in the actor role, the storage policy consulted with exactly `builtReq` and its verdict and
    rewriting propagated -/
theorem c15_create_request_sound {now : Int} {rq : TEIn} {c : OPClient} {p : TEProvider} {r : TEReq}
    (h : GenTE.CreateTokenExchangeRequest now rq c p = .ok r) :
    p.Storage.is_TokenExchangeStorage = true ∧
    ∃ sid ssub scl aid asub acl r1,
      resolve p rq.SubjectToken rq.SubjectTokenType false = (sid, ssub, scl, true) ∧
      (if rq.ActorToken = "" then (aid, asub, acl) = ("", "", [])
       else resolve p rq.ActorToken rq.ActorTokenType true = (aid, asub, acl, true)) ∧
      p.Storage.ValidateTokenExchangeRequest (builtReq now rq c sid ssub scl aid asub acl) = .ok r1 ∧
      p.Storage.CreateTokenExchangeRequest r1 = .ok r := by
  rw [createTokenExchangeRequest_eq] at h
  unfold createRequestSpec at h
  split at h; · cases h
  rename_i hte
  split at h; · cases h
  rename_i sid ssub scl hs
  split at h; · cases h
  rename_i aid asub acl ha
  split at h; · cases h
  rename_i r1 hv
  refine ⟨by simpa using hte, sid, ssub, scl, aid, asub, acl, r1, hs, ?_, hv, h⟩
  by_cases hat : rq.ActorToken = ""
  · simp only [hat, if_true, Prod.mk.injEq] at ha ⊢
    exact ⟨ha.1.symm, ha.2.1.symm, ha.2.2.1.symm⟩
  · simp only [hat, if_false] at ha ⊢
    exact ha

/-- the parameter checks both routers make (each has its own copy, in its own order; every one fails with `invalid_request`) -/
def paramsOK (rq : TEIn) : Prop :=
  rq.SubjectToken ≠ "" ∧ rq.SubjectTokenType ≠ "" ∧ rq.SubjectTokenType ∈ supported ∧
  (rq.RequestedTokenType = "" ∨ rq.RequestedTokenType ∈ supported) ∧ (rq.ActorTokenType = "" ∨ rq.ActorTokenType ∈ supported) ∧
  (rq.ActorToken = "" ∨ rq.ActorTokenType ≠ "")
instance (rq : TEIn) : Decidable (paramsOK rq) := by unfold paramsOK; infer_instance

theorem paramsOK_actor {rq : TEIn} (hp : paramsOK rq) : rq.ActorToken = "" ∨ rq.ActorTokenType ∈ supported := by
  rcases hp.2.2.2.2.2 with h | h
  · exact .inl h
  · rcases hp.2.2.2.2.1 with h' | h'
    · exact absurd h' h
    · exact .inr h'

theorem not_paramsOK_iff (rq : TEIn) : ¬ paramsOK rq ↔
    rq.SubjectToken = "" ∨ rq.SubjectTokenType = "" ∨ rq.SubjectTokenType ∉ supported ∨
    (rq.RequestedTokenType ≠ "" ∧ rq.RequestedTokenType ∉ supported) ∨
    (rq.ActorTokenType ≠ "" ∧ rq.ActorTokenType ∉ supported) ∨ (rq.ActorToken ≠ "" ∧ rq.ActorTokenType = "") := by
  simp only [paramsOK, Classical.not_and_iff_not_or_not, not_or, Classical.not_not, ne_eq]

/-- hand-readable specification of the Provider router's `ValidateTokenExchangeRequest`: nothing happens without the two required
    parameters, nor with an `actor_token` whose `actor_token_type` is missing (RFC 8693 2.1); then the client is authenticated and
    must be registered for the grant; then the remaining parameter checks; then `CreateTokenExchangeRequest` -/
def validateSpec (now : Int) (rq : TEIn) (id sec : String) (p : TEProvider) : Go.R (TEReq × OPClient) :=
  if rq.SubjectToken = "" ∨ rq.SubjectTokenType = "" ∨ (rq.ActorToken ≠ "" ∧ rq.ActorTokenType = "") then .error "ErrInvalidRequest"
  else match Hand.teAuthorizeClient now id sec p with
    | .error e => .error e
    | .ok c =>
      if ValidateGrantType now c Const.GrantTypeTokenExchange = false then .error "ErrUnauthorizedClient"
      else if ¬ paramsOK rq then .error "ErrInvalidRequest"
      else match GenTE.CreateTokenExchangeRequest now rq c p with
        | .error e => .error e
        | .ok r => .ok (r, c)

theorem validateTokenExchangeRequest_eq (now : Int) (rq : TEIn) (id sec : String) (p : TEProvider) :
    GenTE.ValidateTokenExchangeRequest now rq id sec p = validateSpec now rq id sec p := by
  unfold GenTE.ValidateTokenExchangeRequest validateSpec
  simp only [beq_iff_eq, bne_iff_ne, Bool.and_eq_true, Bool.not_eq_true', isSupported_false_iff]
  -- stage by stage along the specification; a guard that fires collapses the chain whatever its position (`ite_self`)
  by_cases h0 : rq.SubjectToken = "" ∨ rq.SubjectTokenType = "" ∨ (rq.ActorToken ≠ "" ∧ rq.ActorTokenType = "")
  · rw [if_pos h0]
    rcases h0 with h | h | h <;> simp only [if_pos h, ite_self]
  rw [if_neg h0]
  simp only [not_or] at h0
  obtain ⟨a1, a2, a3⟩ := h0
  simp only [a1, a2, a3, if_false]
  cases Hand.teAuthorizeClient now id sec p with
  | error e => rfl
  | ok c =>
    simp only []
    by_cases hg : ValidateGrantType now c Const.GrantTypeTokenExchange = false
    · simp only [hg, if_true]
    simp only [hg]
    by_cases hp : paramsOK rq
    · have hn := mt (not_paramsOK_iff rq).2 (not_not_intro hp)
      simp only [not_or] at hn
      obtain ⟨_, _, n3, n4, n5, _⟩ := hn
      simp only [hp, n3, n4, n5, not_true, if_false]
      go_leaf
    · simp only [hp, not_false_eq_true, if_true]
      rcases (not_paramsOK_iff rq).1 hp with h | h | h | h | h | h
      · exact absurd h a1
      · exact absurd h a2
      · simp only [if_pos h, ite_self]
      · simp only [if_pos h, ite_self]
      · simp only [if_pos h, ite_self]
      · exact absurd h a3

/-- the token endpoint (Provider router) lets a token exchange through only for a secret-authenticated client registered for
    the grant, with supported declared types, and then only as `c15_create_request_sound` says.
    PARTIAL with exactly one exclusion (finding F-C15b, witness below): for the declared type id_token "the provider's own
    resolution" is `VerifyIDTokenHint`, and that verifier also accepts the provider's own JWT ACCESS tokens - so "resolved as an
    id_token" does not establish "is an ID token" (nor, therefore, that a revoked access token is refused). For the declared types
    access_token / refresh_token / jwt and for third-party tokens the statement is the full one.
    An actor token without a declared type is refused by the framework itself (`c15_actor_without_type_refused`). -/
theorem c15_validate_sound_partial {now : Int} {rq : TEIn} {id sec : String} {p : TEProvider} {r : TEReq} {c : OPClient}
    (h : GenTE.ValidateTokenExchangeRequest now rq id sec p = .ok (r, c)) :
    p.base.store.AuthorizeClientIDSecret id sec = .ok () ∧ p.base.store.GetClientByClientID id = .ok c ∧
    Const.GrantTypeTokenExchange ∈ c.grants ∧
    rq.SubjectToken ≠ "" ∧ rq.SubjectTokenType ∈ supported ∧ (rq.ActorToken = "" ∨ rq.ActorTokenType ∈ supported) ∧
    (rq.ActorTokenType = "" ∨ rq.ActorTokenType ∈ supported) ∧
    (rq.RequestedTokenType = "" ∨ rq.RequestedTokenType ∈ supported) ∧
    GenTE.CreateTokenExchangeRequest now rq c p = .ok r := by
  rw [validateTokenExchangeRequest_eq] at h
  unfold validateSpec Hand.teAuthorizeClient at h
  split at h; · cases h
  split at h; · cases h
  rename_i c' hc
  split at h; · cases h
  rename_i h3
  split at h; · cases h
  rename_i hp
  split at h; · cases h
  rename_i r' hr
  cases h
  obtain ⟨a1, a2⟩ := C05.authorizeTokenExchangeClient_ok hc
  have hp := Classical.not_not.1 hp
  exact ⟨a1, a2, C04.validateGrantType_iff.1 (by simpa using h3), hp.1, hp.2.2.1, paramsOK_actor hp, hp.2.2.2.2.1, hp.2.2.2.1, hr⟩

/-- which of the interfaces the token code asserts a `*tokenExchangeRequest` satisfies (regenerated method-set facts): it is a
    `TokenExchangeRequest`, neither an `AuthRequest` nor a `TokenActorRequest` -/
theorem asTokenRequest_flags (r : TEReq) :
    r.asTokenRequest.is_TokenExchangeRequest = true ∧ r.asTokenRequest.is_TokenActorRequest = false ∧
    r.asTokenRequest.is_AuthRequest = false ∧ r.asTokenRequest.req = r :=
  have h : GenTE.tokenExchangeRequest_satisfies.contains "TokenExchangeRequest" = true ∧
      GenTE.tokenExchangeRequest_satisfies.contains "TokenActorRequest" = false ∧
      GenTE.tokenExchangeRequest_satisfies.contains "AuthRequest" = false := by decide +kernel
  ⟨h.1, h.2.1, h.2.2, rfl⟩

/-- REFRESH DECISION: for a token-exchange request a refresh token is created iff the requested type is the refresh type -
    whatever the client's registration (grants, auth method, …) -/
theorem c15_refresh_decision (now : Int) (r : TEReq) (c : OPClient) :
    GenTE.needsRefreshToken now r.asTokenRequest c = (r.requestedTokenType == Const.RefreshTokenType) := by
  obtain ⟨f1, _, f3, f4⟩ := asTokenRequest_flags r
  unfold GenTE.needsRefreshToken
  simp only [f1, f3, f4, anyGetRequestedTokenType_eq]
  go_leaf

/-- the documented contract of `Storage.CreateAccessAndRefreshTokens`: on success it hands out a refresh token -/
def StorageContract (s : TEStore) : Prop :=
  ∀ r cur id rt exp, s.CreateAccessAndRefreshTokens r cur = .ok (id, rt, exp) → rt ≠ ""

/-- what AES sealing (`Crypto.Encrypt`) and go-jose signing are assumed to do: a successful call never yields the empty string -/
def MintContract (p : TEProvider) : Prop :=
  (∀ s t, p.Crypto.Encrypt s = .ok t → t ≠ "") ∧ (∀ k c t, p.Storage.SigningKey = .ok k → k.signAT c = .ok t → t ≠ "") ∧
  (∀ k c t, p.Storage.SigningKey = .ok k → k.signID c = .ok t → t ≠ "")

/-- the claims `CreateJWT` signs for a token-exchange request `r` (the request AFTER the storage policy's rewriting): the registered
    claims of the regenerated `oidc.NewAccessTokenClaims` for the request's subject and audience, and the private claims `pc` -/
def exchangeJWTClaims (now : Int) (iss : String) (r : TEReq) (exp : Int) (id : String) (c : OPClient) (st : TEStore) (pc : TEClaims) : TEJWTClaims :=
  { Hand.teNewAccessTokenClaims now iss r.subject r.audience exp id c.id (st.ClientClockSkew c) with Claims := pc }

/-- hand-readable specification of `CreateJWT` for a token-exchange request against an exchange storage -/
def exchangeJWTSpec (now : Int) (iss : String) (r : TEReq) (exp : Int) (id : String) (c : OPClient) (st : TEStore) : Go.R String :=
  match st.GetPrivateClaimsFromTokenExchangeRequest r.asTokenRequest with
  | .error e => .error e
  | .ok pc =>
    match st.SigningKey with
    | .error e => .error e
    | .ok key => if key.signerOK then key.signAT (exchangeJWTClaims now iss r exp id c st pc) else .error "ErrSignerCreationFailed"

theorem createJWT_exchange_eq (now : Int) (iss : String) (r : TEReq) (exp : Int) (id : String) (c : OPClient) (st : TEStore)
    (hte : st.is_TokenExchangeStorage = true) :
    GenTE.CreateJWT now iss r.asTokenRequest exp id c st = exchangeJWTSpec now iss r exp id c st := by
  obtain ⟨f1, f2, _, f3⟩ := asTokenRequest_flags r
  unfold GenTE.CreateJWT exchangeJWTSpec exchangeJWTClaims Hand.teSignerFromKey Hand.teSignAT
  simp only [Go.notNil, Nilable.isNil, f1, f2, f3, hte, anyGetSubject_eq, anyGetAudience_eq, OPClient.GetID,
    Bool.and_self, Bool.false_eq_true, if_true, if_false]
  cases st.GetPrivateClaimsFromTokenExchangeRequest r.asTokenRequest with
  | error e => rfl
  | ok pc =>
    simp only []
    cases st.SigningKey with
    | error e => rfl
    | ok key => simp only []; go_leaf

/-- PRIVATE-CLAIMS SOURCE of a JWT access token issued by a token exchange: whenever the storage implements `TokenExchangeStorage`
    (which `CreateTokenExchangeRequest` has established, `c15_create_request_sound`), the claims are EXACTLY what
    `GetPrivateClaimsFromTokenExchangeRequest` decided for this request - for every storage, whatever other optional capabilities
    (`CanGetPrivateClaimsFromRequest`) it has, every client, every restriction function, every signing key -/
theorem c15_exchange_jwt_claims_source {now : Int} {iss : String} {r : TEReq} {exp : Int} {id : String} {c : OPClient} {st : TEStore} {tok : String}
    (hte : st.is_TokenExchangeStorage = true) (h : GenTE.CreateJWT now iss r.asTokenRequest exp id c st = .ok tok) :
    ∃ pc key, st.GetPrivateClaimsFromTokenExchangeRequest r.asTokenRequest = .ok pc ∧ st.SigningKey = .ok key ∧ key.signerOK = true ∧
      key.signAT (exchangeJWTClaims now iss r exp id c st pc) = .ok tok := by
  rw [createJWT_exchange_eq _ _ _ _ _ _ _ hte] at h
  unfold exchangeJWTSpec at h
  split at h; · cases h
  rename_i pc hp
  split at h; · cases h
  rename_i key hk
  split at h
  · exact ⟨pc, key, hp, hk, ‹_›, h⟩
  · cases h

/-- ... and nothing else: switching the optional `CanGetPrivateClaimsFromRequest` capability on or off, or replacing it and the base
    hook `GetPrivateClaimsFromScopes` by anything at all, does not change the token issued for an exchange request -/
theorem c15_exchange_jwt_ignores_other_hooks (now : Int) (iss : String) (r : TEReq) (exp : Int) (id : String) (c : OPClient) (st : TEStore)
    (hte : st.is_TokenExchangeStorage = true) (b : Bool) (f : TEAnyReq → List String → Go.R TEClaims) (g : String → String → List String → Go.R TEClaims) :
    GenTE.CreateJWT now iss r.asTokenRequest exp id c { st with is_CanGetPrivateClaimsFromRequest := b, GetPrivateClaimsFromRequest := f, GetPrivateClaimsFromScopes := g }
      = GenTE.CreateJWT now iss r.asTokenRequest exp id c st := by
  rw [createJWT_exchange_eq _ _ _ _ _ _ _ hte, createJWT_exchange_eq _ _ _ _ _ _ _ (by exact hte)]
  rfl

/-- hand-readable specification of `createTokens` for an exchange request -/
def createTokensSpec (r : TEReq) (st : TEStore) (cur : String) : Go.R (String × String × Int) :=
  if r.requestedTokenType = Const.RefreshTokenType then st.CreateAccessAndRefreshTokens r.asTokenRequest cur
  else match st.CreateAccessToken r.asTokenRequest with
    | .error e => .error e
    | .ok (id, exp) => .ok (id, "", exp)

theorem createTokens_exchange_eq (now : Int) (r : TEReq) (st : TEStore) (cur : String) (c : OPClient) :
    GenTE.createTokens now r.asTokenRequest st cur c = createTokensSpec r st cur := by
  unfold GenTE.createTokens createTokensSpec
  simp only [c15_refresh_decision, beq_iff_eq]
  go_leaf

open TEScoped in
theorem te_hadd (a b : String) : (a + b : String) = a ++ b := rfl

/-- hand-readable specification of `CreateAccessToken` for an exchange request: the storage creates the token(s), the validity is
    counted from the expiry the storage named plus the client's clock skew, and the token string is the signed JWT claims
    (`CreateJWT`) for a client with JWT access tokens, the sealed `id:subject` (`CreateBearerToken`) for every other client -/
def createAccessTokenSpec (now : Int) (r : TEReq) (tt : Nat) (p : TEProvider) (c : OPClient) (cur : String) : Go.R (String × String × Int) :=
  match createTokensSpec r p.Storage cur with
  | .error e => .error e
  | .ok (id, rt, exp) =>
    if tt = TEConst.AccessTokenTypeJWT then
      match GenTE.CreateJWT now (IssuerFromContext now) r.asTokenRequest exp id c p.Storage with
      | .error e => .error e
      | .ok t => .ok (t, rt, Go.tSub (Go.tAdd exp (p.Storage.ClientClockSkew c)) now)
    else
      match p.Crypto.Encrypt (id ++ ":" ++ r.subject) with
      | .error e => .error e
      | .ok t => .ok (t, rt, Go.tSub (Go.tAdd exp (p.Storage.ClientClockSkew c)) now)

theorem createAccessToken_exchange_eq (now : Int) (r : TEReq) (tt : Nat) (p : TEProvider) (c : OPClient) (cur : String) :
    GenTE.CreateAccessToken now r.asTokenRequest tt p c cur = createAccessTokenSpec now r tt p c cur := by
  unfold GenTE.CreateAccessToken createAccessTokenSpec GenTE.CreateBearerToken
  simp only [createTokens_exchange_eq, Go.notNil, Nilable.isNil, anyGetSubject_eq, (asTokenRequest_flags r).2.2.2, te_hadd, beq_iff_eq]
  go_leaf

/-- what `CreateAccessToken` hands out for an exchange request: the storage created the token(s) through the regenerated
    `createTokens`; a JWT client gets the signed `exchangeJWTClaims` with the exchange hook's private claims, any other client the
    sealed `id:subject` -/
theorem c15_access_token_of_exchange {now : Int} {r : TEReq} {c : OPClient} {p : TEProvider} {tt : Nat} {tok rt : String} {v : Int}
    (hte : p.Storage.is_TokenExchangeStorage = true)
    (h : GenTE.CreateAccessToken now r.asTokenRequest tt p c "" = .ok (tok, rt, v)) :
    ∃ id exp, GenTE.createTokens now r.asTokenRequest p.Storage "" c = .ok (id, rt, exp) ∧
      (if tt = TEConst.AccessTokenTypeJWT then
        ∃ pc key, p.Storage.GetPrivateClaimsFromTokenExchangeRequest r.asTokenRequest = .ok pc ∧ p.Storage.SigningKey = .ok key ∧
          key.signAT (exchangeJWTClaims now (IssuerFromContext now) r exp id c p.Storage pc) = .ok tok
       else p.Crypto.Encrypt (id ++ ":" ++ r.subject) = .ok tok) := by
  rw [createAccessToken_exchange_eq] at h
  unfold createAccessTokenSpec at h
  simp only [createTokens_exchange_eq]
  split at h; · cases h
  rename_i id rt' exp hc
  split at h
  · rename_i hj
    split at h; · cases h
    rename_i a hw
    cases h
    obtain ⟨pc, key, h1, h2, _, h4⟩ := c15_exchange_jwt_claims_source hte hw
    exact ⟨id, exp, hc, by rw [if_pos hj]; exact ⟨pc, key, h1, h2, h4⟩⟩
  · rename_i hj
    split at h; · cases h
    rename_i a he
    cases h
    exact ⟨id, exp, hc, by rw [if_neg hj]; exact he⟩

/-- the claims `CreateIDToken` signs for a token-exchange request `r` (no access token and no code are hashed): the regenerated
    `oidc.NewIDTokenClaims` for the request, the userinfo `ui` a storage hook filled (`SetUserInfo` takes the subject from it; an
    empty one falls back to the request's) -/
def exchangeIDClaims (now : Int) (iss : String) (r : TEReq) (lifetime : Int) (c : OPClient) (st : TEStore) (ui : TEUserInfo) : TEIDTokenClaims :=
  let cl := (Hand.teNewIDTokenClaims now iss r.subject r.audience (Go.tAdd (Go.tAdd now (st.ClientClockSkew c)) lifetime) r.authTime "" "" []
    r.clientID (st.ClientClockSkew c)).SetUserInfo ui
  if cl.Subject == "" then { cl with Subject := r.subject } else cl

/-- hand-readable specification of `CreateIDToken` for a token-exchange request (nothing to hash) against an exchange storage -/
def exchangeIDSpec (now : Int) (iss : String) (r : TEReq) (lifetime : Int) (c : OPClient) (st : TEStore) : Go.R String :=
  match st.SigningKey with
  | .error e => .error e
  | .ok key =>
    match st.SetUserinfoFromTokenExchangeRequest {} r.asTokenRequest with
    | .error e => .error e
    | .ok ui => if key.signerOK then key.signID (exchangeIDClaims now iss r lifetime c st ui) else .error "ErrSignerCreationFailed"

theorem createIDToken_exchange_eq (now : Int) (iss : String) (r : TEReq) (lifetime : Int) (c : OPClient) (st : TEStore)
    (hte : st.is_TokenExchangeStorage = true) :
    GenTE.CreateIDToken now iss r.asTokenRequest lifetime "" "" st c = exchangeIDSpec now iss r lifetime c st := by
  obtain ⟨f1, f2, fA, f3⟩ := asTokenRequest_flags r
  unfold GenTE.CreateIDToken exchangeIDSpec exchangeIDClaims Hand.teSignerFromKey Hand.teSignID
  simp only [f1, f2, f3, fA, hte, anyGetSubject_eq, anyGetAudience_eq, anyGetAuthTime_eq, anyGetAMR_eq, anyGetClientID_eq,
    bne_self_eq_false, Bool.and_self, Bool.false_eq_true, if_true, if_false]
  cases st.SigningKey with
  | error e => rfl
  | ok key =>
    simp only []
    cases st.SetUserinfoFromTokenExchangeRequest {} r.asTokenRequest with
    | error e => rfl
    | ok ui => simp only []; go_leaf

/-- USERINFO SOURCE of an ID token issued by a token exchange: with an exchange storage the userinfo - and with it the `act` member
    the policy decides - is EXACTLY what `SetUserinfoFromTokenExchangeRequest` filled in for this request, whatever other optional
    capabilities (`CanSetUserinfoFromRequest`) the storage has and whatever the client's scope restriction is -/
theorem c15_exchange_id_token_userinfo_source {now : Int} {iss : String} {r : TEReq} {lifetime : Int} {c : OPClient} {st : TEStore} {tok : String}
    (hte : st.is_TokenExchangeStorage = true) (h : GenTE.CreateIDToken now iss r.asTokenRequest lifetime "" "" st c = .ok tok) :
    ∃ ui key, st.SetUserinfoFromTokenExchangeRequest {} r.asTokenRequest = .ok ui ∧ st.SigningKey = .ok key ∧ key.signerOK = true ∧
      key.signID (exchangeIDClaims now iss r lifetime c st ui) = .ok tok := by
  rw [createIDToken_exchange_eq _ _ _ _ _ _ hte] at h
  unfold exchangeIDSpec at h
  split at h; · cases h
  rename_i key hk
  split at h; · cases h
  rename_i ui hu
  split at h
  · exact ⟨ui, key, hu, hk, ‹_›, h⟩
  · cases h

/-- ... and nothing else: the optional `CanSetUserinfoFromRequest` capability and the base hook `SetUserinfoFromScopes` can be
    switched / replaced at will without changing the ID token of an exchange -/
theorem c15_exchange_id_token_ignores_other_hooks (now : Int) (iss : String) (r : TEReq) (lifetime : Int) (c : OPClient) (st : TEStore)
    (hte : st.is_TokenExchangeStorage = true) (b : Bool) (f : TEUserInfo → TEAnyReq → List String → Go.R TEUserInfo)
    (g : TEUserInfo → String → String → List String → Go.R TEUserInfo) :
    GenTE.CreateIDToken now iss r.asTokenRequest lifetime "" "" { st with is_CanSetUserinfoFromRequest := b, SetUserinfoFromRequest := f, SetUserinfoFromScopes := g } c
      = GenTE.CreateIDToken now iss r.asTokenRequest lifetime "" "" st c := by
  rw [createIDToken_exchange_eq _ _ _ _ _ _ hte, createIDToken_exchange_eq _ _ _ _ _ _ (by exact hte)]
  rfl

/-- hand-readable specification of `CreateTokenExchangeResponse` -/
def responseSpec (now : Int) (r : TEReq) (c : OPClient) (p : TEProvider) : Go.R ExchangeResp :=
  if r.requestedTokenType = Const.AccessTokenType ∨ r.requestedTokenType = Const.RefreshTokenType then
    match GenTE.CreateAccessToken now r.asTokenRequest (p.Storage.ClientAccessTokenType c) p c "" with
    | .error e => .error e
    | .ok (tok, rt, v) => .ok (ExchangeResp.mk tok r.requestedTokenType Const.BearerToken (Go.dSeconds v) rt r.scopes)
  else if r.requestedTokenType = Const.IDTokenType then
    match GenTE.CreateIDToken now (IssuerFromContext now) r.asTokenRequest c.IDTokenLifetime "" "" p.Storage c with
    | .error e => .error e
    | .ok tok => .ok (ExchangeResp.mk tok r.requestedTokenType "N_A" (Go.dSeconds 0) "" r.scopes)
  else .error "ErrInvalidRequest"

theorem createTokenExchangeResponse_eq (now : Int) (r : TEReq) (c : OPClient) (p : TEProvider) :
    GenTE.CreateTokenExchangeResponse now r c p = responseSpec now r c p := by
  unfold GenTE.CreateTokenExchangeResponse responseSpec Hand.texAsTokenRequest Hand.texAsIDTokenRequest
  simp only [getRequestedTokenType_eq, getScopes_eq, Bool.or_eq_true, beq_iff_eq]
  go_leaf

theorem response_ok {now : Int} {r : TEReq} {c : OPClient} {p : TEProvider} {resp : ExchangeResp}
    (h : GenTE.CreateTokenExchangeResponse now r c p = .ok resp) :
    resp.IssuedTokenType = r.requestedTokenType ∧ resp.Scopes = r.scopes ∧
    (((r.requestedTokenType = Const.AccessTokenType ∨ r.requestedTokenType = Const.RefreshTokenType) ∧
        ∃ v, GenTE.CreateAccessToken now r.asTokenRequest (p.Storage.ClientAccessTokenType c) p c "" = .ok (resp.AccessToken, resp.RefreshToken, v)) ∨
      (r.requestedTokenType = Const.IDTokenType ∧ resp.RefreshToken = "" ∧
        GenTE.CreateIDToken now (IssuerFromContext now) r.asTokenRequest c.IDTokenLifetime "" "" p.Storage c = .ok resp.AccessToken)) := by
  rw [createTokenExchangeResponse_eq] at h
  unfold responseSpec at h
  split at h
  · rename_i h1
    split at h; · cases h
    rename_i tok rt v ha
    cases h
    exact ⟨rfl, rfl, .inl ⟨h1, v, ha⟩⟩
  · split at h
    · rename_i h2
      split at h; · cases h
      rename_i tok hi
      cases h
      exact ⟨rfl, rfl, .inr ⟨h2, rfl, hi⟩⟩
    · cases h

/-- the response declares exactly what it contains, for ALL client registrations (grants, access token type, clock skew, scope
    restriction) and every storage honouring the contract: the issued type is the (issuable) requested type, the token member is
    never empty, and a refresh token is contained IFF `issued_token_type` is the refresh type -/
theorem c15_response_declares_contents {now : Int} {r : TEReq} {c : OPClient} {p : TEProvider} {resp : ExchangeResp}
    (hs : StorageContract p.Storage) (hm : MintContract p) (hte : p.Storage.is_TokenExchangeStorage = true)
    (h : GenTE.CreateTokenExchangeResponse now r c p = .ok resp) :
    resp.IssuedTokenType = r.requestedTokenType ∧
    (r.requestedTokenType = Const.AccessTokenType ∨ r.requestedTokenType = Const.RefreshTokenType ∨ r.requestedTokenType = Const.IDTokenType) ∧
    resp.AccessToken ≠ "" ∧ (resp.RefreshToken ≠ "" ↔ resp.IssuedTokenType = Const.RefreshTokenType) ∧ resp.Scopes = r.scopes := by
  obtain ⟨d1, d2, d3⟩ := tokenTypes_distinct
  obtain ⟨hty, hsc, ⟨h1, v, ha⟩ | ⟨h2, hrt, hi⟩⟩ := response_ok h
  · obtain ⟨id, exp, hct, htok⟩ := c15_access_token_of_exchange hte ha
    have hne : resp.AccessToken ≠ "" := by
      split at htok
      · obtain ⟨pc, key, _, hk, hsg⟩ := htok
        exact hm.2.1 _ _ _ hk hsg
      · exact hm.1 _ _ htok
    refine ⟨hty, h1.elim .inl (.inr ∘ .inl), hne, ?_, hsc⟩
    rw [createTokens_exchange_eq] at hct
    unfold createTokensSpec at hct
    rw [hty]
    split at hct
    · rename_i hr
      simp [hr, hs _ _ _ _ _ hct]
    · rename_i hr
      split at hct; · cases hct
      simp only [Except.ok.injEq, Prod.mk.injEq] at hct
      simp [hr, ← hct.2.1]
  · obtain ⟨ui, key, _, hk, _, hsg⟩ := c15_exchange_id_token_userinfo_source hte hi
    exact ⟨hty, .inr (.inr h2), hm.2.2 _ _ _ hk hsg, by simp [hty, h2, hrt, d3.symm], hsc⟩

/-- WHAT THE ISSUED ID TOKEN CARRIES (requested type id_token): the signature over `exchangeIDClaims` - the (policy-rewritten)
    request's subject / audience / client and the userinfo, incl. the actor, that the exchange hook decided for this request -/
theorem c15_issued_id_token_carries_policy_decision {now : Int} {r : TEReq} {c : OPClient} {p : TEProvider} {resp : ExchangeResp}
    (hte : p.Storage.is_TokenExchangeStorage = true) (hreq : r.requestedTokenType = Const.IDTokenType)
    (h : GenTE.CreateTokenExchangeResponse now r c p = .ok resp) :
    resp.RefreshToken = "" ∧
    ∃ ui key, p.Storage.SetUserinfoFromTokenExchangeRequest {} r.asTokenRequest = .ok ui ∧ p.Storage.SigningKey = .ok key ∧
      key.signID (exchangeIDClaims now (IssuerFromContext now) r c.IDTokenLifetime c p.Storage ui) = .ok resp.AccessToken := by
  obtain ⟨d1, d2, d3⟩ := tokenTypes_distinct
  obtain ⟨_, _, ⟨h1, _⟩ | ⟨_, hrt, hi⟩⟩ := response_ok h
  · rw [hreq] at h1
    exact absurd h1 (by simp [d2.symm, d3.symm])
  · obtain ⟨ui, key, hu, hk, _, hsg⟩ := c15_exchange_id_token_userinfo_source hte hi
    exact ⟨hrt, ui, key, hu, hk, hsg⟩

/-- WHAT THE ISSUED ACCESS TOKEN CARRIES (requested type access_token / refresh_token): for a client with JWT access tokens the
    token is the signature over claims whose subject and audience are the (policy-rewritten) request's and whose private claims -
    the place where the storage policy puts the actor (`act`) - are exactly the exchange hook's decision for this request; for a
    client with opaque tokens it seals `id:subject` of the token the storage created for this request -/
theorem c15_issued_access_token_carries_policy_decision {now : Int} {r : TEReq} {c : OPClient} {p : TEProvider} {resp : ExchangeResp}
    (hte : p.Storage.is_TokenExchangeStorage = true)
    (hreq : r.requestedTokenType = Const.AccessTokenType ∨ r.requestedTokenType = Const.RefreshTokenType)
    (h : GenTE.CreateTokenExchangeResponse now r c p = .ok resp) :
    ∃ id exp, GenTE.createTokens now r.asTokenRequest p.Storage "" c = .ok (id, resp.RefreshToken, exp) ∧
      (if p.Storage.ClientAccessTokenType c = TEConst.AccessTokenTypeJWT then
        ∃ pc key, p.Storage.GetPrivateClaimsFromTokenExchangeRequest r.asTokenRequest = .ok pc ∧ p.Storage.SigningKey = .ok key ∧
          key.signAT (exchangeJWTClaims now (IssuerFromContext now) r exp id c p.Storage pc) = .ok resp.AccessToken
       else p.Crypto.Encrypt (id ++ ":" ++ r.subject) = .ok resp.AccessToken) := by
  obtain ⟨d1, d2, d3⟩ := tokenTypes_distinct
  obtain ⟨_, _, ⟨_, v, ha⟩ | ⟨h2, _⟩⟩ := response_ok h
  · exact c15_access_token_of_exchange hte ha
  · rw [h2] at hreq
    exact absurd hreq (by simp [d2.symm, d3.symm])

/-- a requested type the provider cannot issue (jwt, anything else) is an error - never a success answer -/
theorem c15_unissuable_type_is_error {now : Int} {r : TEReq} {c : OPClient} {p : TEProvider}
    (h : r.requestedTokenType ≠ Const.AccessTokenType ∧ r.requestedTokenType ≠ Const.RefreshTokenType ∧ r.requestedTokenType ≠ Const.IDTokenType) :
    GenTE.CreateTokenExchangeResponse now r c p = .error "ErrInvalidRequest" := by
  rw [createTokenExchangeResponse_eq]
  unfold responseSpec
  simp [h.1, h.2.1, h.2.2]

/-- hand-readable specification of the Server router's handler entered with an authenticated client: the parameter checks, then
    the same two functions (its own capability check answers what `CreateTokenExchangeRequest` answers without the capability) -/
def handlerSpec (now : Int) (p : TEProvider) (rq : TEIn) (c : OPClient) : TEHttp :=
  if ¬ paramsOK rq then .error "ErrInvalidRequest"
  else match GenTE.CreateTokenExchangeRequest now rq c p with
    | .error e => .error e
    | .ok r =>
      match GenTE.CreateTokenExchangeResponse now r c p with
      | .error e => .error e
      | .ok resp => .ok resp

/-- CHARACTERISATION of the regenerated `webServer.tokenExchangeHandler` → `LegacyServer.TokenExchange` →
    `Provider.GrantTypeTokenExchangeSupported` -/
theorem tokenExchangeHandler_eq (now : Int) (ws : TEWebServer) (rq : TEIn) (c : OPClient) :
    GenTE.tokenExchangeHandler now ws { form := .ok rq } c = handlerSpec now ws.server.provider rq c := by
  unfold GenTE.tokenExchangeHandler GenTE.LegacyTokenExchange GenTE.GrantTypeTokenExchangeSupported handlerSpec
    Hand.teDecodeRequest Hand.teWriteError Hand.teNewClientRequest Hand.teNewResponse
  simp only [beq_iff_eq, bne_iff_ne, Bool.and_eq_true, Bool.not_eq_true', isSupported_false_iff]
  by_cases hp : paramsOK rq
  · have hn := mt (not_paramsOK_iff rq).2 (not_not_intro hp)
    simp only [not_or] at hn
    obtain ⟨n1, n2, n3, n4, n5, n6⟩ := hn
    simp only [hp, n1, n2, n3, n4, n5, n6, not_true, if_false]
    cases hs : ws.server.provider.Storage.is_TokenExchangeStorage
    · rw [createTokenExchangeRequest_eq, createRequestSpec, if_pos hs]; rfl
    · go_leaf
  · simp only [hp, not_false_eq_true, if_true]
    rcases (not_paramsOK_iff rq).1 hp with h | h | h | h | h | h <;> simp only [if_pos h, ite_self]

/-- the Provider router's chain after the request has been parsed: validation (incl. client authentication), then the response -/
def providerRouter (now : Int) (rq : TEIn) (id sec : String) (p : TEProvider) : TEHttp :=
  match GenTE.ValidateTokenExchangeRequest now rq id sec p with
  | .error e => .error e
  | .ok (r, c) =>
    match GenTE.CreateTokenExchangeResponse now r c p with
    | .error e => .error e
    | .ok resp => .ok resp

/-- BOTH ROUTERS: for a client that the Provider router's `AuthorizeTokenExchangeClient` authenticates and that is registered for
    the grant, the Server router's regenerated handler (`webServer.tokenExchangeHandler` → `LegacyServer.TokenExchange`, entered
    with that client) answers EXACTLY what the Provider router's regenerated chain answers - same success, same error - for every
    request, provider, storage and library answer. (The two routers duplicate the parameter checks in different orders; every one
    of them fails with the same error, and both reach the same `CreateTokenExchangeRequest` / `CreateTokenExchangeResponse`.) -/
theorem c15_routers_agree (now : Int) (rq : TEIn) (id sec : String) (c : OPClient) (p : TEProvider)
    (hauth : Hand.teAuthorizeClient now id sec p = .ok c) (hgrant : ValidateGrantType now c Const.GrantTypeTokenExchange = true) :
    GenTE.tokenExchangeHandler now { server := { provider := p } } { form := .ok rq } c = providerRouter now rq id sec p := by
  rw [tokenExchangeHandler_eq]
  unfold providerRouter
  rw [validateTokenExchangeRequest_eq]
  unfold handlerSpec validateSpec
  simp only [hauth, hgrant]
  by_cases hp : paramsOK rq
  · have h1 : ¬ (rq.SubjectToken = "" ∨ rq.SubjectTokenType = "" ∨ (rq.ActorToken ≠ "" ∧ rq.ActorTokenType = "")) := by
      rintro (h | h | h)
      · exact hp.1 h
      · exact hp.2.1 h
      · exact (not_paramsOK_iff rq).2 (.inr (.inr (.inr (.inr (.inr h))))) hp
    simp only [hp, h1, not_true_eq_false, if_false, Bool.true_eq_false]
    cases GenTE.CreateTokenExchangeRequest now rq c p <;> rfl
  · by_cases h1 : rq.SubjectToken = "" ∨ rq.SubjectTokenType = "" ∨ (rq.ActorToken ≠ "" ∧ rq.ActorTokenType = "") <;> simp [hp, h1]

/-- what a success of the Server router's handler establishes (the client was authenticated by `withClient`, the C05 slice):
    supported declared types, and the same `CreateTokenExchangeRequest` / `CreateTokenExchangeResponse` as on the Provider router -/
theorem c15_legacy_handler_sound {now : Int} {ws : TEWebServer} {rq : TEIn} {c : OPClient} {resp : ExchangeResp}
    (h : GenTE.tokenExchangeHandler now ws { form := .ok rq } c = .ok resp) :
    rq.SubjectToken ≠ "" ∧ rq.SubjectTokenType ∈ supported ∧ (rq.ActorToken = "" ∨ rq.ActorTokenType ∈ supported) ∧
    (rq.ActorTokenType = "" ∨ rq.ActorTokenType ∈ supported) ∧
    (rq.RequestedTokenType = "" ∨ rq.RequestedTokenType ∈ supported) ∧
    ∃ r, GenTE.CreateTokenExchangeRequest now rq c ws.server.provider = .ok r ∧ GenTE.CreateTokenExchangeResponse now r c ws.server.provider = .ok resp := by
  rw [tokenExchangeHandler_eq] at h
  unfold handlerSpec at h
  split at h; · cases h
  rename_i hp
  split at h; · cases h
  rename_i r hr
  split at h; · cases h
  rename_i resp' hx
  cases h
  have hp := Classical.not_not.1 hp
  exact ⟨hp.1, hp.2.2.1, paramsOK_actor hp, hp.2.2.2.2.1, hp.2.2.2.1, r, hr, hx⟩

/-! ## finding F-C15b: a JWT access token declared as id_token (type confusion) -/
section confusion
def wKey : JWK := { KeyID := "sig1", Use := "sig", kty := .rsa, keyNo := 0 }
def wKS : KeySet := { kind := .published, keys := [wKey] }
def wNow : Int := 2000000000 * Go.second
/-- the claims of one of the provider's own JWT access tokens (`oidc.NewAccessTokenClaims`: a `client_id`, no `azp`) -/
def wATClaims : Claims := { iss := "https://op.example", sub := "user1", aud := ["web"], clientID := "web", exp := 2000000300, iat := 1999999995 }
def wH : JHeader := { Algorithm := "RS256", KeyID := "sig1" }
def wTok : Token :=
  let p : Payload := { bytes := 1, claims := some wATClaims }
  { segs := 3, middle := some p, jws := some { Signatures := [{ Header := wH, signer := some 0, signedAlg := "RS256", signedBytes := 1, signedHdr := wH }], payload := p } }
def wVerifier : Verifier := { Issuer := "https://op.example", KeySet := wKS }
/-- a provider whose two verifiers are the REGENERATED `op.VerifyAccessToken` / `op.VerifyIDTokenHint` on the symbolic token "AT" -/
def wProvider : TEProvider :=
  { base := { store := { clients := [{ id := "web", secret := "s", grants := [Const.GrantTypeTokenExchange] }] } },
    AccessTokenVerifier := { verify := fun t => if t == "AT" then
      (match Gen.OPVerifyAccessToken wNow wTok wVerifier with | .ok c => .ok { set := true, JWTID := "at1", Subject := c.sub } | .error e => .error e) else .error "invalid" },
    IDTokenHintVerifier := { verify := fun t => if t == "AT" then
      (match Gen.VerifyIDTokenHint wNow wTok wVerifier with
       | .ok (.valid c) => .ok (.valid { Subject := c.sub }) | .ok (.expired c _) => .ok (.expired { Subject := c.sub }) | .error e => .error e) else .error "invalid" } }

/-- WITNESS (the full-strength reading "a success means the subject token is a live token OF THE DECLARED TYPE" is false of the
    library, F-C15b): the token "AT" is an access token of this provider - the regenerated access-token verifier accepts it and it
    carries no `azp` -, the regenerated id_token_hint verifier accepts it all the same, the exchange that DECLARES it an id_token
    goes through for its subject, and the monitor refuses that success (whatever the storage knows about the access token's
    revocation was never asked) -/
theorem c15_declared_id_token_confusion_witness :
    (match Gen.OPVerifyAccessToken wNow wTok wVerifier with | .ok c => c.azp == "" && c.clientID == "web" | .error _ => false) = true ∧
    (match Gen.VerifyIDTokenHint wNow wTok wVerifier with | .ok (.valid c) => c.sub == "user1" | _ => false) = true ∧
    (match GenTE.ValidateTokenExchangeRequest wNow { SubjectToken := "AT", SubjectTokenType := Const.IDTokenType, RequestedTokenType := Const.AccessTokenType }
        "web" "s" wProvider with | .ok (r, c) => r.subject == "user1" && c.id == "web" | .error _ => false) = true ∧
    judge { base := { issuer := "https://op.example", clients := wProvider.base.store.clients }, capTE := true } wNow { clientID := "web", secret := "s" }
      { subjectType := tID, subjectLive := false, subjectSubject := "", requestedType := tAccess }
      (some { issuedTokenType := tAccess, accessToken := "access", accessLive := true, subject := "user1", policyAsked := true, exchangeSubject := "user1" })
      = some "subject-token-not-live" := by decide +kernel
end confusion

/-- a verifier storage whose two role policies differ: "tp-s" only as subject, "tp-a" only as actor, "tp-b" in both roles but
    as DIFFERENT identities -/
def exStore : TEStore :=
  { is_TokenExchangeTokensVerifierStorage := true,
    VerifyExchangeSubjectToken := fun t _ => if t == "tp-s" then .ok (t, "alice", []) else if t == "tp-b" then .ok (t, "bob-as-subject", []) else .error "unknown token",
    VerifyExchangeActorToken := fun t _ => if t == "tp-a" then .ok (t, "svc", []) else if t == "tp-b" then .ok (t, "bob-as-actor", []) else .error "unknown token" }

def exProvider : TEProvider :=
  { base := { store := { clients := [{ id := "te-only", secret := "s", grants := [Const.GrantTypeTokenExchange] }] } }, Storage := exStore }

-- accepted in the role the storage allows, refused in the other one
example : GenTE.GetTokenIDAndSubjectFromToken 0 exProvider "tp-s" Const.JWTTokenType false = ("tp-s", "alice", [], true) := by decide +kernel
example : GenTE.GetTokenIDAndSubjectFromToken 0 exProvider "tp-s" Const.JWTTokenType true = ("", "", [], false) := by decide +kernel
example : GenTE.GetTokenIDAndSubjectFromToken 0 exProvider "tp-a" Const.JWTTokenType true = ("tp-a", "svc", [], true) := by decide +kernel
example : GenTE.GetTokenIDAndSubjectFromToken 0 exProvider "tp-a" Const.JWTTokenType false = ("", "", [], false) := by decide +kernel
-- the same token in both roles resolves to the identity of THAT role
example : GenTE.GetTokenIDAndSubjectFromToken 0 exProvider "tp-b" Const.JWTTokenType false = ("tp-b", "bob-as-subject", [], true) := by decide +kernel
example : GenTE.GetTokenIDAndSubjectFromToken 0 exProvider "tp-b" Const.JWTTokenType true = ("tp-b", "bob-as-actor", [], true) := by decide +kernel
/-- RFC 8693 2.1, `actor_token_type` is REQUIRED when `actor_token` is present: the Provider router's regenerated
    `ValidateTokenExchangeRequest` refuses an `actor_token` WITHOUT `actor_token_type` with invalid_request - for EVERY request,
    client credential, provider, storage (with or without the optional verifier storage) and library answer; nothing is resolved and
    nobody is asked with the empty type. -/
theorem c15_actor_without_type_refused (now : Int) (rq : TEIn) (id sec : String) (p : TEProvider)
    (ha : rq.ActorToken ≠ "") (ht : rq.ActorTokenType = "") :
    GenTE.ValidateTokenExchangeRequest now rq id sec p = .error "ErrInvalidRequest" := by
  rw [validateTokenExchangeRequest_eq]
  unfold validateSpec
  simp [ha, ht]

/-- ... and so does the Server router's regenerated `webServer.tokenExchangeHandler`, whoever the authenticated client is -/
theorem c15_actor_without_type_refused_legacy (now : Int) (ws : TEWebServer) (rq : TEIn) (c : OPClient)
    (ha : rq.ActorToken ≠ "") (ht : rq.ActorTokenType = "") :
    GenTE.tokenExchangeHandler now ws { form := .ok rq } c = .error "ErrInvalidRequest" := by
  rw [tokenExchangeHandler_eq]
  unfold handlerSpec
  have hp : ¬ paramsOK rq := (not_paramsOK_iff rq).2 (.inr (.inr (.inr (.inr (.inr ⟨ha, ht⟩)))))
  simp [hp]

/-- `actor_token=tp-a` WITHOUT `actor_token_type` against the verifier storage whose actor policy accepts "tp-a" under any type:
    refused on both routers (also without the optional verifier storage), so the monitor has no success to judge; the monitor
    itself refuses such a success (`actor-token-not-live`) -/
theorem c15_actor_without_type_example :
    (match GenTE.ValidateTokenExchangeRequest 0 { SubjectToken := "tp-s", SubjectTokenType := Const.JWTTokenType, ActorToken := "tp-a", ActorTokenType := "", RequestedTokenType := Const.AccessTokenType } "te-only" "s" exProvider with
      | .ok _ => false | .error e => e == "ErrInvalidRequest") = true ∧
    (match GenTE.tokenExchangeHandler 0 { server := { provider := exProvider } } { form := .ok { SubjectToken := "tp-s", SubjectTokenType := Const.JWTTokenType, ActorToken := "tp-a", ActorTokenType := "", RequestedTokenType := Const.AccessTokenType } }
        { id := "te-only", secret := "s", grants := [Const.GrantTypeTokenExchange] } with
      | .ok _ => false | .error e => e == "ErrInvalidRequest") = true ∧
    (match GenTE.ValidateTokenExchangeRequest 0 { SubjectToken := "tp-s", SubjectTokenType := Const.JWTTokenType, ActorToken := "tp-a", ActorTokenType := "", RequestedTokenType := Const.AccessTokenType } "te-only" "s" { exProvider with Storage := { exStore with is_TokenExchangeTokensVerifierStorage := false } } with
      | .ok _ => false | .error e => e == "ErrInvalidRequest") = true ∧
    -- the same request WITH the type declared still goes through as a delegation for the actor the actor policy named
    (match GenTE.ValidateTokenExchangeRequest 0 { SubjectToken := "tp-s", SubjectTokenType := Const.JWTTokenType, ActorToken := "tp-a", ActorTokenType := Const.JWTTokenType, RequestedTokenType := Const.AccessTokenType } "te-only" "s" exProvider with
      | .ok (r, _) => r.exchangeActor == "svc" && r.exchangeActorTokenType == Const.JWTTokenType | .error _ => false) = true ∧
    judge { base := { issuer := "https://op.example", clients := exProvider.base.store.clients }, capTE := true } 0 { clientID := "te-only", secret := "s" }
      { subjectType := Const.JWTTokenType, subjectLive := true, subjectSubject := "alice", actorGiven := true, actorType := "", actorLive := true, actorSubject := "svc", requestedType := tAccess }
      none = none ∧
    judge { base := { issuer := "https://op.example", clients := exProvider.base.store.clients }, capTE := true } 0 { clientID := "te-only", secret := "s" }
      { subjectType := Const.JWTTokenType, subjectLive := true, subjectSubject := "alice", actorGiven := true, actorType := "", actorLive := true, actorSubject := "svc", requestedType := tAccess }
      (some { issuedTokenType := tAccess, accessToken := "access", accessLive := true, subject := "alice", policyAsked := true, exchangeSubject := "alice", actor := "svc" })
      = some "actor-token-not-live" := by decide +kernel

-- without the optional interface the policies are never consulted
example : GenTE.GetTokenIDAndSubjectFromToken 0 { exProvider with Storage := { exStore with is_TokenExchangeTokensVerifierStorage := false } }
    "tp-s" Const.JWTTokenType false = ("", "", [], false) := by decide +kernel
-- an expired ID token is not accepted (and a valid one is)
example : GenTE.GetTokenIDAndSubjectFromToken 0 { IDTokenHintVerifier := { verify := fun _ => .ok (.expired { Subject := "alice" }) } }
    "idt" Const.IDTokenType false = ("", "", [], false) := by decide +kernel
example : GenTE.GetTokenIDAndSubjectFromToken 0 { IDTokenHintVerifier := { verify := fun _ => .ok (.valid { Subject := "alice" }) } }
    "idt" Const.IDTokenType false = ("idt", "alice", [], true) := by decide +kernel

/-- end to end (Provider router): a client registered for token exchange but NOT for refresh_token exchanges a third-party
    subject token and a third-party actor token; the request carries the identities of the respective roles -/
example : (GenTE.ValidateTokenExchangeRequest 0
      { SubjectToken := "tp-b", SubjectTokenType := Const.JWTTokenType, ActorToken := "tp-b", ActorTokenType := Const.JWTTokenType,
        RequestedTokenType := Const.RefreshTokenType, Scopes := ["openid"] } "te-only" "s" exProvider).toOption.map
        (fun rc => (rc.1.exchangeSubject, rc.1.exchangeActor, rc.1.subject, rc.1.scopes, rc.2.id))
    = some ("bob-as-subject", "bob-as-actor", "bob-as-subject", ["openid"], "te-only") := by decide +kernel
-- ... and is refused when the actor token is one the ACTOR policy does not accept
example : (match GenTE.ValidateTokenExchangeRequest 0
      { SubjectToken := "tp-s", SubjectTokenType := Const.JWTTokenType, ActorToken := "tp-s", ActorTokenType := Const.JWTTokenType } "te-only" "s" exProvider with
      | .error e => e | .ok _ => "accepted") = "ErrInvalidRequest" := by decide +kernel

/-- the client WITHOUT the refresh_token grant that asks for a refresh token gets one (and the response says so); asking for an
    access token yields none -/
example : (GenTE.CreateTokenExchangeResponse 0 { requestedTokenType := Const.RefreshTokenType, subject := "alice" }
      { id := "te-only", grants := [Const.GrantTypeTokenExchange] } exProvider).toOption.map (fun r => (r.IssuedTokenType, r.RefreshToken, r.AccessToken))
    = some (Const.RefreshTokenType, "rt1", "enc(at1:alice)") := by decide +kernel
example : (GenTE.CreateTokenExchangeResponse 0 { requestedTokenType := Const.AccessTokenType, subject := "alice" }
      { id := "web", grants := [Const.GrantTypeTokenExchange, Const.GrantTypeRefreshToken] } exProvider).toOption.map (fun r => (r.IssuedTokenType, r.RefreshToken))
    = some (Const.AccessTokenType, "") := by decide +kernel
example : StorageContract exStore := by
  intro r cur id rt exp h
  simp [exStore] at h
  simp [← h.2.1]
example : GenTE.CreateTokenExchangeResponse 0 { requestedTokenType := Const.JWTTokenType } {} exProvider = .error "ErrInvalidRequest" :=
  c15_unissuable_type_is_error (by decide)

-- both routers, concretely: the Server router's handler (entered with the authenticated client) and the Provider router's chain hand out the same response
example : (match GenTE.tokenExchangeHandler 0 { server := { provider := exProvider } }
      { form := .ok { SubjectToken := "tp-s", SubjectTokenType := Const.JWTTokenType, RequestedTokenType := Const.AccessTokenType } }
      { id := "te-only", secret := "s", grants := [Const.GrantTypeTokenExchange] } with
    | .ok r => (r.IssuedTokenType, r.AccessToken) | .error e => (e, "")) = (Const.AccessTokenType, "enc(at1:alice)") := by decide +kernel
example : (match providerRouter 0 { SubjectToken := "tp-s", SubjectTokenType := Const.JWTTokenType, RequestedTokenType := Const.AccessTokenType } "te-only" "s" exProvider with
    | .ok r => (r.IssuedTokenType, r.AccessToken) | .error e => (e, "")) = (Const.AccessTokenType, "enc(at1:alice)") := by decide +kernel

/-- a storage with BOTH optional private-claims capabilities (`TokenExchangeStorage` and `CanGetPrivateClaimsFromRequest`) whose
    exchange hook decides the actor of an impersonation, and whose clients "jwt…" get JWT access tokens -/
def exStoreBoth : TEStore :=
  { exStore with
    is_CanGetPrivateClaimsFromRequest := true,
    GetPrivateClaimsFromTokenExchangeRequest := fun a => .ok [("src", "exchange"), ("act.sub", a.req.exchangeSubject)],
    GetPrivateClaimsFromRequest := fun _ _ => .ok [("src", "request")],
    GetPrivateClaimsFromScopes := fun _ _ _ => .ok [("src", "scopes")],
    ClientAccessTokenType := fun c => if Go.hasPrefix c.id "jwt" then TEConst.AccessTokenTypeJWT else 0 }

-- the JWT access token of an impersonation carries the actor the EXCHANGE hook decided, although the storage could also answer "from the request"
example : (GenTE.CreateTokenExchangeResponse 0 { requestedTokenType := Const.AccessTokenType, subject := "bob", exchangeSubject := "alice" }
      { id := "jwt-te", grants := [Const.GrantTypeTokenExchange] } { exProvider with Storage := exStoreBoth }).toOption.map (fun r => (r.IssuedTokenType, r.AccessToken))
    = some (Const.AccessTokenType, "jwt(at1:bob:src=exchange;act.sub=alice)") := by decide +kernel
-- the same storage, a client with opaque tokens: the sealed `id:subject`
example : (GenTE.CreateTokenExchangeResponse 0 { requestedTokenType := Const.AccessTokenType, subject := "bob", exchangeSubject := "alice" }
      { id := "te-only", grants := [Const.GrantTypeTokenExchange] } { exProvider with Storage := exStoreBoth }).toOption.map (fun r => r.AccessToken)
    = some "enc(at1:bob)" := by decide +kernel
-- a request that is NOT a token exchange goes to the optional request hook (the else branch is live code)
example : (GenTE.CreateJWT 0 "" { req := { subject := "bob" } } 0 "at1" { id := "jwt-te" } exStoreBoth).toOption = some "jwt(at1:bob:src=request)" := by decide +kernel
example : (GenTE.CreateJWT 0 "" { req := { subject := "bob" } } 0 "at1" { id := "jwt-te" } { exStoreBoth with is_CanGetPrivateClaimsFromRequest := false }).toOption
    = some "jwt(at1:bob:src=scopes)" := by decide +kernel
example : MintContract { exProvider with Storage := exStoreBoth } := by
  -- every output of the example sealer and signers ends in ")"
  have ne : ∀ {a t : String}, a ++ ")" = t → t ≠ "" := by
    intro a t h he
    have := congrArg String.length (he ▸ h)
    simp at this
  refine ⟨fun s t h => ?_, fun k c t hk h => ?_, fun k c t hk h => ?_⟩
  · simp [exProvider] at h
    exact ne h
  · simp [exStoreBoth, exStore] at hk
    subst hk
    simp at h
    exact ne h
  · simp [exStoreBoth, exStore] at hk
    subst hk
    simp at h
    exact ne h

/-! ## the identity handed to the storage policy is the one the presented opaque token was ISSUED for

  `CreateBearerToken` (regenerated) seals `id ++ ":" ++ subject`; `getTokenIDAndClaims` (regenerated) opens and cuts it. Composed, for
  EVERY token id and subject string: parse (mint id sub) = (id, sub) or a refusal - never another pair. A subject (or id) containing
  a colon is exactly where the code refuses (finding F-C15d: such a token is unusable at the provider). -/

/-- what AES sealing is assumed to do: what `Encrypt` produced, `Decrypt` opens to the same plain text -/
def SealContract (c : TECrypto) : Prop := ∀ x t, c.Encrypt x = .ok t → c.Decrypt t = .ok x

theorem createBearerToken_eq (now : Int) (id sub : String) (c : TECrypto) :
    GenTE.CreateBearerToken now id sub c = c.Encrypt (id ++ ":" ++ sub) := by
  unfold GenTE.CreateBearerToken
  simp only [te_hadd]

/-- ROUND TRIP parse ∘ mint over the two regenerated functions, for every token id and subject: the minted token is read back as the
    very pair that was sealed when neither part contains a colon, and is REFUSED otherwise -/
theorem c15_opaque_roundtrip {now : Int} {p : TEProvider} (hs : SealContract p.Crypto) {id sub t : String}
    (hm : GenTE.CreateBearerToken now id sub p.Crypto = .ok t) :
    GenTE.getTokenIDAndClaims now p t =
      if ':' ∈ id.toList ∨ ':' ∈ sub.toList then ("", "", {}, false) else (id, sub, {}, true) := by
  rw [createBearerToken_eq] at hm
  rw [getTokenIDAndClaims_eq]
  unfold ownAccess
  rw [hs _ _ hm]
  simp only [TE.parsePair_mint]
  by_cases hc : ':' ∈ id.toList ∨ ':' ∈ sub.toList <;> simp [hc]

/-- NEVER ANOTHER PAIR: if the provider's own parser accepts a token it minted, then with the id and the subject it minted it for -/
theorem c15_opaque_never_another_pair {now : Int} {p : TEProvider} (hs : SealContract p.Crypto) {id sub t i s : String} {cl : TEATClaims}
    (hm : GenTE.CreateBearerToken now id sub p.Crypto = .ok t) (h : GenTE.getTokenIDAndClaims now p t = (i, s, cl, true)) :
    i = id ∧ s = sub ∧ ':' ∉ id.toList ∧ ':' ∉ sub.toList := by
  rw [c15_opaque_roundtrip hs hm] at h
  by_cases hc : ':' ∈ id.toList ∨ ':' ∈ sub.toList
  · simp [hc] at h
  · simp only [hc, if_false, Prod.mk.injEq] at h
    simp only [not_or] at hc
    exact ⟨h.1.symm, h.2.1.symm, hc.1, hc.2⟩

theorem ownResolution_minted {now : Int} {p : TEProvider} (hs : SealContract p.Crypto) {id sub t : String}
    (hm : GenTE.CreateBearerToken now id sub p.Crypto = .ok t) :
    ownResolution p t Const.AccessTokenType = if ':' ∈ id.toList ∨ ':' ∈ sub.toList then none else some (id, sub, []) := by
  rw [ownResolution_access, ← getTokenIDAndClaims_eq now, c15_opaque_roundtrip hs hm]
  by_cases hc : ':' ∈ id.toList ∨ ':' ∈ sub.toList <;> simp [hc]

/-- the resolution of a token the provider minted, presented (in either role) as an access token: its own pair - or, where the
    provider's own parser refuses (a colon in the id or the subject), whatever the optional verifier storage's policy FOR THAT ROLE says -/
theorem c15_minted_token_resolution {now : Int} {p : TEProvider} (hs : SealContract p.Crypto) {id sub t : String}
    (hm : GenTE.CreateBearerToken now id sub p.Crypto = .ok t) (isActor : Bool) :
    GenTE.GetTokenIDAndSubjectFromToken now p t Const.AccessTokenType isActor =
      if ':' ∈ id.toList ∨ ':' ∈ sub.toList then
        (if p.Storage.is_TokenExchangeTokensVerifierStorage then
          match rolePolicy p.Storage isActor t Const.AccessTokenType with
          | .ok (i, s, c) => (i, s, c, true)
          | .error _ => ("", "", [], false)
         else ("", "", [], false))
      else (id, sub, [], true) := by
  rw [c15_resolution_spec]
  unfold resolve
  rw [ownResolution_minted hs hm]
  by_cases hc : ':' ∈ id.toList ∨ ':' ∈ sub.toList <;> simp [hc]

theorem minted_token_resolved {now : Int} {p : TEProvider} (hs : SealContract p.Crypto) {id sub t : String}
    (hm : GenTE.CreateBearerToken now id sub p.Crypto = .ok t) {isActor : Bool} {i s : String} {cl : TEClaims}
    (h : resolve p t Const.AccessTokenType isActor = (i, s, cl, true)) :
    (i = id ∧ s = sub ∧ ':' ∉ id.toList ∧ ':' ∉ sub.toList) ∨
    ((':' ∈ id.toList ∨ ':' ∈ sub.toList) ∧ p.Storage.is_TokenExchangeTokensVerifierStorage = true ∧
      rolePolicy p.Storage isActor t Const.AccessTokenType = .ok (i, s, cl)) := by
  rw [← c15_resolution_spec now] at h
  rcases c15_accepted_by_role_policy h with h1 | ⟨h1, hv, hp⟩
  · rw [ownResolution_minted hs hm] at h1
    split at h1
    · cases h1
    · rename_i hc
      cases h1
      exact .inl ⟨rfl, rfl, not_or.1 hc⟩
  · rw [ownResolution_minted hs hm] at h1
    split at h1
    · rename_i hc
      exact .inr ⟨hc, hv, hp⟩
    · cases h1

/-- THE SUBJECT PASSED TO THE STORAGE POLICY equals the subject component the provider sealed into the presented token (and the token id
    the id component): when an exchange request built on a subject token the provider minted for `(id, sub)` goes through, the storage
    policy was asked about exactly `(id, sub)` - unless the provider's own parser refused the token (a colon in `id` or `sub`) and
    the optional verifier storage's SUBJECT policy vouched for it under an identity of its own choosing. No third possibility: in
    particular never the text after the last colon of `sub`. -/
theorem c15_policy_asked_about_minted_subject {now : Int} {rq : TEIn} {c : OPClient} {p : TEProvider} {r : TEReq} {id sub : String}
    (hs : SealContract p.Crypto) (hm : GenTE.CreateBearerToken now id sub p.Crypto = .ok rq.SubjectToken)
    (ht : rq.SubjectTokenType = Const.AccessTokenType) (h : GenTE.CreateTokenExchangeRequest now rq c p = .ok r) :
    ∃ sid ssub scl aid asub acl r1,
      p.Storage.ValidateTokenExchangeRequest (builtReq now rq c sid ssub scl aid asub acl) = .ok r1 ∧
      p.Storage.CreateTokenExchangeRequest r1 = .ok r ∧
      ((sid = id ∧ ssub = sub ∧ ':' ∉ id.toList ∧ ':' ∉ sub.toList) ∨
       ((':' ∈ id.toList ∨ ':' ∈ sub.toList) ∧ p.Storage.is_TokenExchangeTokensVerifierStorage = true ∧
         p.Storage.VerifyExchangeSubjectToken rq.SubjectToken rq.SubjectTokenType = .ok (sid, ssub, scl))) := by
  obtain ⟨_, sid, ssub, scl, aid, asub, acl, r1, h1, _, h3, h4⟩ := c15_create_request_sound h
  rw [ht] at h1 ⊢
  exact ⟨sid, ssub, scl, aid, asub, acl, r1, h3, h4, minted_token_resolved hs hm h1⟩

/-- the same for the ACTOR role: the actor the storage policy is asked about is the subject the presented actor token was minted for -/
theorem c15_policy_asked_about_minted_actor {now : Int} {rq : TEIn} {c : OPClient} {p : TEProvider} {r : TEReq} {id sub : String}
    (hs : SealContract p.Crypto) (hm : GenTE.CreateBearerToken now id sub p.Crypto = .ok rq.ActorToken) (hne : rq.ActorToken ≠ "")
    (ht : rq.ActorTokenType = Const.AccessTokenType) (h : GenTE.CreateTokenExchangeRequest now rq c p = .ok r) :
    ∃ sid ssub scl aid asub acl r1,
      p.Storage.ValidateTokenExchangeRequest (builtReq now rq c sid ssub scl aid asub acl) = .ok r1 ∧
      p.Storage.CreateTokenExchangeRequest r1 = .ok r ∧
      ((aid = id ∧ asub = sub ∧ ':' ∉ id.toList ∧ ':' ∉ sub.toList) ∨
       ((':' ∈ id.toList ∨ ':' ∈ sub.toList) ∧ p.Storage.is_TokenExchangeTokensVerifierStorage = true ∧
         p.Storage.VerifyExchangeActorToken rq.ActorToken rq.ActorTokenType = .ok (aid, asub, acl))) := by
  obtain ⟨_, sid, ssub, scl, aid, asub, acl, r1, _, h2, h3, h4⟩ := c15_create_request_sound h
  simp only [hne, if_false] at h2
  rw [ht] at h2 ⊢
  exact ⟨sid, ssub, scl, aid, asub, acl, r1, h3, h4, minted_token_resolved hs hm h2⟩

/-! ### histories: chains of exchanges (the presented token is what an earlier exchange handed out) -/

/-- a HISTORY of token exchanges at one provider: `Chain now p t sub n` - `t` is an opaque access token the provider handed out for the
    subject `sub` after `n` exchanges, each of which presented the token the previous one handed out as its subject token -/
inductive Chain (now : Int) (p : TEProvider) : String → String → Nat → Prop
  | mint {id sub t : String} : GenTE.CreateBearerToken now id sub p.Crypto = .ok t → Chain now p t sub 0
  | step {t sub : String} {n : Nat} {rq : TEIn} {c : OPClient} {r : TEReq} {resp : ExchangeResp} :
      Chain now p t sub n → rq.SubjectToken = t → rq.SubjectTokenType = Const.AccessTokenType →
      GenTE.CreateTokenExchangeRequest now rq c p = .ok r →
      p.Storage.ClientAccessTokenType c ≠ TEConst.AccessTokenTypeJWT →
      (r.requestedTokenType = Const.AccessTokenType ∨ r.requestedTokenType = Const.RefreshTokenType) →
      GenTE.CreateTokenExchangeResponse now r c p = .ok resp →
      Chain now p resp.AccessToken r.subject (n + 1)

/-- INVARIANT of every history (by induction over it): each token in the chain is the sealed pair of an id and THE SUBJECT THE STORAGE
    POLICY DECIDED in the exchange that handed it out (for the first one: the subject it was minted for) -/
theorem c15_history_token_is_sealed_subject {now : Int} {p : TEProvider} {t sub : String} {n : Nat} (h : Chain now p t sub n) :
    ∃ id, GenTE.CreateBearerToken now id sub p.Crypto = .ok t := by
  induction h with
  | mint hm => exact ⟨_, hm⟩
  | step _ _ _ hreq hopq hty hresp _ =>
    have hte := (c15_create_request_sound hreq).1
    obtain ⟨id, _, _, h2⟩ := c15_issued_access_token_carries_policy_decision hte hty hresp
    simp only [hopq, if_false] at h2
    exact ⟨id, by rw [createBearerToken_eq]; exact h2⟩

/-- in EVERY history, however long: the exchange that presents the chain's current token asks the storage policy about the subject the
    previous exchange's policy decided (the subject the token was issued for) - or the provider's own parser refused the token and
    the verifier storage's subject policy vouched for it -/
theorem c15_history_policy_subject {now : Int} {p : TEProvider} {t sub : String} {n : Nat} (hs : SealContract p.Crypto)
    (hch : Chain now p t sub n) {rq : TEIn} {c : OPClient} {r : TEReq}
    (htok : rq.SubjectToken = t) (ht : rq.SubjectTokenType = Const.AccessTokenType)
    (h : GenTE.CreateTokenExchangeRequest now rq c p = .ok r) :
    ∃ sid ssub scl aid asub acl r1,
      p.Storage.ValidateTokenExchangeRequest (builtReq now rq c sid ssub scl aid asub acl) = .ok r1 ∧
      p.Storage.CreateTokenExchangeRequest r1 = .ok r ∧
      ((ssub = sub ∧ ':' ∉ sub.toList) ∨
       (p.Storage.is_TokenExchangeTokensVerifierStorage = true ∧
         p.Storage.VerifyExchangeSubjectToken rq.SubjectToken rq.SubjectTokenType = .ok (sid, ssub, scl))) := by
  obtain ⟨id, hm⟩ := c15_history_token_is_sealed_subject hch
  rw [← htok] at hm
  obtain ⟨sid, ssub, scl, aid, asub, acl, r1, h1, h2, h3⟩ := c15_policy_asked_about_minted_subject hs hm ht h
  refine ⟨sid, ssub, scl, aid, asub, acl, r1, h1, h2, ?_⟩
  rcases h3 with ⟨_, hb, _, hd⟩ | ⟨_, hv, hp⟩
  · exact .inl ⟨hb, hd⟩
  · exact .inr ⟨hv, hp⟩

def exSeal : TECrypto :=
  { Encrypt := fun s => .ok ("enc(" ++ s ++ ")"),
    Decrypt := fun t => if Go.hasPrefix t "enc(" && Go.hasSuffix t ")" then .ok (String.ofList ((t.toList.drop 4).dropLast)) else .error "decrypt" }

-- a token for `user1` is read back as minted; one for `corp:user2` is refused by the parser (NOT read as `user2`)
example : GenTE.getTokenIDAndClaims 0 { exProvider with Crypto := exSeal } "enc(at1:user1)" = ("at1", "user1", {}, true) := by decide +kernel
example : GenTE.getTokenIDAndClaims 0 { exProvider with Crypto := exSeal } "enc(at1:corp:user2)" = ("", "", {}, false) := by decide +kernel
example : (GenTE.CreateBearerToken 0 "at1" "corp:user2" exSeal).toOption = some "enc(at1:corp:user2)" := by decide +kernel
example : (GenTE.CreateTokenExchangeRequest 0 { SubjectToken := "enc(at1:user1)", SubjectTokenType := Const.AccessTokenType }
    { id := "te-only" } { exProvider with Crypto := exSeal }).toOption.map (·.exchangeSubject) = some "user1" := by decide +kernel
example : (GenTE.CreateTokenExchangeRequest 0 { SubjectToken := "enc(at1:corp:user2)", SubjectTokenType := Const.AccessTokenType }
    { id := "te-only" } { exProvider with Crypto := exSeal }).toOption.map (·.exchangeSubject) = none := by decide +kernel


/-- WITNESS for F-C15d, for every provider with a sealing crypto, every token id and every subject that contains a colon: the opaque
    access token the provider itself mints for that subject (`CreateBearerToken`, used by every grant) is REFUSED by the provider's own
    parser - the token a successful exchange hands out for such a subject is not usable at the provider -/
theorem c15_colon_subject_token_refused_witness {now : Int} {p : TEProvider} (hs : SealContract p.Crypto) {id sub t : String}
    (hc : ':' ∈ sub.toList) (hm : GenTE.CreateBearerToken now id sub p.Crypto = .ok t) :
    GenTE.getTokenIDAndClaims now p t = ("", "", {}, false) := by
  rw [c15_opaque_roundtrip hs hm]
  simp [hc]

example : SealContract exSeal := by
  intro x t h
  simp only [exSeal, Except.ok.injEq] at h
  subst h
  have h1 : Go.hasPrefix ("enc(" ++ x ++ ")") "enc(" = true := by
    simp [Go.hasPrefix, String.toList_append]
  have h2 : Go.hasSuffix ("enc(" ++ x ++ ")") ")" = true := by
    simp only [Go.hasSuffix, String.toList_append, List.isSuffixOf_iff_suffix]
    exact ⟨("enc(" ++ x).toList, by simp [String.toList_append]⟩
  simp only [exSeal, h1, h2, Bool.and_self, if_true, Except.ok.injEq]
  apply String.toList_inj.1
  simp [String.toList_append]

end C15
