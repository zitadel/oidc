/-
  C04 proofs (function level): what the REGENERATED AuthorizeCodeClient / ValidateAccessTokenRequest /
  LegacyServer.CodeExchange / AuthorizeCodeChallenge / VerifyCodeChallenge compute.

  Two layers (robustness against harmless rewrites of the Go text):
    1. per regenerated function ONE characterisation lemma - an equation with a hand-readable spec function
       (`sc_authorizeCodeClient_eq`, `sc_validateAccessTokenRequest_eq`, `sc_legacyCodeExchange_eq`, `sc_legacyVerifyClient_eq'`)
       or an iff (`authorizeCodeChallenge_iff`, `verifyCodeChallenge_iff`, `validateGrantType_iff`,
       `sc_authorizePrivateJWTKey_iff`); none of the scripts depends on the shape of the regenerated text (`go_leaf` / `go_eq` /
       `go_spec`, or the cases of the spec function);
    2. everything else (`…_ok`: what a successful validation establishes; used by the history proofs) is proved from the
       spec functions, which are hand-written and do not move when the Go text is rearranged.

  The functions that consult the provider's JWTProfileVerifier are regenerated twice: over `Provider` (namespace Gen) and over
  `ScProvider` = a Provider plus the subject check its verifier was built with (`op.SubjectCheck`; namespace GenSC,
  Generated/TokenEndpointSC.lean).  The first are the second at the default check (`sc_*_default`, by rfl), so each fact is
  proved for EVERY check and read off for `Provider`.
-/
import OidcModel.Spec.C04
import OidcModel.Model.Flow
import OidcModel.Generated.TokenEndpointSC
import OidcModel.GoTacEq
set_option linter.unusedSimpArgs false
namespace C04
open Go Gen Hand Flow

/-- the model-level meaning of "authenticated as / identifies as client c" -/
def Authenticated (now : Int) (p : Provider) (req : AccessTokenRequest) (c : OPClient) : Prop :=
  (req.ClientAssertionType = Const.ClientAssertionTypeJWTAssertion ∧ p.pkjwtSupported = true ∧
      p.is_JWTAuthorizationGrantExchanger = true ∧
      ∃ j, VerifyJWTAssertion now req.ClientAssertion p.JWTProfileVerifier = .ok j ∧
        p.store.GetClientByClientID j.iss = .ok c ∧ c.auth = Const.AuthMethodPrivateKeyJWT)
  ∨ (req.ClientAssertionType ≠ Const.ClientAssertionTypeJWTAssertion ∧ p.store.GetClientByClientID req.ClientID = .ok c ∧
      (c.auth = Const.AuthMethodNone ∨
        (c.auth ≠ Const.AuthMethodPrivateKeyJWT ∧ (c.auth = Const.AuthMethodPost → p.postSupported = true) ∧
          p.store.AuthorizeClientIDSecret req.ClientID req.ClientSecret = .ok ())))

/-- credentials authenticate - or, for a public client, identify - client `c` at a provider whose JWTProfileVerifier carries the
    subject check `f` (`FlowObs.AuthAs` is this with `f = none`) -/
def AuthAsSC (now : Int) (p : Provider) (f : Option (Claims → Go.R Unit)) (id secret ty : String) (t : Token) (c : OPClient) : Prop :=
  (ty = Const.ClientAssertionTypeJWTAssertion ∧ p.pkjwtSupported = true ∧ p.is_JWTAuthorizationGrantExchanger = true ∧
      ∃ j, VerifyJWTAssertion now t { p.JWTProfileVerifier with CheckSubject := f } = .ok j ∧
        p.store.GetClientByClientID j.iss = .ok c ∧ c.auth = Const.AuthMethodPrivateKeyJWT)
  ∨ (ty ≠ Const.ClientAssertionTypeJWTAssertion ∧ p.store.GetClientByClientID id = .ok c ∧
      (c.auth = Const.AuthMethodNone ∨
        (c.auth ≠ Const.AuthMethodPrivateKeyJWT ∧ (c.auth = Const.AuthMethodPost → p.postSupported = true) ∧
          p.store.AuthorizeClientIDSecret id secret = .ok ())))

/-! ## With the default check the SC model is the model of Generated/TokenEndpoint.lean -/

theorem sc_authorizePrivateJWTKey_default (now : Int) (t : Token) (p : Provider) :
    GenSC.AuthorizePrivateJWTKey now t ⟨p, none⟩ = Gen.AuthorizePrivateJWTKey now t p := rfl
theorem sc_authorizeCodeClient_default (now : Int) (r : AccessTokenRequest) (p : Provider) :
    GenSC.AuthorizeCodeClient now r ⟨p, none⟩ = Gen.AuthorizeCodeClient now r p := rfl
theorem sc_validateAccessTokenRequest_default (now : Int) (r : AccessTokenRequest) (p : Provider) :
    GenSC.ValidateAccessTokenRequest now r ⟨p, none⟩ = Gen.ValidateAccessTokenRequest now r p := rfl
theorem sc_legacyVerifyClient_default (now : Int) (r : Request ClientCredentials) (p : Provider) :
    GenSC.LegacyVerifyClient now ⟨⟨p, none⟩⟩ r = Gen.LegacyVerifyClient now ⟨p⟩ r := rfl
theorem sc_legacyCodeExchange_default (now : Int) (r : ClientRequest AccessTokenRequest) (p : Provider) :
    GenSC.LegacyCodeExchange now ⟨⟨p, none⟩⟩ r = Gen.LegacyCodeExchange now ⟨p⟩ r := rfl

/-! ## Layer 1: characterisation lemmas -/

/-- PKCE, `oidc.VerifyCodeChallenge`: a challenge exists and equals the verifier - transformed by SHA-256 exactly when the
    method is `S256`; EVERY other method string (`plain`, the empty string of a request that sent a challenge without
    `code_challenge_method`, anything else the storage kept) compares the verifier itself -/
theorem verifyCodeChallenge_iff {now ch v} :
    VerifyCodeChallenge now ch v = true ↔
      ∃ c, ch = some c ∧ c.Challenge = (if c.Method = Const.CodeChallengeMethodS256 then NewSHACodeChallenge now v else v) := by
  unfold VerifyCodeChallenge
  cases ch <;> simp only [Go.isNil, Go.getOpt, Nilable.isNil, Option.isNone, Option.getD] <;> go_leaf

/-- `AuthorizeCodeChallenge`: a non-empty verifier that verifies -/
theorem authorizeCodeChallenge_iff {now v ch} :
    AuthorizeCodeChallenge now v ch = .ok () ↔ v ≠ "" ∧ VerifyCodeChallenge now ch v = true := by
  unfold AuthorizeCodeChallenge
  simp only [Go.ok]
  go_leaf

/-- ... and its two refusals: no verifier - `invalid_request`; a verifier that does not match - `invalid_grant` -/
theorem authorizeCodeChallenge_err {now v ch e} (h : AuthorizeCodeChallenge now v ch = .error e) :
    (v = "" ∧ e = "ErrInvalidRequest") ∨ (v ≠ "" ∧ VerifyCodeChallenge now ch v = false ∧ e = "ErrInvalidGrant") := by
  unfold AuthorizeCodeChallenge at h
  simp only [Go.ok] at h
  revert h
  go_leaf

theorem validateGrantType_iff {now c g} : ValidateGrantType now c g = true ↔ g ∈ c.grants := by
  unfold ValidateGrantType
  simp only [Go.any, OPClient.GrantTypes, Go.isNil]
  go_leaf [Nilable.isNil, Go.contains]

theorem validateGrantType_eq {now c g} : ValidateGrantType now c g = decide (g ∈ c.grants) := by
  have h := validateGrantType_iff (now := now) (c := c) (g := g)
  cases hv : ValidateGrantType now c g <;> simp_all

/-- `AuthorizePrivateJWTKey` under ANY subject check: the assertion verifies (under the verifier that carries the check), the
    client is the one the storage holds under the assertion's ISSUER, and that client's method is private_key_jwt -/
theorem sc_authorizePrivateJWTKey_iff {now t} {sp : ScProvider} {c} : GenSC.AuthorizePrivateJWTKey now t sp = .ok c ↔
    ∃ j, VerifyJWTAssertion now t sp.JWTProfileVerifier = .ok j ∧ sp.base.store.GetClientByClientID j.iss = .ok c ∧
      c.auth = Const.AuthMethodPrivateKeyJWT := by
  unfold GenSC.AuthorizePrivateJWTKey ScProvider.Storage Claims.Issuer OPClient.AuthMethod
  go_leaf

/-- client authentication of the code grant on the Provider router, as a readable function (`hasChallenge`: the
    authorization request carried a PKCE challenge) -/
def authClientSpec (now : Int) (req : AccessTokenRequest) (p : Provider) (hasChallenge : Bool) : Go.R OPClient :=
  if req.ClientAssertionType = Const.ClientAssertionTypeJWTAssertion then
    if p.is_JWTAuthorizationGrantExchanger = true ∧ p.pkjwtSupported = true then AuthorizePrivateJWTKey now req.ClientAssertion p
    else .error "ErrInvalidClient"
  else
    match p.store.GetClientByClientID req.ClientID with
    | .error _ => .error "ErrInvalidClient"
    | .ok c =>
      if c.auth = Const.AuthMethodPrivateKeyJWT then .error "ErrInvalidClient"
      else if c.auth = Const.AuthMethodNone then (if hasChallenge then .ok c else .error "ErrInvalidRequest")
      else if c.auth = Const.AuthMethodPost ∧ p.postSupported = false then .error "ErrInvalidClient"
      else match p.store.AuthorizeClientIDSecret req.ClientID req.ClientSecret with
        | .error _ => .error "ErrInvalidClient"
        | .ok _ => .ok c

/-- ... under a provider whose verifier carries any subject check -/
def authClientSpecSC (now : Int) (req : AccessTokenRequest) (sp : ScProvider) (hasChallenge : Bool) : Go.R OPClient :=
  if req.ClientAssertionType = Const.ClientAssertionTypeJWTAssertion then
    if sp.base.is_JWTAuthorizationGrantExchanger = true ∧ sp.base.pkjwtSupported = true then GenSC.AuthorizePrivateJWTKey now req.ClientAssertion sp
    else .error "ErrInvalidClient"
  else
    match sp.base.store.GetClientByClientID req.ClientID with
    | .error _ => .error "ErrInvalidClient"
    | .ok c =>
      if c.auth = Const.AuthMethodPrivateKeyJWT then .error "ErrInvalidClient"
      else if c.auth = Const.AuthMethodNone then (if hasChallenge then .ok c else .error "ErrInvalidRequest")
      else if c.auth = Const.AuthMethodPost ∧ sp.base.postSupported = false then .error "ErrInvalidClient"
      else match sp.base.store.AuthorizeClientIDSecret req.ClientID req.ClientSecret with
        | .error _ => .error "ErrInvalidClient"
        | .ok _ => .ok c

theorem authClientSpecSC_default (now : Int) (req : AccessTokenRequest) (p : Provider) (hc : Bool) :
    authClientSpecSC now req ⟨p, none⟩ hc = authClientSpec now req p hc := rfl

/-- `AuthorizeCodeClient`, as a readable function: the code resolves; PKCE is verified whenever the request carried a
    challenge - BEFORE and independently of how the client authenticates; then the client authenticates -/
def authorizeCodeClientSpec (now : Int) (req : AccessTokenRequest) (sp : ScProvider) : Go.R (AuthReq × OPClient) :=
  match sp.base.store.AuthRequestByCode req.Code with
  | .error _ => .error "ErrInvalidGrant"
  | .ok a =>
    match (if a.challenge.isSome then AuthorizeCodeChallenge now req.CodeVerifier a.challenge else .ok ()) with
    | .error e => .error e
    | .ok _ =>
      match authClientSpecSC now req sp a.challenge.isSome with
      | .error e => .error e
      | .ok c => .ok (a, c)

/- The equations with the hand-written functions follow the cases of the hand-written side only; in each case `simp_all`
   evaluates the translated body along the hypotheses of the case.  Where the Go text spells a test differently from the
   hand-written side (operands or disjuncts in another order, two method constants compared with each other, the same `match`
   on a callee's answer on both sides) `simp_all` stops at that test, and `go_leaf` splits on it and finishes. -/

theorem sc_authorizeCodeClient_eq {now req sp} : GenSC.AuthorizeCodeClient now req sp = authorizeCodeClientSpec now req sp := by
  unfold authorizeCodeClientSpec
  split
  · simp_all [GenSC.AuthorizeCodeClient, AuthRequestByCode, ScProvider.Storage] <;> go_leaf
  · rename_i a ha
    generalize hpk : (if a.challenge.isSome then AuthorizeCodeChallenge now req.CodeVerifier a.challenge else .ok ()) = q
    cases q with
    | error e =>
      cases hch : a.challenge <;>
        simp_all [GenSC.AuthorizeCodeClient, AuthRequestByCode, ScProvider.Storage, AuthReq.GetCodeChallenge, Go.notNil, Nilable.isNil] <;>
        go_leaf
    | ok u =>
      generalize hcl : authClientSpecSC now req sp a.challenge.isSome = r
      unfold authClientSpecSC at hcl
      cases hch : a.challenge <;> (repeat' split at hcl) <;> subst hcl <;>
        simp_all [GenSC.AuthorizeCodeClient, AuthRequestByCode, AuthorizeClientIDSecret, ScProvider.Storage, AuthReq.GetCodeChallenge,
          ScProvider.is_JWTAuthorizationGrantExchanger, ScProvider.AuthMethodPrivateKeyJWTSupported, ScProvider.AuthMethodPostSupported,
          OPClient.AuthMethod, Go.notNil, Go.isNil, Go.ok, Nilable.isNil] <;>
        go_leaf [Const.AuthMethodNone, Const.AuthMethodPrivateKeyJWT, Const.AuthMethodPost]

theorem authorizeCodeClient_eq {now req p} : AuthorizeCodeClient now req p = authorizeCodeClientSpec now req ⟨p, none⟩ :=
  sc_authorizeCodeClient_eq (sp := ⟨p, none⟩)

/-- `ValidateAccessTokenRequest`, as a readable function of what `AuthorizeCodeClient` answered -/
def validateAccessTokenRequestSpec (req : AccessTokenRequest) : Go.R (AuthReq × OPClient) → Go.R (AuthReq × OPClient)
  | .error e => .error e
  | .ok (a, c) =>
    if c.id ≠ a.clientID then .error "ErrInvalidGrant"
    else if Const.GrantTypeCode ∉ c.grants then .error "ErrUnauthorizedClient"
    else if req.RedirectURI ≠ a.redirectURI then .error "ErrInvalidGrant"
    else .ok (a, c)

theorem sc_validateAccessTokenRequest_eq {now req sp} :
    GenSC.ValidateAccessTokenRequest now req sp = validateAccessTokenRequestSpec req (GenSC.AuthorizeCodeClient now req sp) := by
  unfold GenSC.ValidateAccessTokenRequest validateAccessTokenRequestSpec
  simp only [OPClient.GetID, AuthReq.GetClientID, AuthReq.GetRedirectURI]
  go_eq [validateGrantType_eq]

theorem validateAccessTokenRequest_eq {now req p} :
    ValidateAccessTokenRequest now req p = validateAccessTokenRequestSpec req (AuthorizeCodeClient now req p) :=
  sc_validateAccessTokenRequest_eq (sp := ⟨p, none⟩)

/-- `LegacyServer.CodeExchange` (the client was authenticated by `withClient` before), as a readable function of the storage, the
    client and the three parameters of the request it reads: code, redirect_uri, code_verifier -/
def legacyCodeExchangeSpec (now : Int) (st : Store) (client : OPClient) (code redirectURI verifier : String) : Go.R IssueFor :=
  match st.AuthRequestByCode code with
  | .error _ => .error "ErrInvalidGrant"
  | .ok a =>
    if client.id ≠ a.clientID then .error "ErrInvalidGrant"
    else
      match (if client.auth = Const.AuthMethodNone ∨ a.challenge.isSome ∨ verifier ≠ ""
             then AuthorizeCodeChallenge now verifier a.challenge else .ok ()) with
      | .error e => .error e
      | .ok _ =>
        if redirectURI ≠ a.redirectURI then .error "ErrInvalidGrant"
        else .ok (.code a client code)

theorem sc_legacyCodeExchange_eq {now s r} : GenSC.LegacyCodeExchange now s r =
    legacyCodeExchangeSpec now s.provider.base.store r.Client r.Data.Code r.Data.RedirectURI r.Data.CodeVerifier := by
  unfold legacyCodeExchangeSpec
  split
  · simp_all [GenSC.LegacyCodeExchange, AuthRequestByCode, ScProvider.Storage] <;> go_leaf
  · rename_i a ha
    split
    · simp_all [GenSC.LegacyCodeExchange, AuthRequestByCode, ScProvider.Storage, OPClient.GetID, AuthReq.GetClientID] <;> go_leaf
    cases hch : a.challenge <;>
      by_cases hdue : r.Client.auth = Const.AuthMethodNone ∨ a.challenge.isSome ∨ r.Data.CodeVerifier ≠ "" <;>
      cases hpk : AuthorizeCodeChallenge now r.Data.CodeVerifier a.challenge <;> (repeat' split) <;>
      simp_all [GenSC.LegacyCodeExchange, AuthRequestByCode, issueForCodeSC, NewResponse, ScProvider.Storage, OPClient.GetID, AuthReq.GetClientID,
        AuthReq.GetRedirectURI, AuthReq.GetCodeChallenge, OPClient.AuthMethod, Go.notNil, Go.isNil, Nilable.isNil] <;>
      go_leaf

theorem legacyCodeExchange_eq {now s r} : LegacyCodeExchange now s r =
    legacyCodeExchangeSpec now s.provider.store r.Client r.Data.Code r.Data.RedirectURI r.Data.CodeVerifier :=
  sc_legacyCodeExchange_eq (s := ⟨⟨s.provider, none⟩⟩)

/-- the credentials of a `ClientCredentials` record as the code-grant request that carries them (for `authClientSpec`) -/
def ccAsReq (cc : ClientCredentials) : AccessTokenRequest :=
  { ClientID := cc.ClientID, ClientSecret := cc.ClientSecret, ClientAssertionType := cc.ClientAssertionType, ClientAssertion := cc.ClientAssertion }

/-- `LegacyServer.VerifyClient`, as a readable function: the client_credentials grant goes to the storage; every other grant
    authenticates exactly as the Provider router's `AuthorizeCodeClient` does (`authClientSpec`, without the PKCE
    requirement for public clients, which `LegacyServer.CodeExchange` imposes itself) -/
theorem sc_legacyVerifyClient_eq' {now : Int} {sp : ScProvider} {F : FormVals} {cc : ClientCredentials} :
    GenSC.LegacyVerifyClient now ⟨sp⟩ { Form := F, Data := cc } =
      if F.Get "grant_type" = Const.GrantTypeClientCredentials then
        (if sp.base.store.is_ClientCredentialsStorage = true then sp.base.store.ClientCredentials cc.ClientID cc.ClientSecret else .error "ErrUnsupportedGrantType")
      else authClientSpecSC now (ccAsReq cc) sp true := by
  unfold authClientSpecSC ccAsReq
  go_spec [GenSC.LegacyVerifyClient, AuthorizeClientIDSecret, ScProvider.Storage, ScProvider.AuthMethodPrivateKeyJWTSupported,
    ScProvider.AuthMethodPostSupported, ScProvider.is_JWTAuthorizationGrantExchanger, OPClient.AuthMethod, Go.ok, Const.AuthMethodNone,
    Const.AuthMethodPrivateKeyJWT, Const.AuthMethodPost]

/-! ## Layer 2: consequences, proved from the spec functions only -/

theorem authorizeCodeChallenge_ok {now v ch} (h : AuthorizeCodeChallenge now v ch = .ok ()) :
    v ≠ "" ∧ VerifyCodeChallenge now ch v = true := authorizeCodeChallenge_iff.1 h

theorem isNil_eq_not {α : Type} (x : Option α) : Go.isNil x = !Go.notNil x := by
  cases x <;> rfl

theorem match_arbc {s : Store} {code : String} {a : AuthReq}
    (h : (match s.AuthRequestByCode code with | .error _ => (.error "ErrInvalidGrant" : Go.R AuthReq) | .ok x => .ok x) = .ok a) :
    s.AuthRequestByCode code = .ok a := by
  split at h <;> simp_all

theorem match_secret {s : Store} {id sec : String} {u : Unit}
    (h : (match s.AuthorizeClientIDSecret id sec with | .error _ => (.error "ErrInvalidClient" : Go.R Unit) | .ok _ => Go.ok) = .ok u) :
    s.AuthorizeClientIDSecret id sec = .ok () := by
  split at h <;> simp_all

theorem authorizePrivateJWTKey_ok {now : Int} {t : Token} {p : Provider} {c : OPClient} (h : AuthorizePrivateJWTKey now t p = .ok c) :
    ∃ j, VerifyJWTAssertion now t p.JWTProfileVerifier = .ok j ∧ p.store.GetClientByClientID j.iss = .ok c ∧ c.auth = Const.AuthMethodPrivateKeyJWT :=
  (sc_authorizePrivateJWTKey_iff (sp := ⟨p, none⟩)).1 h

theorem authClientSpecSC_ok {now req p f hc c} (h : authClientSpecSC now req ⟨p, f⟩ hc = .ok c) :
    AuthAsSC now p f req.ClientID req.ClientSecret req.ClientAssertionType req.ClientAssertion c ∧ (c.auth = Const.AuthMethodNone → hc = true) := by
  unfold authClientSpecSC at h
  by_cases hty : req.ClientAssertionType = Const.ClientAssertionTypeJWTAssertion
  · simp only [hty, if_true] at h
    split at h
    · rename_i hcfg
      obtain ⟨j, hj, hget, hauth⟩ := sc_authorizePrivateJWTKey_iff.1 h
      refine ⟨Or.inl ⟨hty, hcfg.2, hcfg.1, j, hj, hget, hauth⟩, ?_⟩
      intro hn; rw [hn] at hauth; exact absurd hauth (by decide)
    · simp at h
  · simp only [hty, if_false] at h
    split at h
    · simp at h
    · rename_i c' hget
      split at h
      · simp at h
      · rename_i hnpk
        split at h
        · rename_i hnone
          split at h
          · rename_i hch
            simp only [Except.ok.injEq] at h; subst h
            exact ⟨Or.inr ⟨hty, hget, Or.inl hnone⟩, fun _ => hch⟩
          · simp at h
        · rename_i hnn
          split at h
          · simp at h
          · rename_i hpost
            split at h
            · simp at h
            · rename_i u hsec
              simp only [Except.ok.injEq] at h; subst h
              refine ⟨Or.inr ⟨hty, hget, Or.inr ⟨hnpk, ?_, by cases u; exact hsec⟩⟩, fun hn => absurd hn hnn⟩
              intro hp
              cases hps : p.postSupported
              · exact absurd ⟨hp, hps⟩ hpost
              · rfl

theorem authClientSpec_ok {now req p hc c} (h : authClientSpec now req p hc = .ok c) :
    Authenticated now p req c ∧ (c.auth = Const.AuthMethodNone → hc = true) :=
  authClientSpecSC_ok (f := none) h

theorem sc_authorizeCodeClient_ok {now req p f a c} (h : GenSC.AuthorizeCodeClient now req ⟨p, f⟩ = .ok (a, c)) :
    p.store.AuthRequestByCode req.Code = .ok a ∧
    (a.challenge ≠ none → req.CodeVerifier ≠ "" ∧ VerifyCodeChallenge now a.challenge req.CodeVerifier = true) ∧
    (c.auth = Const.AuthMethodNone → a.challenge ≠ none) ∧
    AuthAsSC now p f req.ClientID req.ClientSecret req.ClientAssertionType req.ClientAssertion c := by
  rw [sc_authorizeCodeClient_eq] at h
  unfold authorizeCodeClientSpec at h
  split at h
  · simp at h
  · rename_i a' hcode
    split at h
    · simp at h
    · rename_i u hpk
      split at h
      · simp at h
      · rename_i c' hcl
        simp only [Except.ok.injEq, Prod.mk.injEq] at h
        obtain ⟨rfl, rfl⟩ := h
        obtain ⟨hauth, hnone⟩ := authClientSpecSC_ok hcl
        refine ⟨hcode, ?_, ?_, hauth⟩
        · intro hne
          have hs : a'.challenge.isSome = true := by cases hch : a'.challenge <;> simp_all
          simp only [hs, if_true] at hpk
          cases u; exact authorizeCodeChallenge_iff.1 hpk
        · intro hn hch
          have := hnone hn
          simp [hch] at this

theorem authorizeCodeClient_ok {now req p a c} (h : AuthorizeCodeClient now req p = .ok (a, c)) :
    p.store.AuthRequestByCode req.Code = .ok a ∧
    (a.challenge ≠ none → req.CodeVerifier ≠ "" ∧ VerifyCodeChallenge now a.challenge req.CodeVerifier = true) ∧
    (c.auth = Const.AuthMethodNone → a.challenge ≠ none) ∧
    Authenticated now p req c :=
  sc_authorizeCodeClient_ok (f := none) h

/-- what a successful validation of a code-grant request establishes (Provider router, EVERY subject check) -/
theorem sc_validateAccessTokenRequest_ok {now req p f a c} (h : GenSC.ValidateAccessTokenRequest now req ⟨p, f⟩ = .ok (a, c)) :
    p.store.AuthRequestByCode req.Code = .ok a ∧ c.id = a.clientID ∧ Const.GrantTypeCode ∈ c.grants ∧
    req.RedirectURI = a.redirectURI ∧
    (a.challenge ≠ none → req.CodeVerifier ≠ "" ∧ VerifyCodeChallenge now a.challenge req.CodeVerifier = true) ∧
    (c.auth = Const.AuthMethodNone → a.challenge ≠ none) ∧
    AuthAsSC now p f req.ClientID req.ClientSecret req.ClientAssertionType req.ClientAssertion c := by
  rw [sc_validateAccessTokenRequest_eq] at h
  unfold validateAccessTokenRequestSpec at h
  split at h
  · simp at h
  · rename_i a' c' hacc
    split at h; · simp at h
    rename_i hid
    split at h; · simp at h
    rename_i hgrant
    split at h; · simp at h
    rename_i hred
    simp only [Except.ok.injEq, Prod.mk.injEq] at h
    obtain ⟨rfl, rfl⟩ := h
    obtain ⟨h1, h2, h3, h4⟩ := sc_authorizeCodeClient_ok hacc
    exact ⟨h1, by simpa using hid, by simpa using hgrant, by simpa using hred, h2, h3, h4⟩

theorem validateAccessTokenRequest_ok {now req p a c} (h : ValidateAccessTokenRequest now req p = .ok (a, c)) :
    p.store.AuthRequestByCode req.Code = .ok a ∧ c.id = a.clientID ∧ Const.GrantTypeCode ∈ c.grants ∧
    req.RedirectURI = a.redirectURI ∧
    (a.challenge ≠ none → req.CodeVerifier ≠ "" ∧ VerifyCodeChallenge now a.challenge req.CodeVerifier = true) ∧
    (c.auth = Const.AuthMethodNone → a.challenge ≠ none) ∧ Authenticated now p req c :=
  sc_validateAccessTokenRequest_ok (f := none) h

/-- the same for the LegacyServer's own code-exchange path (client already verified by withClient) -/
theorem legacyCodeExchangeSpec_ok {now st client code redirectURI verifier i}
    (h : legacyCodeExchangeSpec now st client code redirectURI verifier = .ok i) :
    ∃ a, i = .code a client code ∧ st.AuthRequestByCode code = .ok a ∧ client.id = a.clientID ∧ redirectURI = a.redirectURI ∧
      (a.challenge ≠ none → verifier ≠ "" ∧ VerifyCodeChallenge now a.challenge verifier = true) ∧
      (client.auth = Const.AuthMethodNone → a.challenge ≠ none) := by
  unfold legacyCodeExchangeSpec at h
  split at h
  · simp at h
  · rename_i a hcode
    split at h; · simp at h
    rename_i hid
    split at h
    · simp at h
    · rename_i u hpk
      split at h; · simp at h
      rename_i hred
      simp only [Except.ok.injEq] at h
      refine ⟨a, h.symm, hcode, by simpa using hid, by simpa using hred, ?_, ?_⟩
      · intro hne
        have hs : a.challenge.isSome = true := by cases hch : a.challenge <;> simp_all
        simp only [hs, true_or, or_true, if_true] at hpk
        cases u; exact authorizeCodeChallenge_iff.1 hpk
      · intro hn hch
        simp only [hn, true_or, if_true] at hpk
        cases u
        have := (authorizeCodeChallenge_iff.1 hpk).2
        rw [hch] at this
        obtain ⟨c, hc, _⟩ := verifyCodeChallenge_iff.1 this
        simp at hc

theorem sc_legacyCodeExchange_ok {now} {s : ScLegacyServer} {r i} (h : GenSC.LegacyCodeExchange now s r = .ok i) :
    ∃ a, i = .code a r.Client r.Data.Code ∧ s.provider.base.store.AuthRequestByCode r.Data.Code = .ok a ∧
      r.Client.id = a.clientID ∧ r.Data.RedirectURI = a.redirectURI ∧
      (a.challenge ≠ none → r.Data.CodeVerifier ≠ "" ∧ VerifyCodeChallenge now a.challenge r.Data.CodeVerifier = true) ∧
      (r.Client.auth = Const.AuthMethodNone → a.challenge ≠ none) :=
  legacyCodeExchangeSpec_ok (sc_legacyCodeExchange_eq ▸ h)

theorem legacyCodeExchange_ok {now s r i} (h : LegacyCodeExchange now s r = .ok i) :
    ∃ a, i = .code a r.Client r.Data.Code ∧ s.provider.store.AuthRequestByCode r.Data.Code = .ok a ∧
      r.Client.id = a.clientID ∧ r.Data.RedirectURI = a.redirectURI ∧
      (a.challenge ≠ none → r.Data.CodeVerifier ≠ "" ∧ VerifyCodeChallenge now a.challenge r.Data.CodeVerifier = true) ∧
      (r.Client.auth = Const.AuthMethodNone → a.challenge ≠ none) :=
  sc_legacyCodeExchange_ok (s := ⟨⟨s.provider, none⟩⟩) h

/-! ## Completeness and the refusals (from the spec functions): nothing but the listed conditions is demanded -/

/-- Provider router, completeness: a code that resolves, a caller that authenticates as the request's client (registered for
    the code grant), the request's redirect_uri byte for byte, and - iff the request carried a challenge - a non-empty
    verifier that verifies: the exchange is let through, for exactly this request and client -/
theorem validateAccessTokenRequest_complete {now req p a c}
    (hcode : p.store.AuthRequestByCode req.Code = .ok a)
    (hpk : a.challenge = none ∨ (req.CodeVerifier ≠ "" ∧ VerifyCodeChallenge now a.challenge req.CodeVerifier = true))
    (hcl : authClientSpec now req p a.challenge.isSome = .ok c)
    (hid : c.id = a.clientID) (hgrant : Const.GrantTypeCode ∈ c.grants) (hred : req.RedirectURI = a.redirectURI) :
    ValidateAccessTokenRequest now req p = .ok (a, c) := by
  have hpkce : (if a.challenge.isSome then AuthorizeCodeChallenge now req.CodeVerifier a.challenge else .ok ()) = .ok () := by
    rcases hpk with hnone | h
    · simp [hnone]
    · simp [authorizeCodeChallenge_iff.2 h]
  have hacc : AuthorizeCodeClient now req p = .ok (a, c) := by
    rw [authorizeCodeClient_eq]
    simp only [authorizeCodeClientSpec, hcode, hpkce, authClientSpecSC_default, hcl]
  rw [validateAccessTokenRequest_eq, hacc]
  simp [validateAccessTokenRequestSpec, hid, hgrant, hred]

/-- redirect_uri is compared as a string, byte for byte: once the client is authenticated, is the code's client and may use the
    grant, ANY other string (a trailing slash, another case of scheme or host, a percent-encoded spelling of the same path, an
    added query) in the token request refuses the exchange with `invalid_grant` - on the Provider router ... -/
theorem validateAccessTokenRequest_redirect_exact {now req p a c} (hacc : AuthorizeCodeClient now req p = .ok (a, c))
    (hid : c.id = a.clientID) (hgrant : Const.GrantTypeCode ∈ c.grants) (hred : req.RedirectURI ≠ a.redirectURI) :
    ValidateAccessTokenRequest now req p = .error "ErrInvalidGrant" := by
  rw [validateAccessTokenRequest_eq, hacc]
  simp [validateAccessTokenRequestSpec, hid, hgrant, hred]

/-- ... and on the Server router: for a code that resolves, some error -/
theorem legacyCodeExchange_redirect_exact {now s r a} (hcode : s.provider.store.AuthRequestByCode r.Data.Code = .ok a)
    (hred : r.Data.RedirectURI ≠ a.redirectURI) : ∃ e, LegacyCodeExchange now s r = .error e := by
  rw [legacyCodeExchange_eq]
  unfold legacyCodeExchangeSpec
  rw [hcode]
  simp only [hred]
  split
  · exact ⟨_, rfl⟩
  · split
    · exact ⟨_, rfl⟩
    · simp

example : ("https://rp.example/cb/" : String) ≠ "https://rp.example/cb" ∧ ("HTTPS://rp.example/cb" : String) ≠ "https://rp.example/cb" ∧
    ("https://rp.example/c%62" : String) ≠ "https://rp.example/cb" ∧ ("https://RP.example/cb" : String) ≠ "https://rp.example/cb" := by decide +kernel

/-! ## PKCE edge cases, from `verifyCodeChallenge_iff` -/

/-- a `plain` challenge - or a challenge whose method is the empty string (request sent `code_challenge` without
    `code_challenge_method`) or any string other than `S256` - is verified by the verifier itself -/
theorem pkce_plain {now : Int} {ch : CodeChallenge} {v : String} (hm : ch.Method ≠ Const.CodeChallengeMethodS256) :
    VerifyCodeChallenge now (some ch) v = true ↔ ch.Challenge = v := by
  rw [verifyCodeChallenge_iff]
  constructor
  · rintro ⟨c, hc, h⟩
    cases hc
    simpa [hm] using h
  · intro h
    exact ⟨ch, rfl, by simp [hm, h]⟩

/-- an `S256` challenge is verified by exactly the verifiers whose SHA-256 transform it is (symbolic hash: injective) -/
theorem pkce_s256 {now : Int} {ch : CodeChallenge} {v : String} (hm : ch.Method = Const.CodeChallengeMethodS256) :
    VerifyCodeChallenge now (some ch) v = true ↔ ch.Challenge = NewSHACodeChallenge now v := by
  rw [verifyCodeChallenge_iff]
  constructor
  · rintro ⟨c, hc, h⟩
    cases hc
    simpa [hm] using h
  · intro h
    exact ⟨ch, rfl, by simp [hm, h]⟩

/-- the EMPTY verifier is refused (`invalid_request`) whatever the challenge, even an empty `plain` one -/
theorem pkce_empty_verifier {now : Int} {ch : Option CodeChallenge} : AuthorizeCodeChallenge now "" ch = .error "ErrInvalidRequest" := by
  cases h : AuthorizeCodeChallenge now "" ch with
  | ok u => cases u; exact absurd rfl (authorizeCodeChallenge_iff.1 h).1
  | error e =>
    rcases authorizeCodeChallenge_err h with ⟨_, he⟩ | ⟨hne, _⟩
    · rw [he]
    · exact absurd rfl hne

/-- a request WITHOUT a challenge: no verifier verifies against it (the Server router, which calls `VerifyCodeChallenge` whenever
    a verifier is sent, refuses; the Provider router looks at PKCE only when the request carried a challenge,
    `authorizeCodeClientSpec`) -/
theorem pkce_no_challenge {now : Int} {v : String} : VerifyCodeChallenge now none v = false := by
  cases h : VerifyCodeChallenge now none v
  · rfl
  · obtain ⟨c, hc, _⟩ := verifyCodeChallenge_iff.1 h
    cases hc

example : VerifyCodeChallenge 0 (some { Challenge := "v", Method := "" }) "v" = true := by decide +kernel
example : VerifyCodeChallenge 0 (some { Challenge := "v", Method := "plain" }) "V" = false := by decide +kernel
example : VerifyCodeChallenge 0 (some { Challenge := "S256(v)", Method := "S256" }) "v" = true := by decide +kernel
example : VerifyCodeChallenge 0 (some { Challenge := "S256(v)", Method := "s256" }) "v" = false := by decide +kernel
example : AuthorizeCodeChallenge 0 "" (some { Challenge := "", Method := "plain" }) = .error "ErrInvalidRequest" := pkce_empty_verifier

end C04
