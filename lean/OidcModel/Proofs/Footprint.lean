/-
  Generic theorems of the footprint model (Model/Footprint.lean), for ANY fact record `F`.  The per-instance resolution of a write
  site stays, on shared cells, inside the instance-independent over-approximation `siteAny`; hence a program changes no shared cell
  outside `hidden F` (frame).  A step writes only `own` cells of the instance it acts on, and a variable captured inside shared
  value `k` is written only by steps on holders of `k` (isolation).  In the interleaving machine, goroutines whose accesses obey
  the lock assignment (`segOK`) never reach a race, for all thread pools and all schedules; `disciplined F` (a decidable check of
  the fact lists) makes every step's accesses obey the lock assignment derived from the facts.
-/
import OidcModel.Model.Footprint
namespace Footprint

/-! ## resolution ⊆ over-approximation -/

theorem prov_sub (F : Facts) (i : Inst) (s : WriteSite) (t f : String) (a : AliasInit)
    (h : a ∈ prov F i s t f) : a ∈ aliasesFor F s t f := by
  unfold prov at h
  simp only at h
  split at h
  · exact (List.mem_filter.mp h).1
  · exact (List.mem_filter.mp h).1

theorem aliasCell_own_or (rest : List String) (o : Cell) (r : Root) :
    aliasCell rest o r = o ∨ (aliasCell rest o r).shared = true := by
  cases r <;> simp [aliasCell, Cell.shared]

theorem aliasCell_shared_indep (rest : List String) (o o' : Cell) (r : Root)
    (h : (aliasCell rest o r).shared = true) (ho : o.shared = false) : aliasCell rest o r = aliasCell rest o' r := by
  cases r <;> simp [aliasCell] at h ⊢ <;> rw [ho] at h <;> exact Bool.noConfusion h

theorem fieldCells_sub (F : Facts) (i : Inst) (s : WriteSite) (t : String) (p : List String) (c : Cell)
    (h : c ∈ fieldCells F i s t p) (hs : c.shared = true) : c ∈ fieldAny F s t p := by
  match p, h with
  | [], h => simp [fieldCells] at h
  | [f], h =>
    simp only [fieldCells, List.mem_singleton] at h
    subst h; simp [Cell.shared] at hs
  | f :: r :: rest, h =>
    simp only [fieldCells] at h
    split at h
    · simp only [List.mem_singleton] at h
      subst h; simp [Cell.shared] at hs
    · obtain ⟨a, ha, rfl⟩ := List.mem_map.mp h
      simp only [fieldAny, List.mem_filter, List.mem_map]
      exact ⟨⟨a, prov_sub F i s t f a ha, (aliasCell_shared_indep _ _ _ _ hs rfl).symm⟩, hs⟩

theorem typedCells_sub (F : Facts) (i : Inst) (s : WriteSite) (t : String) (c : Cell)
    (h : c ∈ typedCells F i s t) (hs : c.shared = true) : c ∈ typedAny F s t := by
  unfold typedCells at h
  unfold typedAny
  split at h
  · rename_i hi
    simp only [hi, if_true]
    rcases List.mem_append.mp h with h1 | h2
    · exact List.mem_append.mpr (Or.inl (fieldCells_sub F i s t _ c h1 hs))
    · split at h2
      · rename_i ha
        simp only [ha, if_true]
        exact List.mem_append.mpr (Or.inr (fieldCells_sub F i s t _ c h2 hs))
      · simp at h2
  · rename_i hi
    simp only [hi]
    exact h

/-- a shared cell that a site resolves to for a concrete instance is, up to the identity of the closure value
    (`Cell.norm`), one of the cells of the instance-independent description `siteAny` -/
theorem siteCells_sub (F : Facts) (i : Inst) (s : WriteSite) (c : Cell)
    (h : c ∈ siteCells F i s) (hs : c.shared = true) : c.norm ∈ (siteAny F s).map Cell.norm := by
  have lift : c ∈ siteAny F s → c.norm ∈ (siteAny F s).map Cell.norm := fun hm => List.mem_map.mpr ⟨c, hm, rfl⟩
  apply (fun (hx : c ∈ siteAny F s ∨ c.norm ∈ (siteAny F s).map Cell.norm) => hx.elim lift id)
  unfold siteCells at h
  unfold siteAny
  split at h
  · -- closure-captured variable
    rename_i o v d
    right
    unfold capturedCells at h
    split at h
    · rename_i hf
      simp only [Bool.and_eq_true] at hf
      obtain ⟨k, _, rfl⟩ := List.mem_map.mp h
      simp [hf.1, Cell.norm]
    · simp only [List.mem_singleton] at h
      subst h; simp [Cell.shared] at hs
  · exact Or.inl h
  · exact Or.inl (typedCells_sub F i s _ c h hs)
  · exact Or.inl (typedCells_sub F i s _ c h hs)
  · exact Or.inl (typedCells_sub F i s _ c h hs)
  · rename_i b m
    left
    split at h
    · rename_i g hg
      have hg1 := List.find?_some hg
      have hg2 := List.mem_of_find?_eq_some hg
      simp only [Bool.and_eq_true, beq_iff_eq] at hg1
      have := fieldCells_sub F i s i.ty (g.field :: s.path) c h hs
      rw [← hg1.1] at this
      refine List.mem_cons_of_mem _ ?_
      refine List.mem_flatMap.mpr ⟨g, ?_, this⟩
      exact List.mem_filter.mpr ⟨hg2, by simp [hg1.2]⟩
    · simp only [List.mem_singleton] at h
      subst h
      exact List.mem_cons_self

theorem stepCells_site {F : Facts} {st : Step} {c : Cell} (h : c ∈ stepCells F st) :
    ∃ s ∈ F.sites, active F st s = true ∧ c ∈ siteCells F st.inst s := by
  obtain ⟨s, hs, hc⟩ := List.mem_flatMap.mp h
  exact ⟨s, (List.mem_filter.mp hs).1, (List.mem_filter.mp hs).2, hc⟩

theorem hidden_of_site {F : Facts} {i : Inst} {s : WriteSite} {c : Cell} (hs : s ∈ F.sites) (hc : c ∈ siteCells F i s)
    (hsh : c.shared = true) : (s.fn, c.norm) ∈ hidden F := by
  obtain ⟨c', hc', hn⟩ := List.mem_map.mp (siteCells_sub F i s c hc hsh)
  exact List.mem_flatMap.mpr ⟨s, hs, List.mem_map.mpr ⟨c', hc', by rw [hn]⟩⟩

theorem stepCells_hidden (F : Facts) (st : Step) (c : Cell) (h : c ∈ stepCells F st) (hs : c.shared = true) :
    c.norm ∈ (hidden F).map Prod.snd := by
  obtain ⟨s, hsF, _, hc⟩ := stepCells_site h
  exact List.mem_map.mpr ⟨_, hidden_of_site hsF hc hs, rfl⟩

theorem run_frame (F : Facts) (prog : List Step) (m m' : Mem) (h : RunRel F prog m m') (c : Cell)
    (hc : ∀ st ∈ prog, c ∉ stepCells F st) : m' c = m c := by
  induction h with
  | nil => rfl
  | cons hstep _ ih =>
    rw [ih (fun st hst => hc st (List.mem_cons_of_mem _ hst))]
    exact hstep c (hc _ List.mem_cons_self)

/-- after ANY program every shared cell that is not in `hidden F` (captured cells: whatever value they live in) has its
    initial value -/
theorem run_shared_frame (F : Facts) (prog : List Step) (m m' : Mem) (h : RunRel F prog m m') (c : Cell)
    (hs : c.shared = true) (hc : c.norm ∉ (hidden F).map Prod.snd) : m' c = m c :=
  run_frame F prog m m' h c (fun st _ hmem => hc (stepCells_hidden F st c hmem hs))

/-! ## isolation: a step writes only `own` cells of its own instance -/

/-- what field resolution can yield for instance `n`: a field of `n`, or a package-level / caller-supplied cell - never a field of
    another instance, never a closure-captured variable -/
def Cell.plainFor (n : Nat) : Cell → Prop
  | .own j _ _ => j = n
  | .captured .. => False
  | _ => True

theorem fieldCells_plain (F : Facts) (i : Inst) (s : WriteSite) (t : String) (p : List String) (c : Cell)
    (h : c ∈ fieldCells F i s t p) : c.plainFor i.id := by
  match p, h with
  | [], h => simp [fieldCells] at h
  | [f], h => simp only [fieldCells, List.mem_singleton] at h; rw [h]; rfl
  | f :: r :: rest, h =>
    simp only [fieldCells] at h
    split at h
    · rw [List.mem_singleton.mp h]; rfl
    · obtain ⟨a, _, rfl⟩ := List.mem_map.mp h
      cases a.src <;> simp [aliasCell, Cell.plainFor]

theorem typedCells_plain (F : Facts) (i : Inst) (s : WriteSite) (t : String) (c : Cell)
    (h : c ∈ typedCells F i s t) : c.plainFor i.id := by
  unfold typedCells at h
  split at h
  · rcases List.mem_append.mp h with h1 | h2
    · exact fieldCells_plain F i s t _ c h1
    · split at h2
      · exact fieldCells_plain F i s t _ c h2
      · simp at h2
  · rw [List.mem_singleton.mp h]; trivial

theorem siteCells_own (F : Facts) (i : Inst) (s : WriteSite) (j : Nat) (t' f' : String)
    (h : Cell.own j t' f' ∈ siteCells F i s) : j = i.id := by
  unfold siteCells at h
  split at h
  · unfold capturedCells at h
    split at h
    · simp at h
    · simp only [List.mem_singleton, Cell.own.injEq] at h
      exact h.1
  · simp at h
  · exact typedCells_plain F i s _ _ h
  · exact typedCells_plain F i s _ _ h
  · exact typedCells_plain F i s _ _ h
  · split at h
    · exact fieldCells_plain F i s _ _ _ h
    · simp at h

theorem own_cells_of_step (F : Facts) (st : Step) (m m' : Mem) (h : StepRel F st m m') (j : Nat) (t f : String)
    (hj : j ≠ st.inst.id) : m' (.own j t f) = m (.own j t f) := by
  apply h
  intro hmem
  obtain ⟨s, _, _, hc⟩ := stepCells_site hmem
  exact hj (siteCells_own F st.inst s j t f hc)

/-! ## closure-captured cells: a captured cell of value `k` is written only by steps on instances that hold value `k` -/

theorem siteCells_captured (F : Facts) (i : Inst) (s : WriteSite) (k : Nat) (o v : String) (p : List String)
    (h : Cell.captured k o v p ∈ siteCells F i s) : k ∈ i.vals.map Prod.snd := by
  unfold siteCells at h
  split at h
  · unfold capturedCells at h
    split at h
    · obtain ⟨k', hk', hc⟩ := List.mem_map.mp h
      simp only [Cell.captured.injEq] at hc
      rw [← hc.1]
      unfold valsOf at hk'
      obtain ⟨q, hq, rfl⟩ := List.mem_map.mp hk'
      exact List.mem_map.mpr ⟨q, (List.mem_filter.mp hq).1, rfl⟩
    · simp at h
  · simp at h
  · exact (typedCells_plain F i s _ _ h).elim
  · exact (typedCells_plain F i s _ _ h).elim
  · exact (typedCells_plain F i s _ _ h).elim
  · split at h
    · exact (fieldCells_plain F i s _ _ _ h).elim
    · simp at h

/-- a variable captured per construction (variable of a constructor's activation, or of a function literal) is a cell of
    the instance for which the closure was created … -/
theorem capturedCells_owned (F : Facts) (i : Inst) (s : WriteSite) (o v : String) (d : Nat) (h : factoryLevel F o d = false) :
    capturedCells F i s o v d = [.own i.id ("closure:" ++ o) v] := by
  simp [capturedCells, h]

/-- … and so is a variable captured at factory level when the instance shares no value of that factory with anybody -/
theorem capturedCells_unshared (F : Facts) (i : Inst) (s : WriteSite) (o v : String) (d : Nat) (h : valsOf F i o = []) :
    capturedCells F i s o v d = [.own i.id ("closure:" ++ o) v] := by
  simp [capturedCells, h]

/-- a variable captured at factory level lives in the value: one cell per shared value the instance was handed -/
theorem capturedCells_shared (F : Facts) (i : Inst) (s : WriteSite) (o v : String) (d : Nat) (h : factoryLevel F o d = true)
    (hv : valsOf F i o ≠ []) : capturedCells F i s o v d = (valsOf F i o).map fun k => .captured k o v s.path := by
  simp [capturedCells, h, hv]

theorem captured_cells_of_step (F : Facts) (st : Step) (m m' : Mem) (h : StepRel F st m m') (k : Nat) (o v : String) (p : List String)
    (hk : k ∉ st.inst.vals.map Prod.snd) : m' (.captured k o v p) = m (.captured k o v p) := by
  apply h
  intro hmem
  obtain ⟨s, _, _, hc⟩ := stepCells_site hmem
  exact hk (siteCells_captured F st.inst s k o v p hc)

theorem captured_cells_of_run (F : Facts) (prog : List Step) (m m' : Mem) (h : RunRel F prog m m') (k : Nat) (o v : String)
    (p : List String) (hk : ∀ st ∈ prog, k ∉ st.inst.vals.map Prod.snd) : m' (.captured k o v p) = m (.captured k o v p) := by
  induction h with
  | nil => rfl
  | cons hstep _ ih =>
    rw [ih (fun st hst => hk st (List.mem_cons_of_mem _ hst))]
    exact captured_cells_of_step F _ _ _ hstep k o v p (hk _ List.mem_cons_self)

/-! ## interleaving machine -/

/-- every access still to be performed by a goroutine obeys the lock assignment -/
def TOK (lo : Cell → Option Mutex) (t : TState) : Prop :=
  (∀ m as, t.cur = some (m, as) → ∀ a ∈ as, accOK lo (some m) a = true) ∧ ∀ sg ∈ t.rest, segOK lo sg = true

def Excl (p : Pool) : Prop := ∀ i j m, i ≠ j → (p i).holds m → ¬ (p j).holds m

theorem move_TOK (lo : Cell → Option Mutex) (free : Mutex → Prop) (t t' : TState) (hm : Move free t t') (h : TOK lo t) : TOK lo t' := by
  cases hm with
  | access a r =>
    exact ⟨fun m as hc => by simp at hc, fun sg hsg => h.2 sg (List.mem_cons_of_mem _ hsg)⟩
  | enter m as r _ =>
    refine ⟨fun m' as' hc a ha => ?_, fun sg hsg => h.2 sg (List.mem_cons_of_mem _ hsg)⟩
    simp only [Option.some.injEq, Prod.mk.injEq] at hc
    obtain ⟨rfl, rfl⟩ := hc
    have := h.2 (.crit m as) List.mem_cons_self
    simp only [segOK, List.all_eq_true] at this
    exact this a ha
  | inside m a as r =>
    refine ⟨fun m' as' hc b hb => ?_, h.2⟩
    simp only [Option.some.injEq, Prod.mk.injEq] at hc
    obtain ⟨rfl, rfl⟩ := hc
    exact h.1 m (a :: as) rfl b (List.mem_cons_of_mem _ hb)
  | leave m r =>
    exact ⟨fun m' as' hc => by simp at hc, h.2⟩

theorem pstep_TOK (lo : Cell → Option Mutex) (p p' : Pool) (hs : PStep p p') (h : ∀ i, TOK lo (p i)) : ∀ i, TOK lo (p' i) := by
  cases hs with
  | mk i t' hm =>
    intro k
    unfold Pool.set
    by_cases hk : k = i
    · simp only [hk, if_true]; exact move_TOK lo _ _ _ hm (h i)
    · simp only [hk, if_false]; exact h k

theorem move_holds (free : Mutex → Prop) (t t' : TState) (hm : Move free t t') (m : Mutex) (h : t'.holds m) :
    t.holds m ∨ free m := by
  cases hm with
  | access a r => obtain ⟨as, h⟩ := h; simp at h
  | enter m' as r hf =>
    obtain ⟨as', h⟩ := h
    simp only [Option.some.injEq, Prod.mk.injEq] at h
    exact Or.inr (h.1 ▸ hf)
  | inside m' a as r =>
    obtain ⟨as', h⟩ := h
    simp only [Option.some.injEq, Prod.mk.injEq] at h
    exact Or.inl ⟨a :: as, by rw [h.1]⟩
  | leave m' r => obtain ⟨as, h⟩ := h; simp at h

theorem pstep_Excl (p p' : Pool) (hs : PStep p p') (h : Excl p) : Excl p' := by
  cases hs with
  | mk i t' hm =>
    intro a b m hab ha hb
    unfold Pool.set at ha hb
    by_cases hai : a = i
    · by_cases hbi : b = i
      · exact hab (hai.trans hbi.symm)
      · simp only [hai, if_true] at ha
        simp only [hbi, if_false] at hb
        rcases move_holds _ _ _ hm m ha with h1 | h2
        · exact h i b m (fun e => hbi e.symm) h1 hb
        · exact h2 b hbi hb
    · by_cases hbi : b = i
      · simp only [hai, if_false] at ha
        simp only [hbi, if_true] at hb
        rcases move_holds _ _ _ hm m hb with h1 | h2
        · exact h a i m hai ha h1
        · exact h2 a hai ha
      · simp only [hai, if_false] at ha
        simp only [hbi, if_false] at hb
        exact h a b m hab ha hb

theorem next_spec (t : TState) (a : Access) (c : Option Mutex) (h : t.next = some (a, c)) :
    (c = none ∧ ∃ r, t.cur = none ∧ t.rest = .free a :: r) ∨ (∃ m as, c = some m ∧ t.cur = some (m, a :: as)) := by
  unfold TState.next at h
  split at h
  · rename_i m a' as hc
    simp only [Option.some.injEq, Prod.mk.injEq] at h
    exact Or.inr ⟨m, as, h.2.symm, by rw [hc, h.1]⟩
  · simp at h
  · rename_i hc
    split at h
    · rename_i a' r hr
      simp only [Option.some.injEq, Prod.mk.injEq] at h
      exact Or.inl ⟨h.2.symm, r, hc, by rw [hr, h.1]⟩
    · simp at h

theorem next_ok (lo : Cell → Option Mutex) (t : TState) (a : Access) (c : Option Mutex) (h : t.next = some (a, c)) (hok : TOK lo t) :
    accOK lo c a = true ∧ ∀ m, c = some m → t.holds m := by
  rcases next_spec t a c h with ⟨rfl, r, _, hr⟩ | ⟨m, as, rfl, hc⟩
  · refine ⟨?_, fun m hm => by simp at hm⟩
    have := hok.2 (.free a) (by rw [hr]; exact List.mem_cons_self)
    simpa [segOK] using this
  · refine ⟨hok.1 m (a :: as) hc a List.mem_cons_self, fun m' hm' => ?_⟩
    simp only [Option.some.injEq] at hm'
    exact ⟨a :: as, by rw [hc, hm']⟩

theorem no_race_state (lo : Cell → Option Mutex) (p : Pool) (hok : ∀ i, TOK lo (p i)) (hex : Excl p) : ¬ Race p := by
  rintro ⟨i, j, a, b, c, d, hij, hi, hj, hcell, hw⟩
  obtain ⟨ha, hhi⟩ := next_ok lo (p i) a c hi (hok i)
  obtain ⟨hb, hhj⟩ := next_ok lo (p j) b d hj (hok j)
  unfold accOK at ha hb
  rw [← hcell] at hb
  cases hl : lo a.cell with
  | none =>
    rw [hl] at ha hb
    simp only [Bool.not_eq_true', ] at ha hb
    rcases hw with hw | hw
    · rw [ha] at hw; exact Bool.noConfusion hw
    · rw [hb] at hw; exact Bool.noConfusion hw
  | some m =>
    rw [hl] at ha hb
    have hc : c = some m := by simpa using ha
    have hd : d = some m := by simpa using hb
    exact hex i j m hij (hhi m hc) (hhj m hd)

theorem initPool_TOK (lo : Cell → Option Mutex) (threads : List (List Seg))
    (h : ∀ th ∈ threads, ∀ sg ∈ th, segOK lo sg = true) (i : Nat) : TOK lo (initPool threads i) := by
  refine ⟨fun m as hc => by simp [initPool] at hc, fun sg hsg => ?_⟩
  simp only [initPool] at hsg
  by_cases hi : i < threads.length
  · have : threads.getD i [] = threads[i] := by simp [List.getD, hi]
    rw [this] at hsg
    exact h _ (List.getElem_mem hi) sg hsg
  · have : threads.getD i [] = [] := by simp [List.getD, hi]
    rw [this] at hsg
    simp at hsg

theorem initPool_Excl (threads : List (List Seg)) : Excl (initPool threads) := by
  intro i j m _ hi _
  obtain ⟨as, h⟩ := hi
  simp [initPool] at h

/-- **race freedom of the machine**: any number of goroutines, any programs obeying the lock assignment, any
    schedule (every `Reach`able pool): no two goroutines are ever about to touch the same cell with a write among them -/
theorem no_race (lo : Cell → Option Mutex) (threads : List (List Seg))
    (h : ∀ th ∈ threads, ∀ sg ∈ th, segOK lo sg = true) (p : Pool) (hr : Reach (initPool threads) p) : ¬ Race p := by
  have inv : (∀ i, TOK lo (p i)) ∧ Excl p := by
    induction hr with
    | refl => exact ⟨initPool_TOK lo threads h, initPool_Excl threads⟩
    | step _ hs ih => exact ⟨pstep_TOK lo _ _ hs ih.1, pstep_Excl _ _ hs ih.2⟩
  exact no_race_state lo p inv.1 inv.2

/-! ## from the decidable discipline check on the facts to the accesses of every step -/

theorem siteCells_locked (F : Facts) (i : Inst) (s : WriteSite) (t f : String)
    (hr : s.root = .recv t) (hp : s.path = [f]) (hi : isInstTy F t = true) (hop : (s.op == .append) = false) :
    siteCells F i s = [.own i.id t f] := by
  unfold siteCells
  rw [hr]
  simp only [typedCells, hi, if_true, hp, fieldCells, hop, Bool.false_eq_true, if_false, List.append_nil]

theorem stepSegs_ok (F : Facts) (hd : disciplined F = true) (st : Step) (sg : Seg) (h : sg ∈ stepSegs F st) :
    segOK (lockOf F) sg = true := by
  unfold disciplined at hd
  simp only [Bool.and_eq_true, List.all_eq_true] at hd
  obtain ⟨hsites, hreads⟩ := hd
  unfold stepSegs at h
  obtain ⟨p, hp, rfl⟩ := List.mem_map.mp h
  unfold stepSegsL at hp
  rcases List.mem_append.mp hp with hA | hB
  · obtain ⟨s, hs, hmap⟩ := List.mem_flatMap.mp hA
    obtain ⟨c, hc, rfl⟩ := List.mem_map.mp hmap
    clear hmap hp hA
    obtain ⟨hsF, hact⟩ := List.mem_filter.mp hs
    have hsd := hsites s hsF
    unfold siteDisciplined at hsd
    split at hsd
    · rename_i hapi
      rcases Bool.or_eq_true_iff.mp hsd with hl | hl
      · -- write under the object's mutex
        unfold lockedForm at hl
        split at hl
        · rename_i m t f hg hr hpth
          simp only [Bool.and_eq_true, beq_iff_eq, bne_iff_ne, ne_eq] at hl
          obtain ⟨⟨hi, hlf⟩, hop⟩ := hl
          have hop' : (s.op == Op.append) = false := by simpa using hop
          have hcells := siteCells_locked F st.inst s t f hr hpth hi hop'
          unfold visibleCells at hc
          split at hc
          · rw [hcells] at hc
            simp only [List.mem_singleton] at hc
            subst hc
            simp only [segOfWrite, hg]
            simp [segOK, accOK, lockOf, hlf]
          · rw [hcells] at hc
            simp [Cell.shared] at hc
        · exact Bool.noConfusion hl
      · -- lazily initialised field, initialised eagerly by every constructor
        unfold lazyForm at hl
        split at hl
        · rename_i t f hg hr hpth
          simp only [Bool.and_eq_true, bne_iff_ne, ne_eq] at hl
          obtain ⟨⟨hi, hea⟩, hop⟩ := hl
          have hop' : (s.op == Op.append) = false := by simpa using hop
          have hcells := siteCells_locked F st.inst s t f hr hpth hi hop'
          unfold visibleCells at hc
          split at hc
          · rename_i hk
            exfalso
            simp only [Bool.and_eq_true, beq_iff_eq] at hk
            unfold active at hact
            simp only [Bool.and_eq_true, Bool.or_eq_true, beq_iff_eq, Bool.not_eq_true'] at hact
            rcases hact.2 with hcon | hpre
            · rw [hk.1] at hcon; exact Kind.noConfusion hcon
            · have : preinit F st.inst s = true := by
                unfold preinit
                simp only [Bool.and_eq_true, beq_iff_eq, List.all_eq_true]
                refine ⟨hg, fun c hcm => ?_⟩
                unfold eagerAll at hea
                simp only [List.all_eq_true] at hea
                apply hea c
                obtain ⟨hcF, hcp⟩ := List.mem_filter.mp hcm
                refine List.mem_filter.mpr ⟨hcF, ?_⟩
                simp only [Bool.and_eq_true, beq_iff_eq] at hcp
                simp only [beq_iff_eq]
                rw [hcp.1]; simp [siteTy, hr]
              rw [this] at hpre; exact Bool.noConfusion hpre
          · rw [hcells] at hc
            simp [Cell.shared] at hc
        · exact Bool.noConfusion hl
    · -- construction-time site: no shared cell at all
      rename_i hapi
      exfalso
      unfold visibleCells at hc
      have hapi' : apiPhase s = false := by simpa using hapi
      simp only [hapi', Bool.and_false, Bool.false_eq_true, if_false] at hc
      obtain ⟨hc1, hc2⟩ := List.mem_filter.mp hc
      have := siteCells_sub F st.inst s c hc1 hc2
      rw [List.isEmpty_iff.mp hsd] at this
      simp at this
  · split at hB
    · obtain ⟨r, hr, rfl⟩ := List.mem_map.mp hB
      have hrF := (List.mem_filter.mp hr).1
      have hrd := hreads r hrF
      unfold readDisciplined at hrd
      simp only [segOfRead]
      split
      · rename_i hmu
        simp only [segOK, accOK, lockOf]
        cases hl : lockedField F r.ty r.field with
        | none => simp
        | some m =>
          rw [hl] at hrd
          simp only [Bool.and_eq_true, beq_iff_eq, bne_iff_ne, ne_eq] at hrd
          simp only [beq_iff_eq] at hmu
          exact absurd hmu hrd.2
      · simp only [segOK, accOK, lockOf, List.all_cons, List.all_nil, Bool.and_true]
        cases hl : lockedField F r.ty r.field with
        | none => simp
        | some m =>
          rw [hl] at hrd
          simp only [Bool.and_eq_true, beq_iff_eq] at hrd
          simp [hrd.1]
    · simp at hB

/-- the executable prediction agrees with the theorem below: on disciplined facts no function is predicted to race,
    whatever the goroutines run -/
theorem mayRace_of_disciplined (F : Facts) (hd : disciplined F = true) (ops : List Step) : mayRace F ops = false := by
  have h : ((ops.flatMap (stepSegsL F)).filterMap fun p => if segOK (lockOf F) p.2 then none else some p.1) = [] := by
    rw [List.filterMap_eq_nil_iff]
    intro p hp
    obtain ⟨st, _, hst⟩ := List.mem_flatMap.mp hp
    rw [stepSegs_ok F hd st p.2 (List.mem_map_of_mem hst)]
    rfl
  simp [mayRace, racyFns, h, dedup]

/-- **race freedom from the facts**: if the fact record passes the discipline check, then for every pool of
    goroutines, each running any sequence of constructions and API calls on any instances, and for every schedule,
    no data race state is reachable -/
theorem race_free_of_disciplined (F : Facts) (hd : disciplined F = true) (threads : List (List Step)) (p : Pool)
    (hr : Reach (initPool (threads.map (threadSegs F))) p) : ¬ Race p := by
  apply no_race (lockOf F) (threads.map (threadSegs F)) _ p hr
  intro th hth sg hsg
  obtain ⟨ops, _, rfl⟩ := List.mem_map.mp hth
  obtain ⟨st, _, hst⟩ := List.mem_flatMap.mp hsg
  exact stepSegs_ok F hd st sg hst

end Footprint
