/-
  C17 proofs over the handler functions REGENERATED from the Go source (Generated/RPHandlers.lean: CheckCookie, CheckQueryCookie,
  SetCookie, DeleteCookie, trySetStateCookie, tryReadStateCookie, GenerateAndStoreCodeChallenge, AuthURLHandler, CodeExchangeHandler;
  the option tables are in Generated/RPTables.lean).  `observeLogin_authURLHandler` / `codeExchangeHandler_obs` unfold
  `AuthURLHandler` / `CodeExchangeHandler` to closed forms (`loginObs`, `callbackObs`); the monitors are judged on the closed forms.
  `c17_history`: induction over EVERY sequence of login attempts, callbacks and jar tampering in one browser.
-/
import OidcModel.Model.RPBrowser
import OidcModel.GoTac
namespace C17
theorem find?_map_key (f : String × String → String × String) (hf : ∀ p, (f p).1 = p.1) (ps : List (String × String)) (k : String) :
    (ps.map f).find? (·.1 == k) = (ps.find? (·.1 == k)).map f := by
  induction ps with
  | nil => rfl
  | cons p ps ih => simp only [List.map_cons, List.find?_cons, hf]; split <;> simp [ih]

/-- `url.Values.Set`, read back -/
theorem getParam_setParam (ps : List (String × String)) (k v k' : String) :
    getParam (setParam ps (k, v)) k' = if k' = k then v else getParam ps k' := by
  unfold getParam setParam
  by_cases h : ps.any (·.1 == k) = true
  · rw [if_pos h, find?_map_key _ (fun p => by by_cases hp : p.1 = k <;> simp [hp])]
    cases hf : ps.find? (·.1 == k') with
    | none =>
      have : k' ≠ k := by
        rintro rfl
        obtain ⟨p, hp, hpk⟩ := List.any_eq_true.1 h
        exact List.find?_eq_none.1 hf p hp hpk
      simp [this]
    | some p' => have := List.find?_some hf; simp_all [apply_ite Prod.snd]
  · rw [if_neg h, List.find?_append]
    cases hf : ps.find? (·.1 == k') with
    | none =>
      by_cases hk : k' = k
      · simp [hk]
      · simp [hk, Ne.symm hk]
    | some p' =>
      have hk : k' ≠ k := fun e => h (List.any_eq_true.2 ⟨p', List.mem_of_find?_eq_some hf, e ▸ (List.find?_some hf :)⟩)
      simp [hk]

theorem getParam_setParams_notin (kvs ps : List (String × String)) (k : String) (h : ∀ p ∈ kvs, p.1 ≠ k) :
    getParam (setParams ps kvs) k = getParam ps k := by
  induction kvs generalizing ps with
  | nil => rfl
  | cons kv kvs ih =>
    rw [setParams, List.foldl_cons, ← setParams, ih _ fun p hp => h p (List.mem_cons_of_mem _ hp), getParam_setParam,
      if_neg fun e => h kv (List.mem_cons_self ..) e.symm]

theorem setParams_append (ps a b : List (String × String)) :
    setParams ps (a ++ b) = setParams (setParams ps a) b := List.foldl_append ..

open RPBrowser Gen Go Hand

def authBase (state : String) (rp : RP) : List (String × String) :=
  [("response_type", "code"), ("client_id", rp.oauthConfig.ClientID)]
    ++ (if rp.oauthConfig.RedirectURL != "" then [("redirect_uri", rp.oauthConfig.RedirectURL)] else [])
    ++ (if !rp.oauthConfig.Scopes.isEmpty then [("scope", " ".intercalate rp.oauthConfig.Scopes)] else [])
    ++ (if state != "" then [("state", state)] else [])

theorem authURL_params (now : Int) (state : String) (rp : RP) (opts : List UrlOpt) :
    (AuthURL now state rp opts).params = setParams (authBase state rp) opts.flatten := rfl

/-- the parameters the property speaks about, as `oauth2.Config.AuthCodeURL` sets them (an empty value is left out) -/
theorem getParam_authBase (state : String) (rp : RP) :
    getParam (authBase state rp) "state" = state ∧ getParam (authBase state rp) "client_id" = rp.oauthConfig.ClientID ∧
    getParam (authBase state rp) "redirect_uri" = rp.oauthConfig.RedirectURL ∧
    getParam (authBase state rp) "scope" = " ".intercalate rp.oauthConfig.Scopes := by
  unfold authBase getParam
  by_cases h1 : rp.oauthConfig.RedirectURL = "" <;> by_cases h2 : rp.oauthConfig.Scopes = [] <;> by_cases h3 : state = "" <;>
    simp [h1, h2, h3, List.find?]

/-- custom URL parameters of the application do not overwrite the parameters the property speaks about -/
def NoReserved (urlParam : List UrlOpt) : Prop :=
  ∀ p ∈ urlParam.flatten, p.1 ≠ "state" ∧ p.1 ≠ "client_id" ∧ p.1 ≠ "redirect_uri" ∧ p.1 ≠ "scope"

theorem NoReserved.append {a b : List UrlOpt} (ha : NoReserved a) (hb : NoReserved b) : NoReserved (a ++ b) := fun p hp => by
  rw [List.flatten_append, List.mem_append] at hp
  exact hp.elim (ha p) (hb p)

theorem noReserved_challenge (now : Int) (c : String) : NoReserved [WithCodeChallenge now c] := by
  simp [NoReserved, WithCodeChallenge]

theorem authURL_reserved (now : Int) (state : String) (rp : RP) (opts : List UrlOpt) (h : NoReserved opts) :
    let u := AuthURL now state rp opts
    getParam u.params "state" = state ∧ getParam u.params "client_id" = rp.oauthConfig.ClientID ∧
    getParam u.params "redirect_uri" = rp.oauthConfig.RedirectURL ∧
    getParam u.params "scope" = " ".intercalate rp.oauthConfig.Scopes := by
  simp only [authURL_params]
  rw [getParam_setParams_notin _ _ _ fun p hp => (h p hp).1, getParam_setParams_notin _ _ _ fun p hp => (h p hp).2.1,
    getParam_setParams_notin _ _ _ fun p hp => (h p hp).2.2.1, getParam_setParams_notin _ _ _ fun p hp => (h p hp).2.2.2]
  exact getParam_authBase state rp

/-- the challenge option is applied last: it reaches the URL whatever the custom parameters are -/
theorem authURL_challenge (now : Int) (state c : String) (rp : RP) (urlParam : List UrlOpt) :
    let u := AuthURL now state rp (urlParam ++ [WithCodeChallenge now c])
    getParam u.params "code_challenge" = c ∧ getParam u.params "code_challenge_method" = "S256" := by
  simp [authURL_params, WithCodeChallenge, setParams, getParam_setParam]

/-- the cookie `SetCookie` of the handler `ch` writes -/
def mintedCookie (ch : CookieHandler) (name value : String) : Http.Cookie :=
  { Name := name, Value := .minted ch.securecookie.hashKey ch.securecookie.blockKey name value, Domain := ch.domain, Path := ch.path,
    MaxAge := ch.maxAge, HttpOnly := true, Secure := ch.secureOnly, SameSite := ch.sameSite }

/-- what a login response shows: nothing when the state cookie cannot be written; the state cookie alone when (PKCE) the
    verifier cookie cannot; else the cookies and the redirect, with the S256 challenge of the stored verifier behind the
    custom parameters -/
def loginObs (now : Int) (state rnd : String) (rp : RP) (ch : CookieHandler) (urlParam : List UrlOpt) : LoginObs :=
  if ch.securecookie.encodable "state" state then
    if rp.pkce then
      if ch.securecookie.encodable "pkce" (rawURLEncode rnd) then
        { setCookies := [mintedCookie ch "state" state, mintedCookie ch "pkce" (rawURLEncode rnd)],
          redirect := some (AuthURL now state rp (urlParam ++ [WithCodeChallenge now (s256 (rawURLEncode rnd))])) }
      else { setCookies := [mintedCookie ch "state" state] }
    else { setCookies := [mintedCookie ch "state" state], redirect := some (AuthURL now state rp urlParam) }
  else {}

theorem observeLogin_authURLHandler (now : Int) (state rnd : String) (rp : RP) (ch : CookieHandler) (h : rp.cookieHandler = some ch)
    (urlParam : List UrlOpt) (r : HttpReq) :
    observeLogin (AuthURLHandler now state rnd rp urlParam [] r) = loginObs now state rnd rp ch urlParam := by
  unfold loginObs
  repeat' split
  all_goals
    simp only [AuthURLHandler, trySetStateCookie, GenerateAndStoreCodeChallenge, SetCookie, SecureCookie.Encode, RP.CookieHandler,
      RP.IsPKCE, Go.notNil, Nilable.isNil, Go.getOpt, stateParam, pkceCode, Option.isNone_some, Option.getD_some, Bool.not_false,
      if_true, if_false, Bool.false_eq_true, Go.mapList, List.map_id', *]
    rfl

theorem signedFor_minted (rp : RP) (ch : CookieHandler) (n n' x : String) :
    signedFor (cfgOf rp ch) n (.minted ch.securecookie.hashKey ch.securecookie.blockKey n' x) = if n' = n then some x else none := by
  simp [signedFor, cfgOf]

theorem cfgOf_fields (rp : RP) (ch : CookieHandler) :
    (cfgOf rp ch).clientID = rp.oauthConfig.ClientID ∧ (cfgOf rp ch).redirectURI = rp.oauthConfig.RedirectURL ∧
    (cfgOf rp ch).scopes = rp.oauthConfig.Scopes ∧ (cfgOf rp ch).pkce = rp.pkce := ⟨rfl, rfl, rfl, rfl⟩

/-- the monitor accepts the login response, and what an observer records of it (`attemptOf`) covers every signed value the
    response leaves in the browser -/
def LoginOK (cfg : Cfg) (obs : LoginObs) : Prop :=
  judgeLogin cfg obs = none ∧
  ∀ c ∈ obs.setCookies,
    (∀ v, signedFor cfg "state" c.Value = some v → (attemptOf cfg obs).state = some v) ∧
    (∀ v, signedFor cfg "pkce" c.Value = some v → (attemptOf cfg obs).verifier = some v ∧ (attemptOf cfg obs).challenge = s256 v)

theorem loginObs_accepted (now : Int) (state rnd : String) (rp : RP) (ch : CookieHandler) (hage : 0 ≤ ch.maxAge)
    (urlParam : List UrlOpt) (hres : NoReserved urlParam) : LoginOK (cfgOf rp ch) (loginObs now state rnd rp ch urlParam) := by
  have hage' : ¬ ch.maxAge < 0 := by omega
  unfold loginObs
  split
  · split
    · split
      · obtain ⟨h1, h2, h3, h4⟩ := authURL_reserved now state rp _ (hres.append (noReserved_challenge now (s256 (rawURLEncode rnd))))
        obtain ⟨h5, h6⟩ := authURL_challenge now state (s256 (rawURLEncode rnd)) rp urlParam
        simp [LoginOK, judgeLogin, attemptOf, signedSet, signedFor_minted, mintedCookie, cfgOf_fields, *]
      · simp [LoginOK, judgeLogin, attemptOf, signedSet, signedFor_minted, mintedCookie, hage']
    · obtain ⟨h1, h2, h3, h4⟩ := authURL_reserved now state rp urlParam hres
      simp [LoginOK, judgeLogin, attemptOf, signedSet, signedFor_minted, mintedCookie, cfgOf_fields, *]
  · simp [LoginOK, judgeLogin, attemptOf]

theorem login_core (now : Int) (state rnd : String) (rp : RP) (ch : CookieHandler) (h : rp.cookieHandler = some ch)
    (hage : 0 ≤ ch.maxAge) (urlParam : List UrlOpt) (hres : NoReserved urlParam) (r : HttpReq) :
    LoginOK (cfgOf rp ch) (observeLogin (AuthURLHandler now state rnd rp urlParam [] r)) := by
  rw [observeLogin_authURLHandler now state rnd rp ch h]
  exact loginObs_accepted now state rnd rp ch hage urlParam hres

theorem c17_login_holds (now : Int) (state rnd : String) (rp : RP) (ch : CookieHandler) (h : rp.cookieHandler = some ch)
    (hage : 0 ≤ ch.maxAge) (urlParam : List UrlOpt) (hres : NoReserved urlParam) (r : HttpReq) :
    judgeLogin (cfgOf rp ch) (observeLogin (AuthURLHandler now state rnd rp urlParam [] r)) = none :=
  (login_core now state rnd rp ch h hage urlParam hres r).1

/-- what `judgeLogin = none` says of a response that redirects (pure fact about the monitor) -/
theorem judgeLogin_redirect {cfg : Cfg} {obs : LoginObs} (hj : judgeLogin cfg obs = none) {u : AuthURLRec}
    (hu : obs.redirect = some u) :
    signedSet cfg obs.setCookies "state" = some (getParam u.params "state") ∧
    getParam u.params "client_id" = cfg.clientID ∧ getParam u.params "redirect_uri" = cfg.redirectURI ∧
    getParam u.params "scope" = " ".intercalate cfg.scopes ∧
    (cfg.pkce = true → ∃ v, signedSet cfg obs.setCookies "pkce" = some v ∧
      getParam u.params "code_challenge" = s256 v ∧ getParam u.params "code_challenge_method" = "S256") := by
  unfold judgeLogin at hj
  simp only [hu] at hj
  cases hst : signedSet cfg obs.setCookies "state" with
  | none => simp [hst] at hj
  | some s =>
    simp only [hst, Go.guard_none, bne_iff_ne, ne_eq, Decidable.not_not] at hj
    obtain ⟨h1, h2, h3, h4, hj⟩ := hj
    refine ⟨by rw [h1], h2, h3, h4, fun hpk => ?_⟩
    rw [if_pos hpk] at hj
    cases hv : signedSet cfg obs.setCookies "pkce" with
    | none => simp [hv] at hj
    | some v => simpa [hv, Go.guard_none] using hj

/-- a login response that redirects to the provider: the URL carries the configured client, redirect URI and scopes, the
    state of the signed cookie of the same response and (PKCE) the S256 challenge of the verifier in its signed cookie -/
theorem c17_auth_url_params (now : Int) (state rnd : String) (rp : RP) (ch : CookieHandler) (h : rp.cookieHandler = some ch)
    (hage : 0 ≤ ch.maxAge) (urlParam : List UrlOpt) (hres : NoReserved urlParam) (r : HttpReq) (u : AuthURLRec)
    (hu : (observeLogin (AuthURLHandler now state rnd rp urlParam [] r)).redirect = some u) :
    let cs := (observeLogin (AuthURLHandler now state rnd rp urlParam [] r)).setCookies
    signedSet (cfgOf rp ch) cs "state" = some (getParam u.params "state") ∧
    getParam u.params "client_id" = rp.oauthConfig.ClientID ∧
    getParam u.params "redirect_uri" = rp.oauthConfig.RedirectURL ∧
    getParam u.params "scope" = " ".intercalate rp.oauthConfig.Scopes ∧
    (rp.pkce = true → ∃ v, signedSet (cfgOf rp ch) cs "pkce" = some v ∧
      getParam u.params "code_challenge" = s256 v ∧ getParam u.params "code_challenge_method" = "S256") :=
  judgeLogin_redirect (c17_login_holds now state rnd rp ch h hage urlParam hres r) hu

def toOpt {α : Type} : Go.R α → Option α
  | .ok a => some a
  | .error _ => none

theorem toOpt_eq_some {α : Type} {x : Go.R α} {a : α} : toOpt x = some a ↔ x = .ok a := by
  cases x <;> simp [toOpt]

theorem signedFor_eq_some {cfg : Cfg} {name v : String} {val : CookieVal} :
    signedFor cfg name val = some v ↔ val = .minted cfg.hashKey cfg.blockKey name v := by
  cases val <;> simp [signedFor, and_assoc]

theorem signedValue_eq_some {cfg : Cfg} {jar : List Http.Cookie} {name v : String} :
    signedValue cfg jar name = some v ↔
      ∃ c, jar.find? (·.Name == name) = some c ∧ c.Value = .minted cfg.hashKey cfg.blockKey name v := by
  unfold signedValue
  cases jar.find? (·.Name == name) with
  | none => simp
  | some c => simp [signedFor_eq_some]

theorem checkCookie_spec (now : Int) (rp : RP) (ch : CookieHandler) (r : HttpReq) (name : String) :
    toOpt (CheckCookie now ch r name) = signedValue (cfgOf rp ch) r.cookies name := by
  unfold CheckCookie HttpReq.Cookie signedValue
  cases h : r.cookies.find? (·.Name == name) with
  | none => simp [toOpt]
  | some c =>
    simp only [SecureCookie.Decode, signedFor, cfgOf]
    cases c.Value with
    | plain s => simp [toOpt]
    | minted hk bk n v =>
      by_cases hc : (hk == ch.securecookie.hashKey && bk == ch.securecookie.blockKey && n == name) = true <;> simp [hc, toOpt]

theorem checkQueryCookie_ok_iff (now : Int) (ch : CookieHandler) (r : HttpReq) (name v : String) :
    CheckQueryCookie now ch r name = .ok v ↔ (CheckCookie now ch r name = .ok v ∧ v = r.FormValue name) := by
  go_char CheckQueryCookie

/-- the token request `CodeExchange` sends -/
def exchangeReq (rp : RP) (code : String) (opts : List UrlOpt) : TokenReq :=
  { clientID := rp.oauthConfig.ClientID,
    params := setParams ([("grant_type", "authorization_code"), ("code", code)]
      ++ (if rp.oauthConfig.RedirectURL != "" then [("redirect_uri", rp.oauthConfig.RedirectURL)] else [])) opts.flatten }

theorem codeExchange_eq (now : Int) (w : World) (code : String) (rp : RP) (opts : List UrlOpt) :
    CodeExchange now w code rp opts = (w ++ [.tokenRequest (exchangeReq rp code opts)], rp.provider (exchangeReq rp code opts)) := rfl

/-- the verifier option reaches the token request whatever the custom parameters before it are, and whatever follows it
    that does not set `code_verifier` (the client assertion) -/
theorem exchangeReq_verifier (rp : RP) (code : String) (urlParam : List UrlOpt) (now : Int) (v : String) (extra : List UrlOpt)
    (h : ∀ p ∈ extra.flatten, p.1 ≠ "code_verifier") :
    getParam (exchangeReq rp code (urlParam ++ [WithCodeVerifier now v] ++ extra)).params "code_verifier" = v := by
  simp only [exchangeReq, List.flatten_append, setParams_append]
  rw [getParam_setParams_notin _ _ _ h]
  simp [WithCodeVerifier, setParams, getParam_setParam]

/-- the cookie `DeleteCookie` of the handler `ch` writes -/
def deletedCookie (ch : CookieHandler) (name : String) : Http.Cookie :=
  { Name := name, Value := "", Domain := ch.domain, Path := ch.path, MaxAge := -1, HttpOnly := true, Secure := ch.secureOnly,
    SameSite := ch.sameSite }

/-- the parameters of the client assertion, when a signer is configured -/
def assertionOpts (now : Int) (rp : RP) : Go.R (List UrlOpt) :=
  if rp.signer.isSome then
    (SignedJWTProfileAssertion now rp.oauthConfig.ClientID [rp.issuer, rp.oauthConfig.Endpoint.TokenURL] (3600 * Go.second) rp.signer).map
      fun a => [WithClientAssertionJWT now a]
  else .ok []

/-- what the exchange part of a callback shows: unauthorized when the assertion cannot be built; else one token request with
    the options `opts` and the assertion behind them, and the application callback exactly when the provider accepts -/
def exchangeObs (now : Int) (rp : RP) (code state : String) (opts : List UrlOpt) : CallbackObs :=
  match assertionOpts now rp with
  | .error _ => { unauthorized := true }
  | .ok extra =>
    match rp.provider (exchangeReq rp code (opts ++ extra)) with
    | .error _ => { tokenRequests := [exchangeReq rp code (opts ++ extra)], unauthorized := true }
    | .ok _ => { tokenRequests := [exchangeReq rp code (opts ++ extra)], callback := some state }

/-- what a callback shows and which cookies it sets: without a state cookie that verifies and equals the state parameter,
    unauthorized; else that cookie is deleted and, in this order, a provider error is handed to the error handler, (PKCE) a
    verifier cookie that does not verify is unauthorized and one that does is deleted, the code is exchanged -/
def callbackObs (now : Int) (rp : RP) (ch : CookieHandler) (urlParam : List UrlOpt) (r : HttpReq) : CallbackObs × List Http.Cookie :=
  match CheckQueryCookie now ch r "state" with
  | .error _ => ({ unauthorized := true }, [])
  | .ok state =>
    if r.FormValue "error" != "" then ({ errorHandled := true }, [deletedCookie ch "state"])
    else if rp.pkce then
      match CheckCookie now ch r "pkce" with
      | .error _ => ({ unauthorized := true }, [deletedCookie ch "state"])
      | .ok v =>
        (exchangeObs now rp (r.FormValue "code") state (urlParam ++ [WithCodeVerifier now v]), [deletedCookie ch "state", deletedCookie ch "pkce"])
    else (exchangeObs now rp (r.FormValue "code") state urlParam, [deletedCookie ch "state"])

theorem tryReadStateCookie_eq (now : Int) (w : World) (r : HttpReq) (rp : RP) (ch : CookieHandler) (h : rp.cookieHandler = some ch) :
    tryReadStateCookie now w r rp =
      (match CheckQueryCookie now ch r "state" with
       | .error e => (w, .error e)
       | .ok s => (DeleteCookie now ch w "state", .ok s)) := by
  go_char tryReadStateCookie RP.CookieHandler Go.isNil Go.notNil Nilable.isNil Go.getOpt stateParam

theorem codeExchangeHandler_obs (now : Int) (rp : RP) (ch : CookieHandler) (h : rp.cookieHandler = some ch)
    (urlParam : List UrlOpt) (r : HttpReq) :
    (observeCallback (CodeExchangeHandler now rp urlParam [] r), setCookiesOf (CodeExchangeHandler now rp urlParam [] r))
      = callbackObs now rp ch urlParam r := by
  unfold CodeExchangeHandler callbackObs
  rw [tryReadStateCookie_eq now [] r rp ch h]
  simp only [RP.CookieHandler, RP.IsPKCE, RP.Signer, RP.OAuthConfig, RP.Issuer, h, Go.notNil, Nilable.isNil, Go.getOpt, Go.mapList,
    Go.append, pkceCode, codeExchange_eq, Option.getD_some, List.map_id']
  cases CheckQueryCookie now ch r "state" with
  | error e => rfl
  | ok s =>
    simp only []
    split
    · rfl
    split
    focus
      cases CheckCookie now ch r "pkce"
      · rfl
      simp only []
    -- the exchange, behind the deleted cookies: by the signer, whether it can sign, and the provider's answer
    all_goals
      rcases hsg : rp.signer with _ | ⟨⟨_ | _⟩⟩
      rotate_left
      · simp only [exchangeObs, assertionOpts, SignedJWTProfileAssertion, hsg]; rfl
      all_goals
        simp only [exchangeObs, assertionOpts, SignedJWTProfileAssertion, hsg, Option.isNone_none, Option.isNone_some, Option.isSome_none,
          Option.isSome_some, Bool.not_true, Bool.not_false, if_true, if_false, Bool.false_eq_true, Except.map, List.append_nil]
        generalize rp.provider _ = res
        cases res <;> rfl

/-- nothing sent, no callback: accepted when the unauthorized handler ran, or - the state being bound - the error handler -/
theorem judgeCallback_idle (cfg : Cfg) (jar : List Http.Cookie) (q : List (String × String)) (u e : Bool)
    (h : u = true ∨ (e = true ∧ signedValue cfg jar "state" = some (formValue q "state"))) :
    judgeCallback cfg jar q { unauthorized := u, errorHandled := e } = none := by
  unfold judgeCallback
  rcases h with rfl | ⟨rfl, hs⟩
  · cases signedValue cfg jar "pkce" <;> simp
  · cases signedValue cfg jar "pkce" <;> simp [hs]

/-- one token request, then unauthorized or the callback with the bound state: accepted when the state is bound and (PKCE)
    the request carries the signed verifier -/
theorem judgeCallback_exchange (cfg : Cfg) (jar : List Http.Cookie) (q : List (String × String)) (t : TokenReq) (cb : Option String)
    (u : Bool) (hs : signedValue cfg jar "state" = some (formValue q "state")) (hcb : ∀ s, cb = some s → s = formValue q "state")
    (hp : cfg.pkce = true → signedValue cfg jar "pkce" = some (getParam t.params "code_verifier")) :
    judgeCallback cfg jar q { tokenRequests := [t], callback := cb, unauthorized := u } = none := by
  unfold judgeCallback
  have hcb' : cb.any (· != formValue q "state") = false := by
    cases cb with
    | none => rfl
    | some s => simp [hcb s rfl]
  by_cases hpk : cfg.pkce = true
  · simp [hs, hcb', hpk, hp hpk]
  · simp [hs, hcb', hpk]

theorem assertionOpts_keys (now : Int) (rp : RP) (extra : List UrlOpt) (h : assertionOpts now rp = .ok extra) :
    ∀ p ∈ extra.flatten, p.1 ≠ "code_verifier" := by
  unfold assertionOpts at h
  split at h
  · cases ha : SignedJWTProfileAssertion now rp.oauthConfig.ClientID [rp.issuer, rp.oauthConfig.Endpoint.TokenURL] (3600 * Go.second) rp.signer with
    | error e => simp [ha, Except.map] at h
    | ok a =>
      simp only [ha, Except.map, Except.ok.injEq] at h
      subst h
      simp [WithClientAssertionJWT]
  · cases h; simp

theorem judgeCallback_exchangeObs (now : Int) (rp : RP) (cfg : Cfg) (jar : List Http.Cookie) (q : List (String × String))
    (code : String) (opts : List UrlOpt) (hs : signedValue cfg jar "state" = some (formValue q "state"))
    (hp : cfg.pkce = true → ∃ v, signedValue cfg jar "pkce" = some v ∧ ∀ extra : List UrlOpt, (∀ p ∈ extra.flatten, p.1 ≠ "code_verifier") →
      getParam (exchangeReq rp code (opts ++ extra)).params "code_verifier" = v) :
    judgeCallback cfg jar q (exchangeObs now rp code (formValue q "state") opts) = none := by
  unfold exchangeObs
  cases ha : assertionOpts now rp with
  | error e => exact judgeCallback_idle cfg jar q true false (Or.inl rfl)
  | ok extra =>
    have hv : cfg.pkce = true → signedValue cfg jar "pkce" = some (getParam (exchangeReq rp code (opts ++ extra)).params "code_verifier") :=
      fun hpk => by obtain ⟨v, hv, hall⟩ := hp hpk; rw [hall extra (assertionOpts_keys now rp extra ha)]; exact hv
    simp only []
    cases rp.provider (exchangeReq rp code (opts ++ extra)) with
    | error e => exact judgeCallback_exchange cfg jar q _ none true hs (fun s h => by cases h) hv
    | ok tk => exact judgeCallback_exchange cfg jar q _ (some _) false hs (fun s h => by cases h; rfl) hv

theorem callbackObs_accepted (now : Int) (rp : RP) (ch : CookieHandler) (urlParam : List UrlOpt) (r : HttpReq) :
    judgeCallback (cfgOf rp ch) r.cookies r.form (callbackObs now rp ch urlParam r).1 = none ∧
    ∀ c ∈ (callbackObs now rp ch urlParam r).2, c.MaxAge < 0 := by
  have hsp := checkCookie_spec now rp ch r
  unfold callbackObs
  cases hqc : CheckQueryCookie now ch r "state" with
  | error e => exact ⟨judgeCallback_idle _ _ _ true false (Or.inl rfl), by simp⟩
  | ok s =>
    obtain ⟨hcs, rfl⟩ := (checkQueryCookie_ok_iff now ch r "state" s).1 hqc
    have hs : signedValue (cfgOf rp ch) r.cookies "state" = some (formValue r.form "state") := by rw [← hsp, hcs]; rfl
    simp only []
    split
    · exact ⟨judgeCallback_idle _ _ _ false true (Or.inr ⟨rfl, hs⟩), by simp [deletedCookie]⟩
    split
    · cases hcp : CheckCookie now ch r "pkce" with
      | error e => exact ⟨judgeCallback_idle _ _ _ true false (Or.inl rfl), by simp [deletedCookie]⟩
      | ok v =>
        refine ⟨judgeCallback_exchangeObs now rp _ _ _ _ _ hs fun _ => ⟨v, by rw [← hsp, hcp]; rfl, fun extra he => ?_⟩, by simp [deletedCookie]⟩
        exact exchangeReq_verifier rp _ urlParam now v extra he
    · rename_i hpk
      exact ⟨judgeCallback_exchangeObs now rp _ _ _ _ _ hs fun h => absurd h hpk, by simp [deletedCookie]⟩
theorem callback_core (now : Int) (rp : RP) (ch : CookieHandler) (h : rp.cookieHandler = some ch)
    (urlParam : List UrlOpt) (r : HttpReq) :
    judgeCallback (cfgOf rp ch) r.cookies r.form
      (observeCallback (CodeExchangeHandler now rp urlParam [] r)) = none ∧
    ∀ c ∈ setCookiesOf (CodeExchangeHandler now rp urlParam [] r), c.MaxAge < 0 := by
  have e := codeExchangeHandler_obs now rp ch h urlParam r
  rw [show observeCallback _ = _ from congrArg Prod.fst e, show setCookiesOf _ = _ from congrArg Prod.snd e]
  exact callbackObs_accepted now rp ch urlParam r

theorem c17_callback_holds (now : Int) (rp : RP) (ch : CookieHandler) (h : rp.cookieHandler = some ch)
    (urlParam : List UrlOpt) (r : HttpReq) :
    judgeCallback (cfgOf rp ch) r.cookies r.form
      (observeCallback (CodeExchangeHandler now rp urlParam [] r)) = none :=
  (callback_core now rp ch h urlParam r).1

/-! ### what `judgeCallback = none` says (pure facts about the monitor) -/

def acted (obs : CallbackObs) : Bool := !obs.tokenRequests.isEmpty || obs.callback.isSome

theorem judge_state {cfg : Cfg} {jar : List Http.Cookie} {q : List (String × String)} {obs : CallbackObs}
    (hj : judgeCallback cfg jar q obs = none) (ha : acted obs = true) :
    signedValue cfg jar "state" = some (formValue q "state") := by
  unfold judgeCallback at hj
  unfold acted at ha
  by_cases hne : (signedValue cfg jar "state" != some (formValue q "state")) = true
  · simp [hne, ha] at hj
  · simpa using hne

theorem judge_unauthorized {cfg : Cfg} {jar : List Http.Cookie} {q : List (String × String)} {obs : CallbackObs}
    (hj : judgeCallback cfg jar q obs = none) (hs : signedValue cfg jar "state" ≠ some (formValue q "state")) :
    obs.tokenRequests = [] ∧ obs.callback = none ∧ obs.unauthorized = true := by
  unfold judgeCallback at hj
  cases ht : obs.tokenRequests <;> cases hc : obs.callback <;> cases hu : obs.unauthorized <;> simp_all

theorem judge_pkce {cfg : Cfg} {jar : List Http.Cookie} {q : List (String × String)} {obs : CallbackObs}
    (hj : judgeCallback cfg jar q obs = none) (hp : cfg.pkce = true) (t : TokenReq) (ht : t ∈ obs.tokenRequests) :
    signedValue cfg jar "pkce" = some (getParam t.params "code_verifier") := by
  have ha : acted obs = true := by simp [acted, List.ne_nil_of_mem ht]
  have hs := judge_state hj ha
  unfold judgeCallback at hj
  unfold acted at ha
  simp only [hs, bne_self_eq_false, Bool.false_eq_true, if_false, hp, if_true, Go.guard_none] at hj
  cases hv : signedValue cfg jar "pkce" with
  | none => simp [hv, ha] at hj
  | some v =>
    simp only [hv, Go.guard_none, List.any_eq_true, not_exists, not_and, bne_iff_ne, ne_eq, Decidable.not_not, and_true] at hj
    rw [hj.2 t ht]

/-- a token request is sent or the application callback runs ONLY IF the browser presented a cookie named `state` that
    the RP itself signed for that name and whose content equals the `state` parameter of the callback -/
theorem c17_state_bound (now : Int) (rp : RP) (ch : CookieHandler) (h : rp.cookieHandler = some ch)
    (urlParam : List UrlOpt) (r : HttpReq)
    (ha : acted (observeCallback (CodeExchangeHandler now rp urlParam [] r)) = true) :
    signedValue (cfgOf rp ch) r.cookies "state" = some (r.FormValue "state") :=
  judge_state (c17_callback_holds now rp ch h urlParam r) ha

/-- missing cookie, cookie under other keys / for another name, tampered value, or a different state: the unauthorized
    handler runs, nothing is sent to the provider, the application callback does not run -/
theorem c17_no_request_without_state (now : Int) (rp : RP) (ch : CookieHandler) (h : rp.cookieHandler = some ch)
    (urlParam : List UrlOpt) (r : HttpReq)
    (hs : signedValue (cfgOf rp ch) r.cookies "state" ≠ some (r.FormValue "state")) :
    let obs := observeCallback (CodeExchangeHandler now rp urlParam [] r)
    obs.tokenRequests = [] ∧ obs.callback = none ∧ obs.unauthorized = true :=
  judge_unauthorized (c17_callback_holds now rp ch h urlParam r) hs

/-- with PKCE every token request carries as `code_verifier` the content of the `pkce` cookie the RP signed -/
theorem c17_pkce_bound (now : Int) (rp : RP) (ch : CookieHandler) (h : rp.cookieHandler = some ch) (hp : rp.pkce = true)
    (urlParam : List UrlOpt) (r : HttpReq) (t : TokenReq)
    (ht : t ∈ (observeCallback (CodeExchangeHandler now rp urlParam [] r)).tokenRequests) :
    signedValue (cfgOf rp ch) r.cookies "pkce" = some (getParam t.params "code_verifier") :=
  judge_pkce (c17_callback_holds now rp ch h urlParam r) hp t ht

/-! ### one browser: induction over login attempts, callbacks and tampering -/

theorem mem_applyResponse {w : World} {jar : List Http.Cookie} {c : Http.Cookie} (hc : c ∈ applyResponse jar w) :
    c ∈ jar ∨ ∃ sc ∈ setCookiesOf w, c.Value = sc.Value ∧ ¬ sc.MaxAge < 0 := by
  unfold applyResponse at hc
  generalize setCookiesOf w = scs at hc ⊢
  induction scs generalizing jar with
  | nil => exact Or.inl hc
  | cons sc scs ih =>
    rcases ih hc with h1 | ⟨sc', hm, hv⟩
    · unfold applySetCookie at h1
      split at h1
      · exact Or.inl (List.mem_filter.1 h1).1
      · rcases List.mem_append.1 h1 with h2 | h2
        · exact Or.inl (List.mem_filter.1 h2).1
        · exact Or.inr ⟨sc, List.mem_cons_self .., by rw [List.mem_singleton.1 h2], by assumption⟩
    · exact Or.inr ⟨sc', List.mem_cons_of_mem _ hm, hv⟩

/-- a cookie value is accounted for: if the RP signed it as a state / pkce cookie, a login attempt of THIS browser
    handed it out (pkce: together with its S256 challenge in the authorization URL of the same response) -/
def Known (cfg : Cfg) (m : MonState) (val : CookieVal) : Prop :=
  (∀ v, signedFor cfg "state" val = some v → m.attempts.any (·.state == some v) = true) ∧
  (∀ v, signedFor cfg "pkce" val = some v →
    m.attempts.any (fun a => a.verifier == some v && a.challenge == s256 v) = true)

theorem known_mono {cfg : Cfg} {m : MonState} {a : Attempt} {val : CookieVal} (hk : Known cfg m val) :
    Known cfg { attempts := m.attempts ++ [a] } val :=
  ⟨fun v hv => by simp only [List.any_append, hk.1 v hv, Bool.true_or],
   fun v hv => by simp only [List.any_append, hk.2 v hv, Bool.true_or]⟩

theorem signedValue_mem {cfg : Cfg} {jar : List Http.Cookie} {name v : String} (h : signedValue cfg jar name = some v) :
    ∃ c ∈ jar, signedFor cfg name c.Value = some v := by
  obtain ⟨c, hc, hv⟩ := signedValue_eq_some.1 h
  exact ⟨c, List.mem_of_find?_eq_some hc, signedFor_eq_some.2 hv⟩

/-- with every signed value of the jar accounted for, a callback the per-run monitor accepts is accepted by the history
    monitor: the bound state and the bound verifier were read from the jar -/
theorem judgeHistory_of_judgeCallback {cfg : Cfg} {m : MonState} {jar : List Http.Cookie} {q : List (String × String)}
    {obs : CallbackObs} (hk : ∀ c ∈ jar, Known cfg m c.Value) (hj : judgeCallback cfg jar q obs = none) :
    judgeHistory cfg m q obs = none := by
  unfold judgeHistory
  have h1 : (acted obs && !m.attempts.any (·.state == some (formValue q "state"))) = false := by
    cases ha : acted obs with
    | false => rfl
    | true =>
      obtain ⟨c, hc, hsf⟩ := signedValue_mem (judge_state hj ha)
      simp [(hk c hc).1 _ hsf]
  have h2 : (cfg.pkce && obs.tokenRequests.any fun t => !m.attempts.any fun a =>
      a.verifier == some (getParam t.params "code_verifier") && a.challenge == s256 (getParam t.params "code_verifier")) = false := by
    cases hp : cfg.pkce with
    | false => rfl
    | true =>
      rw [Bool.true_and, List.any_eq_false]
      intro t ht
      obtain ⟨c, hc, hsf⟩ := signedValue_mem (judge_pkce hj hp t ht)
      simp [(hk c hc).2 _ hsf]
  unfold acted at h1
  simp only [h1, h2, Bool.false_eq_true, if_false]

/-- Dolev-Yao: a jar that replaces an accounted-for jar without the RP's keys is accounted for -/
theorem known_of_allowedTamper {cfg : Cfg} {m : MonState} {old new : List Http.Cookie} (hk : ∀ c ∈ old, Known cfg m c.Value)
    (hal : allowedTamper cfg old new = true) : ∀ c ∈ new, Known cfg m c.Value := by
  intro c hc
  have hc' := List.all_eq_true.1 hal c hc
  cases hv : c.Value with
  | plain raw => exact ⟨fun v hv' => (nomatch hv'), fun v hv' => (nomatch hv')⟩
  | minted hk' bk n val =>
    simp only [hv] at hc'
    by_cases hkeys : (hk' == cfg.hashKey && bk == cfg.blockKey) = true
    · simp only [hkeys, Bool.not_true, Bool.false_or, List.any_eq_true, beq_iff_eq] at hc'
      obtain ⟨c0, hc0, heq⟩ := hc'
      exact heq ▸ hk c0 hc0
    · have hn : ∀ name, signedFor cfg name (.minted hk' bk n val) = none := fun name => by
        simp only [signedFor]; split <;> simp_all
      exact ⟨fun v hv' => (nomatch (hn _).symm.trans hv'), fun v hv' => (nomatch (hn _).symm.trans hv')⟩

def Good (cfg : Cfg) (s : St) : Prop := (∀ c ∈ s.jar, Known cfg s.mon c.Value) ∧ ∀ v ∈ s.verdicts, v = none

theorem step_good (now : Int) (rp : RP) (ch : CookieHandler) (h : rp.cookieHandler = some ch) (hage : 0 ≤ ch.maxAge)
    (loginParams cbParams : List UrlOpt) (hres : NoReserved loginParams) (s : St) (ev : Ev)
    (hg : Good (cfgOf rp ch) s) : Good (cfgOf rp ch) (step now rp (cfgOf rp ch) loginParams cbParams s ev) := by
  obtain ⟨hinv, hver⟩ := hg
  have hnew : ∀ {x}, x = none → ∀ v ∈ s.verdicts ++ [x], v = none := fun hx v hv => by
    rcases List.mem_append.1 hv with hv | hv
    · exact hver v hv
    · rw [List.mem_singleton.1 hv, hx]
  cases ev with
  | login state rnd =>
    obtain ⟨hj, hl⟩ := login_core now state rnd rp ch h hage loginParams hres { cookies := s.jar }
    refine ⟨fun c hc => ?_, hnew hj⟩
    rcases mem_applyResponse hc with hold | ⟨sc, hsc, hval, _⟩
    · exact known_mono (hinv c hold)
    · refine ⟨fun v hv => ?_, fun v hv => ?_⟩
      · simp [step, onLogin, List.any_append, (hl sc hsc).1 v (hval ▸ hv)]
      · obtain ⟨h1, h2⟩ := (hl sc hsc).2 v (hval ▸ hv)
        simp [step, onLogin, List.any_append, h1, h2]
  | callback form =>
    obtain ⟨hj, hdel⟩ := callback_core now rp ch h cbParams { cookies := s.jar, form := form }
    refine ⟨fun c hc => ?_, hnew ?_⟩
    · rcases mem_applyResponse hc with hold | ⟨sc, hsc, _, hage'⟩
      · exact hinv c hold
      · exact absurd (hdel sc hsc) hage'
    · show (judgeCallback _ s.jar form _).orElse _ = none
      rw [hj]
      exact judgeHistory_of_judgeCallback hinv hj
  | tamper j =>
    simp only [step]
    split
    · exact ⟨known_of_allowedTamper hinv ‹_›, hver⟩
    · exact ⟨hinv, hver⟩

theorem run_good (now : Int) (rp : RP) (ch : CookieHandler) (h : rp.cookieHandler = some ch) (hage : 0 ≤ ch.maxAge)
    (loginParams cbParams : List UrlOpt) (hres : NoReserved loginParams) (evs : List Ev) (s : St)
    (hg : Good (cfgOf rp ch) s) :
    Good (cfgOf rp ch) (evs.foldl (step now rp (cfgOf rp ch) loginParams cbParams) s) := by
  induction evs generalizing s with
  | nil => exact hg
  | cons ev evs ih => exact ih _ (step_good now rp ch h hage loginParams cbParams hres s ev hg)

/-- EVERY history of one browser - any number of login attempts (any states, any random verifiers), callbacks with any
    query, and tampering with the jar by anyone who does not hold the RP's keys, in ANY order: every verdict of the
    per-run monitors and of the history monitor is `none`, i.e. an exchange only ever happens for a state this browser
    was handed in a signed cookie and with a verifier whose S256 challenge went into the authorization URL of the
    response that set it. -/
theorem c17_history (now : Int) (rp : RP) (ch : CookieHandler) (h : rp.cookieHandler = some ch) (hage : 0 ≤ ch.maxAge)
    (loginParams cbParams : List UrlOpt) (hres : NoReserved loginParams) (evs : List Ev) :
    ∀ v ∈ (run now rp (cfgOf rp ch) loginParams cbParams evs).verdicts, v = none := by
  have h0 : Good (cfgOf rp ch) ({} : St) :=
    ⟨fun c hc => absurd hc List.not_mem_nil, fun v hv => absurd hv List.not_mem_nil⟩
  exact (run_good now rp ch h hage loginParams cbParams hres evs {} h0).2

def exCh : CookieHandler := { securecookie := { hashKey := [1], blockKey := [2] } }
def exRP : RP :=
  { oauthConfig := { ClientID := "client", RedirectURL := "https://rp/cb", Scopes := ["openid", "email"],
                     Endpoint := { AuthURL := "https://op/auth", TokenURL := "https://op/token" } },
    cookieHandler := some exCh, pkce := true, provider := fun _ => .ok { id := 7 } }
def exQuery : List (String × String) := [("state", "s1"), ("code", "c")]

/-- accepted: own cookies, matching state -> one token request with the cookie's verifier, callback runs -/
example : observeCallback (CodeExchangeHandler 0 exRP [] []
    { cookies := [{ Name := "state", Value := .minted [1] [2] "state" "s1" }, { Name := "pkce", Value := .minted [1] [2] "pkce" "v1" }],
      form := exQuery }) =
    { tokenRequests := [{ clientID := "client", params := [("grant_type", "authorization_code"), ("code", "c"),
        ("redirect_uri", "https://rp/cb"), ("code_verifier", "v1")] }], callback := some "s1" } := by decide +kernel

/-- rejected: state cookie minted under another hash key -/
example : observeCallback (CodeExchangeHandler 0 exRP [] []
    { cookies := [{ Name := "state", Value := .minted [9] [2] "state" "s1" }, { Name := "pkce", Value := .minted [1] [2] "pkce" "v1" }],
      form := exQuery }) = { unauthorized := true } := by decide +kernel

/-- rejected: the pkce cookie replayed under the state name, no state parameter -/
example : observeCallback (CodeExchangeHandler 0 exRP [] []
    { cookies := [{ Name := "state", Value := .minted [1] [2] "pkce" "" }, { Name := "pkce", Value := .minted [1] [2] "pkce" "v1" }],
      form := [("code", "c")] }) = { unauthorized := true } := by decide +kernel

/-- rejected: valid state, pkce cookie is garbage -/
example : observeCallback (CodeExchangeHandler 0 exRP [] []
    { cookies := [{ Name := "state", Value := .minted [1] [2] "state" "s1" }, { Name := "pkce", Value := .plain "MTcz" }],
      form := exQuery }) = { unauthorized := true } := by decide +kernel

/-- the hypotheses of `c17_history` are satisfiable and an exchange really happens in a history:
    two overlapping attempts, the callback of the second one goes through, the one of the first does not -/
example : (run 0 exRP (cfgOf exRP exCh) [] [] [.login "s1" "v1", .login "s2" "v2",
      .callback [("state", "s1"), ("code", "c1")], .callback [("state", "s2"), ("code", "c2")]]).verdicts = [none, none, none, none] ∧
    (observeCallback (CodeExchangeHandler 0 exRP [] []
      { cookies := (run 0 exRP (cfgOf exRP exCh) [] [] [.login "s1" "v1", .login "s2" "v2"]).jar,
        form := [("state", "s2"), ("code", "c2")] })).callback = some "s2" ∧
    (observeCallback (CodeExchangeHandler 0 exRP [] []
      { cookies := (run 0 exRP (cfgOf exRP exCh) [] [] [.login "s1" "v1", .login "s2" "v2"]).jar,
        form := [("state", "s1"), ("code", "c1")] })).unauthorized = true := by decide +kernel

example : NoReserved [[("prompt", "login")], [("custom", "x")]] := by
  intro p hp
  simp only [List.flatten_cons, List.flatten_nil, List.append_nil, List.cons_append, List.nil_append, List.mem_cons,
    List.mem_nil_iff, or_false] at hp
  rcases hp with rfl | rfl <;> decide

end C17
