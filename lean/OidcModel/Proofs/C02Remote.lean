/-
  C02 for a LONG-LIVED remote key set (`rp.NewRemoteKeySet`), sequential use with key rotation: "the key set the verifier
  trusts" is what its JWKS endpoint served it last.  Whatever a call accepts is signed by a key of the set the endpoint
  answered the verifier's LAST download with — in particular a key the OP has withdrawn is no longer believed once a later
  download has told the verifier so (a cache that merged instead of replacing would keep it).

  The call is assembled from what factgen regenerates from pkg/client/rp/jwks.go: the decision functions `GenJwks.logic`
  (`VerifySignature`, `verifySignatureCached`, `exactMatch`, `verifySignatureRemote`; Proofs/C02 bridges them to the regenerated
  `GetKeyIDAndAlg` / `FindMatchingKey`) and the blocks of `updateKeys` (`GenJwks.facts`), run by C13's transition system.
  Every interleaving of concurrent callers is C13's subject (`C13.jwks_sound_key`, `C13.jwks_cache_safe`); this file adds the
  sequential statement with the LAST served set.
-/
import OidcModel.Proofs.C13

namespace C02
open Jwks Hand

/-- `r.cachedKeys` after `updateKeys` has run to its end for a download that returned `res`: the regenerated blocks of
    `updateKeys`, run on a state in which that download (request 0) is the one in flight -/
def cacheAfterUpdate (F : Facts) (cached : List JWK) (res : FetchRes) : List JWK :=
  let s0 : State := { cached := cached, inflight := some 0, nf := 1, fetches := fun _ => { res := some res } }
  (F.updBlocks.foldl (fun s ops => (ublock 0 s ops).1) s0).cached

/-- a successful download REPLACES the cache -/
theorem cacheAfterUpdate_ok (cached ks : List JWK) : cacheAfterUpdate GenJwks.facts cached (.keys ks) = ks := by
  rw [C13.facts_bridge]; rfl

/-- a failed download leaves it alone -/
theorem cacheAfterUpdate_fail (cached : List JWK) (k : EndKind) : cacheAfterUpdate GenJwks.facts cached (.fail k) = cached := by
  rw [C13.facts_bridge]; rfl

structure RemoteSt where
  cached : List JWK := []
  lastServed : List JWK := []     -- what the endpoint answered the verifier's last download with
  deriving Repr

/-- one call of `VerifySignature` (no concurrent caller, the download succeeds): the cached keys decide, or the set is
    downloaded again, replaces the cache and decides -/
def remoteCall (cfg : JwksSet) (st : RemoteSt) (served : List JWK) (j : JWS) : GoPair × RemoteSt :=
  if cachePhase GenJwks.logic cfg st.cached j == ((none, some needRemoteMark) : GoPair) then
    (fullVerify GenJwks.logic cfg st.cached (served, none) j,
     { cached := cacheAfterUpdate GenJwks.facts st.cached (.keys served), lastServed := served })
  else (cachePhase GenJwks.logic cfg st.cached j, st)

/-- a history: before each call the endpoint publishes `served` -/
def remoteRun (cfg : JwksSet) : RemoteSt → List (List JWK × JWS) → List (JWS × GoPair × RemoteSt)
  | _, [] => []
  | st, (served, j) :: rest =>
    let r := remoteCall cfg st served j
    (j, r.1, r.2) :: remoteRun cfg r.2 rest

theorem remoteCall_sound (cfg : JwksSet) (hd : cfg.defaultAlg = "") (st : RemoteSt) (hinv : st.cached = st.lastServed)
    (served : List JWK) (j : JWS) :
    (remoteCall cfg st served j).2.cached = (remoteCall cfg st served j).2.lastServed ∧
    ∀ p, (remoteCall cfg st served j).1.1 = some p →
      p = j.payload ∧ ∃ s k, j.Signatures = [s] ∧
        justifies { kind := .published, keys := (remoteCall cfg st served j).2.lastServed } j s k = true := by
  unfold remoteCall
  rw [C13.cachePhase_eq cfg hd]
  have hspec := C13.cacheAns_spec cfg.skipRemoteCheck st.cached j
  cases hc : C13.cacheAns cfg.skipRemoteCheck st.cached j with
  | hit p0 =>
    rw [hc] at hspec
    have hne : (((some p0, none) : GoPair) == (none, some needRemoteMark)) = false := by simp
    simp only [hne, Bool.false_eq_true, if_false]
    refine ⟨hinv, ?_⟩
    intro p hp
    simp at hp; subst hp
    refine ⟨hspec.1, ?_⟩
    rw [← hinv]
    exact C13.refAccepts_justified hspec.2
  | reject =>
    have hne : (((none, some msgBadSig) : GoPair) == (none, some needRemoteMark)) = false := C13.mark_ne_badSig
    simp only [hne, Bool.false_eq_true, if_false]
    exact ⟨hinv, by intro p hp; simp at hp⟩
  | miss =>
    simp only [beq_self_eq_true, if_true, cacheAfterUpdate_ok]
    refine ⟨trivial, ?_⟩
    intro p hp
    rw [C13.fullVerify_miss cfg hd _ _ _ hc, C13.logic_remote_ok] at hp
    cases hr : C13.remoteAns served j with
    | accept p1 =>
      rw [hr] at hp
      simp at hp; subst hp
      refine ⟨C13.remoteAns_accept_payload hr, ?_⟩
      apply C13.refAccepts_justified
      rw [C13.refAccepts_eq, hr]
    | noKey => rw [hr] at hp; simp at hp
    | badSig => rw [hr] at hp; simp at hp

/-- **rotation.**  Along every history of sequential calls on one remote key set — any key sets published before each call, any
    tokens — each accepted token is its own payload, genuinely signed by a consistently selected key of the set the endpoint
    served the verifier LAST (at or before that call). -/
theorem c02_remote_rotation (cfg : JwksSet) (hd : cfg.defaultAlg = "") (steps : List (List JWK × JWS))
    (st : RemoteSt) (hinv : st.cached = st.lastServed) :
    ∀ x ∈ remoteRun cfg st steps, ∀ p, x.2.1.1 = some p →
      p = x.1.payload ∧ ∃ s k, x.1.Signatures = [s] ∧ justifies { kind := .published, keys := x.2.2.lastServed } x.1 s k = true := by
  induction steps generalizing st with
  | nil => intro x hx; simp [remoteRun] at hx
  | cons a rest ih =>
    obtain ⟨served, j⟩ := a
    intro x hx
    have hs := remoteCall_sound cfg hd st hinv served j
    simp only [remoteRun, List.mem_cons] at hx
    rcases hx with rfl | hx
    · exact hs.2
    · exact ih _ hs.1 x hx

/-- a call on a token whose single signature is genuine under NO key of the set the endpoint served last returns no payload: a
    withdrawn key is not believed once a download has dropped it -/
theorem c02_withdrawn_key_rejected (cfg : JwksSet) (hd : cfg.defaultAlg = "") (steps : List (List JWK × JWS)) :
    ∀ x ∈ remoteRun cfg {} steps, (∀ s k, x.1.Signatures = [s] → k ∈ x.2.2.lastServed → genuine x.1 s k = false) → x.2.1.1 = none := by
  intro x hx hno
  cases hp : x.2.1.1 with
  | none => rfl
  | some p =>
    obtain ⟨_, s, k, hs, hj⟩ := c02_remote_rotation cfg hd steps {} rfl x hx p hp
    simp only [justifies, Bool.and_eq_true, List.contains_eq_mem, decide_eq_true_eq] at hj
    have := hno s k hs hj.1.1
    rw [hj.1.2] at this
    cases this

/-! non-vacuity: A is cached, the OP moves to B and the verifier learns it, A is presented again -/
section examples
def rkA : JWK := { KeyID := "a", Use := "sig", kty := .rsa, keyNo := 1 }
def rkB : JWK := { KeyID := "b", Use := "sig", kty := .rsa, keyNo := 2 }
def rtok (kid : String) (signer : Nat) : JWS :=
  { Signatures := [{ Header := { Algorithm := "RS256", KeyID := kid }, signer := some signer, signedAlg := "RS256", signedBytes := 7,
                     signedHdr := { Algorithm := "RS256", KeyID := kid } }],
    payload := { bytes := 7, claims := none } }
def rotation : List (List JWK × JWS) := [([rkA], rtok "a" 1), ([rkB], rtok "b" 2), ([rkB], rtok "a" 1)]

example : (remoteRun {} {} rotation).map (fun x => (x.2.1.1.isSome, x.2.2.cached)) =
    [(true, [rkA]), (true, [rkB]), (false, [rkB])] := by decide +kernel
/-- a cache that kept the old keys next to the new ones would believe the withdrawn key: the third call hits the cache -/
example : (cachePhase GenJwks.logic {} [rkB, rkA] (rtok "a" 1)).1.isSome = true := by decide +kernel
end examples

end C02
