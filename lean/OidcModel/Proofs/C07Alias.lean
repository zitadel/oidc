/-
  C07 - the provider does not write into the slices it gets from the request getters.

  Regenerated facts (Generated/C07Alias.lean, from the current source of pkg/op and pkg/oidc): what every function does with a value
  obtained from `GetAudience()` / `GetScopes()` / `GetAMR()` and with its own slice parameters.  Model/C07Alias.lean: the heap
  model (a slice the storage owns, a borrower's writes into the shared backing array).

  * `refresh_path_never_writes_getter_slices` - no function reachable from the refresh handlers of either router applies an
    in-place operation (index assignment, copy, clear, slices.Insert / Delete / Replace / Sort* / Reverse / Compact*, sort.*, an
    append to a re-slice) to such a value, directly or through the chain of parameters it is handed on to.  A plain `append`
    is allowed: it writes at or behind the owner's length, or reallocates.  When it stops holding, the `#eval` below
    fails with the offending site (holder, getter call, function, line, operation).
  * `view_run` - heap model: writes at or behind the owner's length leave the owner's view of the slice unchanged.
  * `c07_storage_slices_unchanged` - whatever operations the refresh path applies to a getter value, in whatever order and
    however often (any list of the regenerated touches, each with any write its kind of operation allows), the storage's view
    of its own record is the same afterwards: the grant's audience / scopes / amr recorded with a refresh token are not changed
    behind the storage's back.  This is the premise under which the immutable values of the flow model (Model/Flow.lean) stand
    for the storage's records.
-/
import OidcModel.Model.C07Alias
import OidcModel.Generated.C07Alias

namespace C07
open C07Alias

-- names the site when the theorem below fails
#eval show IO Unit from do
  let v := violations GenC07A.facts
  unless v.isEmpty do
    let sites := v.map fun t => s!"{t.fn} line {t.line} ({reprStr t.op}) on {t.src} obtained in {t.holder}"
    throw (IO.userError s!"C07 aliasing: the refresh path writes through a slice obtained from a request getter: {sites}")

/-- **regenerated fact**, evaluated once (nearly all of the work is the closure `reach` of the call graph): the analysis reaches
    getter values on the refresh path, and every operation it finds on them is a plain `append` -/
theorem refresh_path_only_appends :
    touches GenC07A.facts ≠ [] ∧ ∀ t ∈ touches GenC07A.facts, t.op.inPlace = false := by decide +kernel

/-- **regenerated fact**: no function reachable from the refresh handlers writes through a slice obtained from the request
    getters -/
theorem refresh_path_never_writes_getter_slices : violations GenC07A.facts = [] :=
  List.filter_eq_nil_iff.2 fun t ht => by simp [refresh_path_only_appends.2 t ht]

/-- non-vacuity: the analysis reaches getter values on the refresh path (the client id is appended to the audience of the
    ID token and of a JWT access token) -/
theorem refresh_path_touches_getter_slices : (touches GenC07A.facts).isEmpty = false := by
  simpa using refresh_path_only_appends.1

theorem view_apply (o : Owned) (w : Write) (h : o.len ≤ w.i) : (o.apply w).view = o.view :=
  List.take_set_of_le h

theorem len_apply (o : Owned) (w : Write) : (o.apply w).len = o.len := rfl

/-- heap model: writes at or behind the owner's length leave the owner's view unchanged -/
theorem view_run (o : Owned) (ws : List Write) (h : ∀ w ∈ ws, o.len ≤ w.i) : (o.run ws).view = o.view := by
  induction ws generalizing o with
  | nil => rfl
  | cons w ws ih =>
    simp only [Owned.run]
    rw [ih (o.apply w) (fun x hx => by rw [len_apply]; exact h x (List.mem_cons_of_mem _ hx))]
    exact view_apply o w (h w List.mem_cons_self)

/-- **C07, the storage's records**: any run of the operations the refresh path applies to a slice obtained from a request
    getter - any number, any order, each with any write its kind of operation can make - leaves the storage's view of that
    slice (its own grant record) as it was. -/
theorem c07_storage_slices_unchanged (o : Owned) (tr : List (Touch × Write))
    (h : ∀ p ∈ tr, p.1 ∈ touches GenC07A.facts ∧ allowed p.1.op o p.2) :
    (o.run (tr.map (·.2))).view = o.view := by
  apply view_run
  intro w hw
  obtain ⟨p, hp, rfl⟩ := List.mem_map.mp hw
  exact (h p hp).2 (refresh_path_only_appends.2 p.1 (h p hp).1)

/-- the heap model is not vacuous: an in-place insertion in front (what `slices.Insert(s, 0, x)` does when the slice has
    spare capacity) changes the owner's view; an append into the spare capacity does not -/
example : ({ arr := ["rs1", "rs2", "", ""], len := 2 } : Owned).view = ["rs1", "rs2"] := by decide +kernel
example : (({ arr := ["rs1", "rs2", "", ""], len := 2 } : Owned).run [⟨2, "rs2"⟩, ⟨1, "rs1"⟩, ⟨0, "web"⟩]).view = ["web", "rs1"] := by decide +kernel
example : (({ arr := ["rs1", "rs2", "", ""], len := 2 } : Owned).run [⟨2, "web"⟩]).view = ["rs1", "rs2"] := by decide +kernel
def demoPass : GetterPass := { fid := 0, fn := "h", line := 1, src := "r.GetAudience()", callee := 1, calleeName := "f", pidx := 0 }
def demoSite (op : SliceOp) : ParamSite := { fid := 1, fn := "f", pidx := 0, param := "a", line := 2, op := op }
def demoFacts (op : SliceOp) : Facts := { roots := [0], calls := [[1], []], getterPasses := [demoPass], paramSites := [demoSite op] }
/-- a table with an in-place operation on the path is flagged, the same table with a plain append is not -/
example : (violations (demoFacts .insert)).map (fun t => (t.holder, t.fn, t.line)) = [("h", "f", 2)] := by decide +kernel
example : violations (demoFacts .append) = [] := by decide +kernel

end C07
