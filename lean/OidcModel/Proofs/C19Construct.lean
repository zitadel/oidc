/-
  C19, construction path: "configured = advertised = served" for EVERY list of provider options in EVERY order.

  All statements are about the REGENERATED construction path (Generated/ProviderC19.lean, ProviderC19Router.lean, namespace GenOp):
  `NewProvider` and the deprecated constructors, every `op.Option`, `Endpoint.Validate`, `CreateRouter`, `DefaultEndpoints`, the
  verifier getters, the issuer-strategy constructors, `NewLegacyServer`, `webServer.createRouter` / `endpointRoute`.
  Regenerated definitions are unfolded only in the characterisation lemmas (`opt_char`, `newProvider_char`, `createRouter_char`, …:
  one equation per translated function, against a hand-readable description `Opt` of an option); everything else is by induction
  over the option list.  Documented order dependences: two options for the same field (the last wins), `WithHttpInterceptors`
  (appends).
-/
import OidcModel.Proofs.C19
import OidcModel.Model.ProviderC19Model
import OidcModel.GoTac

namespace C19
open Go Gen Disco GenOp

/-- the endpoint an option configures for a document member (`none`: it does not touch that member) -/
def Opt.setsEndpoint (f : Field) : Opt → Option Endpoint
  | .authEndpoint e => if f = .authorization then some e else none
  | .tokenEndpoint e => if f = .token then some e else none
  | .introspectionEndpoint e => if f = .introspection then some e else none
  | .userinfoEndpoint e => if f = .userinfo then some e else none
  | .revocationEndpoint e => if f = .revocation then some e else none
  | .endSessionEndpoint e => if f = .endSession then some e else none
  | .keysEndpoint e => if f = .jwks then some e else none
  | .deviceAuthorizationEndpoint e => if f = .deviceAuthorization then some e else none
  | .endpoints a t u r s k =>
    match f with
    | .authorization => some a | .token => some t | .userinfo => some u | .revocation => some r | .endSession => some s | .jwks => some k
    | _ => none
  | _ => none

/-- an option is refused (`ErrNilEndpoint`) iff it carries a nil endpoint -/
def Opt.valid : Opt → Bool
  | .authEndpoint e | .tokenEndpoint e | .introspectionEndpoint e | .userinfoEndpoint e | .revocationEndpoint e | .endSessionEndpoint e
  | .keysEndpoint e | .deviceAuthorizationEndpoint e => !e.isNil
  | .endpoints a t u r s k => !a.isNil && !t.isNil && !u.isNil && !r.isNil && !s.isNil && !k.isNil
  | _ => true

/-- what an accepted option does to the provider (hand-readable) -/
def Opt.apply (a : Opt) (o : C19Provider) : C19Provider :=
  match a with
  | .allowInsecure => { o with insecure := true }
  | .authEndpoint e => { o with endpoints := { o.endpoints with Authorization := e } }
  | .tokenEndpoint e => { o with endpoints := { o.endpoints with Token := e } }
  | .introspectionEndpoint e => { o with endpoints := { o.endpoints with Introspection := e } }
  | .userinfoEndpoint e => { o with endpoints := { o.endpoints with Userinfo := e } }
  | .revocationEndpoint e => { o with endpoints := { o.endpoints with Revocation := e } }
  | .endSessionEndpoint e => { o with endpoints := { o.endpoints with EndSession := e } }
  | .keysEndpoint e => { o with endpoints := { o.endpoints with JwksURI := e } }
  | .deviceAuthorizationEndpoint e => { o with endpoints := { o.endpoints with DeviceAuthorization := e } }
  | .endpoints a t u r s k =>
    { o with endpoints := { o.endpoints with Authorization := a, Token := t, Userinfo := u, Revocation := r, EndSession := s, JwksURI := k } }
  | .httpInterceptors l => { o with interceptors := o.interceptors ++ l }
  | .accessTokenKeySet k => { o with accessTokenKeySet := k }
  | .accessTokenVerifierOpts l => { o with accessTokenVerifierOpts := l }
  | .idTokenHintKeySet k => { o with idTokenHinKeySet := k }
  | .idTokenHintVerifierOpts l => { o with idTokenHintVerifierOpts := l }
  | .corsOptions c => { o with corsOpts := c }
  | .logger l => { o with logger := l }

theorem endpoint_validate_char (e : Endpoint) :
    Endpoint_Validate 0 e = if e.isNil then .error "ErrNilEndpoint" else .ok () := by
  go_char Endpoint_Validate Go.isNil Go.notNil Nilable.isNil Go.ok

/-- a loop that leaves with `x` at the first element that is `bad`, whatever the text of its body -/
theorem forRange_guard {α β : Type} (bad : α → Bool) (x : β) (body : α → Option β)
    (h : ∀ e, body e = if bad e then some x else none) (l : List α) :
    Go.forRange l body = if l.any bad then some x else none := by
  induction l with
  | nil => rfl
  | cons e es ih =>
    unfold Go.forRange
    rw [h, List.any_cons]
    cases bad e
    · exact ih
    · rfl

/-- every regenerated option: refused with `ErrNilEndpoint` iff it carries a nil endpoint, otherwise exactly `Opt.apply` -/
theorem opt_char (a : Opt) (o : C19Provider) :
    a.toOption o = if a.valid then .ok (a.apply o) else .error "ErrNilEndpoint" := by
  cases a
  case endpoints a t u r s k =>
    have hv : Opt.valid (.endpoints a t u r s k) = ![a, t, u, r, s, k].any Endpoint.isNil := by
      simp only [Opt.valid, List.any_cons, List.any_nil, Bool.or_false, Bool.not_or, Bool.and_assoc]
    simp only [Opt.toOption, WithCustomEndpoints]
    rw [forRange_guard Endpoint.isNil (.error "ErrNilEndpoint") _ (fun e => by rw [endpoint_validate_char]; cases e.isNil <;> rfl), hv]
    cases [a, t, u, r, s, k].any Endpoint.isNil <;> rfl
  -- every other option is decided by computation, once it is known whether the endpoint it carries (if any) is nil
  all_goals first | rfl | (rename_i e; obtain ⟨n, _, _⟩ := e; cases n <;> rfl)

/-- the provider `NewProvider` starts from: the package defaults -/
def initialProvider (cfg : OpConfig) (st : OpStorage) : C19Provider :=
  { config := cfg, storage := st, endpoints := DefaultEndpoints, accessTokenKeySet := .openID st, idTokenHinKeySet := .openID st,
    corsOpts := .default, logger := .default }

/-- what `NewProvider` does after the options: the issuer function, the router over the FINAL provider, decoder / encoder / crypto -/
def finishProvider (o : C19Provider) (f : DiscReq → String) : C19Provider :=
  { o with issuer := some f, Handler := some (CreateRouter 0 { o with issuer := some f } o.interceptors),
           decoder := .schema true, encoder := .made, crypto := .made }

/-- the option loop, whatever the text of its body, as long as the body is "apply the option, leave with its error" -/
theorem loopCtl_opts {σ : Type} (opts : List (σ → Go.R σ)) (o : σ) (body : σ → (σ → Go.R σ) → GoX.Ctl σ (Go.R σ))
    (h : ∀ o x, body o x = match x o with | Except.error e => GoX.Ctl.ret (Except.error e) | Except.ok o' => GoX.Ctl.next o') :
    GoX.loopCtl opts o body = match Go.applyOptions opts o with | .error e => .inl (.error e) | .ok o' => .inr o' := by
  induction opts generalizing o with
  | nil => rfl
  | cons x xs ih =>
    unfold GoX.loopCtl Go.applyOptions
    rw [h]
    cases hx : x o with
    | error e => rfl
    | ok o' => simpa using ih o'

/-- `NewProvider`: the literal with the package defaults, every option in order (first error wins), the issuer strategy asked with the
    provider's insecure flag AFTER the options, then `finishProvider` -/
theorem newProvider_char (cfg : OpConfig) (st : OpStorage) (iss : C19IssuerFn) (opts : List C19Option) :
    NewProvider 0 cfg st iss opts =
      match Go.applyOptions opts (initialProvider cfg st) with
      | .error e => .error e
      | .ok o =>
        match iss o.insecure with
        | .error e => .error e
        | .ok f => .ok (finishProvider o f) := by
  unfold NewProvider initialProvider
  simp only []
  rw [loopCtl_opts (h := by intro o x; first | rfl | (split <;> simp_all))]
  cases Go.applyOptions opts _ with
  | error e => rfl
  | ok o => simp only []; cases iss o.insecure <;> rfl

/-- which handler a document member's endpoint is for -/
def Field.mounted : Field → C19Mounted
  | .authorization => .authorize | .token => .token | .introspection => .introspection | .userinfo => .userinfo
  | .revocation => .revocation | .endSession => .endSession | .jwks => .keys | .deviceAuthorization => .deviceAuthorization
  | .checkSession => .custom 0

theorem use_middleware (r : C19Router) (m : C19Middleware) : (r.Use m).middleware = r.middleware ++ [m] := rfl
theorem use_routes (r : C19Router) (m : C19Middleware) : (r.Use m).routes = r.routes := rfl
theorem handleFunc_middleware (r : C19Router) (p : String) (h : C19Mounted) : (r.HandleFunc p h).middleware = r.middleware := rfl
theorem handleFunc_routes (r : C19Router) (p : String) (h : C19Mounted) : (r.HandleFunc p h).routes = r.routes ++ [(p, h)] := rfl

theorem same_members_iff {α : Type} {A B : List α} : (∀ x, x ∈ A ↔ x ∈ B) ↔ A ⊆ B ∧ B ⊆ A :=
  ⟨fun h => ⟨fun _ hx => (h _).mp hx, fun _ hx => (h _).mpr hx⟩, fun h _ => ⟨fun hx => h.1 hx, fun hx => h.2 hx⟩⟩

/-- `CreateRouter` on a `*Provider`: CORS (unless switched off) and the issuer interceptor behind the custom interceptors, in this order;
    the registrations (as a SET: the order of independent `HandleFunc` calls carries no meaning) are every handler at the relative path
    of the provider's own endpoint for it -/
theorem createRouter_char (p : C19Provider) (l : List Nat) :
    (CreateRouter 0 p l).middleware = (if p.corsOpts = .nil then [] else [.cors p.corsOpts]) ++ [.intercept l] ∧
    ∀ x, x ∈ (CreateRouter 0 p l).routes ↔ x ∈
        [(healthEndpoint, C19Mounted.health), (readinessEndpoint, .ready), (Const.DiscoveryEndpoint, .discovery),
          (Endpoint_Relative 0 p.endpoints.Authorization, .authorize),
          (Endpoint_Relative 0 p.endpoints.Authorization ++ authCallbackPathSuffix, .authorizeCallback),
          (Endpoint_Relative 0 p.endpoints.Token, .token), (Endpoint_Relative 0 p.endpoints.Introspection, .introspection),
          (Endpoint_Relative 0 p.endpoints.Userinfo, .userinfo), (Endpoint_Relative 0 p.endpoints.Revocation, .revocation),
          (Endpoint_Relative 0 p.endpoints.EndSession, .endSession), (Endpoint_Relative 0 p.endpoints.JwksURI, .keys),
          (Endpoint_Relative 0 p.endpoints.DeviceAuthorization, .deviceAuthorization)] := by
  constructor
  · cases hc : p.corsOpts <;> simp only [CreateRouter, Provider_CORSOptions, hc, handleFunc_middleware, use_middleware] <;> rfl
  · -- two inclusions, each element found by position: no reordering of disjunctions
    rw [same_members_iff]
    simp only [CreateRouter, handleFunc_routes, use_routes, apply_ite C19Router.routes, ite_self, Provider_asConfiguration,
      Provider_AuthorizationEndpoint, Provider_TokenEndpoint, Provider_IntrospectionEndpoint, Provider_UserinfoEndpoint,
      Provider_RevocationEndpoint, Provider_EndSessionEndpoint, Provider_KeysEndpoint, Provider_DeviceAuthorizationEndpoint,
      authCallbackPath, HAdd.hAdd, List.append_subset, List.cons_subset, List.nil_subset, List.mem_append, List.mem_cons,
      true_or, or_true, and_self]

/-- the pattern list of the constructed router is the route table the first two layers reason about (both are read off the same
    statements of `CreateRouter`, in the same order) -/
theorem createRouter_patterns (p : C19Provider) (l : List Nat) :
    (CreateRouter 0 p l).patterns = CreateRouter_routes 0 (Provider_asConfiguration p.toOpProvider) := by
  simp only [C19Router.patterns, CreateRouter, handleFunc_routes, use_routes, apply_ite C19Router.routes, ite_self,
    CreateRouter_routes, List.map_append, List.map_cons, List.map_nil, List.nil_append]

theorem default_endpoints_char : DefaultEndpoints =
    { Authorization := { path := "authorize" }, Token := { path := "oauth/token" }, Introspection := { path := "oauth/introspect" },
      Userinfo := { path := "userinfo" }, Revocation := { path := "revoke" }, EndSession := { path := "end_session" },
      JwksURI := { path := "keys" }, DeviceAuthorization := { path := "/device_authorization" }, CheckSessionIframe := .nilPtr } :=
  rfl

theorem verifier_getters_char (o : C19Provider) (ctx : DiscCtx) :
    Provider_AccessTokenVerifier 0 o ctx = ⟨GenServe.IssuerFromContext 0 ctx, o.accessTokenKeySet, o.accessTokenVerifierOpts⟩ ∧
    Provider_IDTokenHintVerifier 0 o ctx = ⟨GenServe.IssuerFromContext 0 ctx, o.idTokenHinKeySet, o.idTokenHintVerifierOpts⟩ := by
  constructor <;> rfl

def applyAll (os : List Opt) (o : C19Provider) : C19Provider := os.foldl (fun o a => a.apply o) o

theorem applyOpts_char (os : List Opt) (o : C19Provider) :
    Go.applyOptions (os.map Opt.toOption) o = if os.all Opt.valid then .ok (applyAll os o) else .error "ErrNilEndpoint" := by
  induction os generalizing o with
  | nil => rfl
  | cons a as ih =>
    simp only [List.map_cons, Go.applyOptions, opt_char, List.all_cons, applyAll, List.foldl_cons]
    by_cases hv : a.valid = true
    · simpa [hv, applyAll] using ih (a.apply o)
    · simp [hv]

/-- **what `NewProvider` returns for ANY option list**: refused with `ErrNilEndpoint` iff some option carries a nil endpoint; else the
    issuer strategy decides, asked with the insecure flag the WHOLE list leaves; else the provider is the package defaults with every
    option applied in order, finished by `finishProvider` -/
theorem c19_construct_char (cfg : OpConfig) (st : OpStorage) (iss : C19IssuerFn) (os : List Opt) :
    NewProvider 0 cfg st iss (os.map Opt.toOption) =
      if os.all Opt.valid then
        match iss (applyAll os (initialProvider cfg st)).insecure with
        | .error e => .error e
        | .ok f => .ok (finishProvider (applyAll os (initialProvider cfg st)) f)
      else .error "ErrNilEndpoint" := by
  rw [newProvider_char, applyOpts_char]
  cases os.all Opt.valid <;> rfl

/-- the value the last option that speaks about something leaves, else the start value -/
def lastOf {α : Type} (sel : Opt → Option α) : List Opt → α → α
  | [], d => d
  | a :: as, d => lastOf sel as ((sel a).getD d)

/-- a field that every option either sets or leaves alone (by default: read off `Opt.apply`, option by option) -/
theorem applyAll_lastOf {α : Type} (get : C19Provider → α) (sel : Opt → Option α) (os : List Opt) (o : C19Provider)
    (h : ∀ a o, get (a.apply o) = (sel a).getD (get o) := by intro a o; cases a <;> rfl) :
    get (applyAll os o) = lastOf sel os (get o) := by
  induction os generalizing o with
  | nil => rfl
  | cons a as ih => simp only [applyAll, List.foldl_cons, lastOf]; rw [← h]; exact ih (a.apply o)

theorem lastOf_eq_reverse {α : Type} (sel : Opt → Option α) (os : List Opt) (d : α) :
    lastOf sel os d = (os.reverse.findSome? sel).getD d := by
  induction os generalizing d with
  | nil => rfl
  | cons a as ih =>
    simp only [lastOf, List.reverse_cons, List.findSome?_append, ih]
    cases h1 : as.reverse.findSome? sel <;> cases h2 : sel a <;> simp [List.findSome?, h2]

theorem lastOf_none {α : Type} (sel : Opt → Option α) (os : List Opt) (d : α) (h : ∀ a ∈ os, sel a = none) : lastOf sel os d = d := by
  induction os generalizing d with
  | nil => rfl
  | cons a as ih =>
    simp only [lastOf, h a (List.mem_cons_self), Option.getD_none]
    exact ih d (fun b hb => h b (List.mem_cons_of_mem _ hb))

def Opt.setsInsecure : Opt → Option Bool | .allowInsecure => some true | _ => none
def Opt.setsATKeySet : Opt → Option C19KeySet | .accessTokenKeySet k => some k | _ => none
def Opt.setsHintKeySet : Opt → Option C19KeySet | .idTokenHintKeySet k => some k | _ => none
def Opt.setsATOpts : Opt → Option (List Nat) | .accessTokenVerifierOpts l => some l | _ => none
def Opt.setsHintOpts : Opt → Option (List Nat) | .idTokenHintVerifierOpts l => some l | _ => none
def Opt.setsCors : Opt → Option C19Cors | .corsOptions c => some c | _ => none
def Opt.setsLogger : Opt → Option C19Logger | .logger l => some l | _ => none
def Opt.addsInterceptors : Opt → List Nat | .httpInterceptors l => l | _ => []

theorem apply_endpoint (f : Field) (a : Opt) (o : C19Provider) :
    f.configured (a.apply o).endpoints = (a.setsEndpoint f).getD (f.configured o.endpoints) := by
  cases a <;> cases f <;> rfl

/-- `WithHttpInterceptors` appends: the interceptors of all such options, in the order of the option list (documented order dependence) -/
theorem applyAll_interceptors (os : List Opt) (o : C19Provider) :
    (applyAll os o).interceptors = o.interceptors ++ os.flatMap Opt.addsInterceptors := by
  induction os generalizing o with
  | nil => simp [applyAll]
  | cons a as ih =>
    simp only [applyAll, List.foldl_cons, List.flatMap_cons] at ih ⊢
    rw [ih (a.apply o)]
    cases a <;> simp [Opt.apply, Opt.addsInterceptors]

theorem lastOf_insecure (os : List Opt) (d : Bool) : lastOf Opt.setsInsecure os d = (d || os.contains .allowInsecure) := by
  induction os generalizing d with
  | nil => simp [lastOf]
  | cons a as ih =>
    simp only [lastOf, ih, List.contains_cons]
    cases a <;> cases d <;> simp [Opt.setsInsecure]

theorem applyAll_insecure (os : List Opt) (o : C19Provider) :
    (applyAll os o).insecure = (o.insecure || os.contains .allowInsecure) := by
  rw [applyAll_lastOf (·.insecure) Opt.setsInsecure, lastOf_insecure]

/-- the endpoint of a document member the integrator configured with an option list: the last option for it, else the package default -/
def configuredEndpoint (f : Field) (os : List Opt) : Endpoint := lastOf (Opt.setsEndpoint f) os (f.configured DefaultEndpoints)

theorem c19_construct_ok (cfg : OpConfig) (st : OpStorage) (iss : C19IssuerFn) (os : List Opt) (p : C19Provider)
    (h : NewProvider 0 cfg st iss (os.map Opt.toOption) = .ok p) :
    os.all Opt.valid = true ∧
    ∃ f, iss (os.contains .allowInsecure) = .ok f ∧ p = finishProvider (applyAll os (initialProvider cfg st)) f := by
  rw [c19_construct_char, applyAll_insecure] at h
  split at h
  · split at h <;> cases h
    exact ⟨‹_›, _, ‹_›, rfl⟩
  · cases h

/-- **the provider's own endpoint set for ANY option list**: per document member the last option for it, else `DefaultEndpoints`;
    `check_session_iframe` cannot be configured -/
theorem c19_construct_endpoints (cfg : OpConfig) (st : OpStorage) (iss : C19IssuerFn) (os : List Opt) (p : C19Provider)
    (h : NewProvider 0 cfg st iss (os.map Opt.toOption) = .ok p) (f : Field) :
    f.configured p.endpoints = configuredEndpoint f os ∧ p.endpoints.CheckSessionIframe.isNil = true := by
  obtain ⟨_, g, _, rfl⟩ := c19_construct_ok cfg st iss os p h
  have he := fun f => applyAll_lastOf (fun p => f.configured p.endpoints) _ os (initialProvider cfg st) (apply_endpoint f)
  have hcs : configuredEndpoint .checkSession os = DefaultEndpoints.CheckSessionIframe :=
    lastOf_none _ _ _ fun a _ => by cases a <;> rfl
  exact ⟨he f, congrArg Endpoint.isNil ((he .checkSession).trans hcs)⟩

/-- **configured = mounted = advertised**, for every option list in every order (Provider router): the constructed provider carries a
    router; the handler of every document member is mounted at the relative path of the CONFIGURED endpoint (last option for it, else the
    default); the discovery route is mounted; and the document the discovery route serves to ANY request advertises `Absolute(issuer of
    that request)` of the same configured endpoint. -/
theorem c19_configured_mounted_advertised (cfg : OpConfig) (st : OpStorage) (iss : C19IssuerFn) (os : List Opt) (p : C19Provider)
    (h : NewProvider 0 cfg st iss (os.map Opt.toOption) = .ok p) :
    ∃ router fIss, p.Handler = some router ∧ p.issuer = some fIss ∧
      (Const.DiscoveryEndpoint, C19Mounted.discovery) ∈ router.routes ∧
      router.patterns = routes (inputOf p "") ∧
      router.middleware = (if lastOf Opt.setsCors os .default = .nil then [] else [.cors (lastOf Opt.setsCors os .default)]) ++
        [.intercept (os.flatMap Opt.addsInterceptors)] ∧
      (∀ f, f ≠ .checkSession → (Endpoint_Relative 0 (configuredEndpoint f os), f.mounted) ∈ router.routes) ∧
      (∀ (r : DiscReq) f, r.parseFormFails = false → ∃ d, serve fIss (discoveryRoute (inputOf p "")) r = [.json d] ∧ d.Issuer = fIss r ∧
          f.advertised d = Endpoint_Absolute 0 (configuredEndpoint f os) (fIss r)) := by
  have hep := c19_construct_endpoints cfg st iss os p h
  obtain ⟨_, g, _, rfl⟩ := c19_construct_ok cfg st iss os p h
  refine ⟨_, g, rfl, rfl, ?_, ?_, ?_, ?_, ?_⟩
  · rw [(createRouter_char _ _).2]; simp only [List.mem_cons, true_or, or_true]
  · rw [createRouter_patterns]; rfl
  · rw [(createRouter_char _ _).1]
    simp only []
    rw [applyAll_lastOf (·.corsOpts) Opt.setsCors, applyAll_interceptors]
    rfl
  · intro f hf
    rw [(createRouter_char _ _).2]
    have : f.configured (applyAll os (initialProvider cfg st)).endpoints = _ := (hep f).1
    cases f <;> first | exact absurd rfl hf |
      (simp only [Field.configured] at this; simp only [this, Field.mounted, List.mem_cons, true_or, or_true])
  · intro r f hform
    have hw : ({ inputOf _ "" with issuer := g r } : Input).wellFormed := fun _ => ⟨rfl, (hep f).2⟩
    refine ⟨_, c19_document_per_request (inputOf _ "") g r hform, c19_issuer_eq _, ?_⟩
    rw [← (hep f).1]
    exact (advertised_eq _ hw f (fun hr => by cases hr)).trans (congrArg (Endpoint_Absolute 0 _) (c19_issuer_eq _))

/-- **C19 for every constructed provider**: whatever options in whatever order, a provider `NewProvider` returns satisfies the property's
    monitor for every request issuer (Provider router) -/
theorem c19_constructed_truthful (cfg : OpConfig) (st : OpStorage) (iss : C19IssuerFn) (os : List Opt) (p : C19Provider)
    (h : NewProvider 0 cfg st iss (os.map Opt.toOption) = .ok p) (issuer : String) :
    monitor (inputOf p issuer).cfg (modelObs (inputOf p issuer)) = none :=
  c19_holds _ (fun _ => ⟨rfl, (c19_construct_endpoints cfg st iss os p h .checkSession).2⟩)

/-- … and behind `NewLegacyServer(p, eps)` on the Server router, for EVERY endpoint set handed to it (the provider's own options do not
    matter there) -/
theorem c19_legacy_constructed_truthful (p : C19Provider) (eps : Endpoints) (issuer : String) :
    monitor (legacyInputOf (NewLegacyServer 0 p eps) issuer).cfg (modelObs (legacyInputOf (NewLegacyServer 0 p eps) issuer)) = none ∧
    (legacyInputOf (NewLegacyServer 0 p eps) issuer).cfg.endpoints = eps :=
  ⟨c19_holds _ (fun hr => by cases hr), rfl⟩

/-- `endpointRoute`: nothing for a nil endpoint, else one registration at its relative path -/
def optRoute (e : Endpoint) (h : C19Mounted) : List (String × C19Mounted) := if e.isNil then [] else [(Endpoint_Relative 0 e, h)]

theorem mem_optRoute {e : Endpoint} (h : C19Mounted) (hn : e.isNil = false) : (Endpoint_Relative 0 e, h) ∈ optRoute e h := by
  simp only [optRoute, hn, Bool.false_eq_true, if_false, List.mem_singleton]

theorem endpointRoute_char (r : C19Router) (e : Endpoint) (h : C19Mounted) :
    webServer_endpointRoute 0 r e h = { r with routes := r.routes ++ optRoute e h } := by
  unfold webServer_endpointRoute optRoute
  cases he : e.isNil <;> simp [Go.notNil, Nilable.isNil, he, C19Router.HandleFunc]

theorem webServer_createRouter_char (s : C19WebServer) :
    (webServer_createRouter 0 s).router.routes = s.router.routes ++
      ([(healthEndpoint, .health), (readinessEndpoint, .ready), (Const.DiscoveryEndpoint, .discovery)] ++
       optRoute s.endpoints.Authorization .authorize ++ optRoute s.endpoints.DeviceAuthorization .deviceAuthorization ++
       optRoute s.endpoints.Token .token ++ optRoute s.endpoints.Introspection .introspection ++ optRoute s.endpoints.Userinfo .userinfo ++
       optRoute s.endpoints.Revocation .revocation ++ optRoute s.endpoints.EndSession .endSession ++ optRoute s.endpoints.JwksURI .keys) ∧
    (webServer_createRouter 0 s).router.middleware = s.router.middleware := by
  unfold webServer_createRouter
  simp [endpointRoute_char, C19Router.HandleFunc, List.append_assoc]

/-- what the Server router mounts: every non-nil endpoint of ITS endpoint set gets its own handler at its relative path, on top of
    whatever the options left on the router -/
theorem c19_legacy_mounted (s : C19WebServer) (f : Field) (hf : f ≠ .checkSession) (hn : (f.configured s.endpoints).isNil = false) :
    (Endpoint_Relative 0 (f.configured s.endpoints), f.mounted) ∈ (webServer_createRouter 0 s).router.routes ∧
    (Const.DiscoveryEndpoint, C19Mounted.discovery) ∈ (webServer_createRouter 0 s).router.routes := by
  rw [(webServer_createRouter_char s).1]
  refine ⟨?_, by simp only [List.mem_append, List.mem_cons, true_or, or_true]⟩
  cases f <;> first | exact absurd rfl hf |
    (simp only [Field.configured] at hn
     simp only [List.mem_append, mem_optRoute _ hn, Field.configured, Field.mounted, true_or, or_true])

/-- **defaults**: without options the provider has exactly the package defaults -/
theorem c19_construct_defaults (cfg : OpConfig) (st : OpStorage) (iss : C19IssuerFn) (p : C19Provider)
    (h : NewProvider 0 cfg st iss [] = .ok p) :
    p.endpoints = DefaultEndpoints ∧
    (Field.all.map fun f => Endpoint_Relative 0 (f.configured p.endpoints)) =
      ["/authorize", "/oauth/token", "/oauth/introspect", "/userinfo", "/revoke", "/end_session", "/keys", "/device_authorization", ""] ∧
    p.insecure = false ∧ p.accessTokenKeySet = .openID st ∧ p.idTokenHinKeySet = .openID st ∧
    p.accessTokenVerifierOpts = [] ∧ p.idTokenHintVerifierOpts = [] ∧ p.interceptors = [] ∧
    p.corsOpts = .default ∧ p.logger = .default ∧ p.decoder = .schema true ∧ p.config = cfg ∧ p.storage = st ∧
    iss false = .ok (p.issuer.getD (fun _ => "")) := by
  obtain ⟨_, g, hg, rfl⟩ := c19_construct_ok cfg st iss [] p h
  have hd : (finishProvider (applyAll [] (initialProvider cfg st)) g).endpoints = DefaultEndpoints := rfl
  refine ⟨hd, ?_, rfl, rfl, rfl, rfl, rfl, rfl, rfl, rfl, rfl, rfl, rfl, hg⟩
  rw [hd, default_endpoints_char]; decide +kernel

/-- **key sets and verifier options**: for every option list, each per-request verifier getter hands the verifier constructor the issuer
    of the request context, the key set of the LAST `With…KeySet` option (else the storage's keys) and the option list of the last
    `With…VerifierOpts` option (else none) — each getter its own -/
theorem c19_construct_keysets (cfg : OpConfig) (st : OpStorage) (iss : C19IssuerFn) (os : List Opt) (p : C19Provider)
    (h : NewProvider 0 cfg st iss (os.map Opt.toOption) = .ok p) (ctx : DiscCtx) :
    Provider_AccessTokenVerifier 0 p ctx =
      ⟨GenServe.IssuerFromContext 0 ctx, lastOf Opt.setsATKeySet os (.openID st), lastOf Opt.setsATOpts os []⟩ ∧
    Provider_IDTokenHintVerifier 0 p ctx =
      ⟨GenServe.IssuerFromContext 0 ctx, lastOf Opt.setsHintKeySet os (.openID st), lastOf Opt.setsHintOpts os []⟩ := by
  obtain ⟨_, g, _, rfl⟩ := c19_construct_ok cfg st iss os p h
  rw [(verifier_getters_char _ ctx).1, (verifier_getters_char _ ctx).2]
  exact ⟨congr (congrArg (C19VerifierArgs.mk _) (applyAll_lastOf (·.accessTokenKeySet) _ os _)) (applyAll_lastOf (·.accessTokenVerifierOpts) _ os _),
    congr (congrArg (C19VerifierArgs.mk _) (applyAll_lastOf (·.idTokenHinKeySet) _ os _)) (applyAll_lastOf (·.idTokenHintVerifierOpts) _ os _)⟩

/-- without `WithIDTokenHintKeySet` the id_token_hint verifier uses the keys of the storage — whatever else is configured, in particular
    whatever `WithAccessTokenKeySet` says (and the other way round) -/
theorem c19_hint_keyset_default (cfg : OpConfig) (st : OpStorage) (iss : C19IssuerFn) (os : List Opt) (p : C19Provider)
    (h : NewProvider 0 cfg st iss (os.map Opt.toOption) = .ok p) (ctx : DiscCtx) :
    ((∀ a ∈ os, a.setsHintKeySet = none) → (Provider_IDTokenHintVerifier 0 p ctx).keySet = .openID st) ∧
    ((∀ a ∈ os, a.setsATKeySet = none) → (Provider_AccessTokenVerifier 0 p ctx).keySet = .openID st) := by
  have hk := c19_construct_keysets cfg st iss os p h ctx
  exact ⟨fun hn => by rw [hk.2]; exact lastOf_none _ _ _ hn, fun hn => by rw [hk.1]; exact lastOf_none _ _ _ hn⟩

/-- **insecure**: the issuer strategy is asked with the insecure flag of the WHOLE option list (wherever `WithAllowInsecure` stands), and
    `Insecure()` reports it -/
theorem c19_construct_insecure (cfg : OpConfig) (st : OpStorage) (iss : C19IssuerFn) (os : List Opt) (p : C19Provider)
    (h : NewProvider 0 cfg st iss (os.map Opt.toOption) = .ok p) :
    Provider_Insecure 0 p.toOpProvider = os.contains .allowInsecure ∧ ∃ f, iss (os.contains .allowInsecure) = .ok f ∧ p.issuer = some f := by
  obtain ⟨_, g, hg, rfl⟩ := c19_construct_ok cfg st iss os p h
  exact ⟨applyAll_insecure os _, g, hg, rfl⟩

def Opt.writes : Opt → List Nat
  | .allowInsecure => [0]
  | .authEndpoint _ => [1] | .tokenEndpoint _ => [2] | .introspectionEndpoint _ => [3] | .userinfoEndpoint _ => [4]
  | .revocationEndpoint _ => [5] | .endSessionEndpoint _ => [6] | .keysEndpoint _ => [7] | .deviceAuthorizationEndpoint _ => [8]
  | .endpoints .. => [1, 2, 4, 5, 6, 7]
  | .httpInterceptors _ => [9]
  | .accessTokenKeySet _ => [10] | .accessTokenVerifierOpts _ => [11] | .idTokenHintKeySet _ => [12] | .idTokenHintVerifierOpts _ => [13]
  | .corsOptions _ => [14] | .logger _ => [15]

def Opt.independent (a b : Opt) : Bool := a.writes.all (fun x => !b.writes.contains x)

theorem apply_comm (a b : Opt) (o : C19Provider) (h : a.independent b = true) : a.apply (b.apply o) = b.apply (a.apply o) := by
  -- `Opt.apply` is unfolded before the sides are compared: as applications of `Opt.apply` to different options they are first
  -- compared argument by argument, which fails only after the inner providers have been compared field by field
  cases a <;> cases b <;> first | (dsimp only [Opt.apply]; done) | cases h

/-- **option order does not matter** except where documented: exchanging two neighbouring options that do not write the same provider
    field leaves the result of `NewProvider` unchanged — acceptance, error, and every field of the provider. (Any reordering of pairwise
    independent options is a sequence of such exchanges. Two options for the same field: the last wins, `c19_construct_endpoints` /
    `c19_construct_keysets`; two `WithHttpInterceptors`: appended in order, `c19_configured_mounted_advertised`.) -/
theorem c19_option_order (cfg : OpConfig) (st : OpStorage) (iss : C19IssuerFn) (xs ys : List Opt) (a b : Opt)
    (h : a.independent b = true) :
    NewProvider 0 cfg st iss ((xs ++ a :: b :: ys).map Opt.toOption) = NewProvider 0 cfg st iss ((xs ++ b :: a :: ys).map Opt.toOption) := by
  have hall : (xs ++ a :: b :: ys).all Opt.valid = (xs ++ b :: a :: ys).all Opt.valid := by
    simp only [List.all_append, List.all_cons, Bool.and_left_comm]
  have happ : applyAll (xs ++ a :: b :: ys) (initialProvider cfg st) = applyAll (xs ++ b :: a :: ys) (initialProvider cfg st) := by
    simp only [applyAll, List.foldl_append, List.foldl_cons, apply_comm a b _ h]
  rw [c19_construct_char, c19_construct_char, hall, happ]

/-! ### the deprecated constructors and the issuer-strategy constructors -/

theorem constructors_char (parse : String → Go.R DiscURL) (parseFwd : String → List String → Go.R (List String)) (canon : String → String)
    (x : String) (cfg : OpConfig) (st : OpStorage) (opts : List C19Option) :
    NewOpenIDProvider 0 parse x cfg st opts = NewProvider 0 cfg st (GenServe.StaticIssuer 0 parse x) opts ∧
    NewDynamicOpenIDProvider 0 parse parseFwd x cfg st opts =
      NewProvider 0 cfg st (GenServe.issuerFromForwardedOrHost 0 parse parseFwd x { headers := [] }) opts ∧
    NewForwardedOpenIDProvider 0 parse parseFwd canon x cfg st opts =
      NewProvider 0 cfg st (GenServe.issuerFromForwardedOrHost 0 parse parseFwd x { headers := [canon "forwarded"] }) opts :=
  ⟨rfl, rfl, rfl⟩

theorem foldl_customHeaders (canon : String → String) (customs : List (List String)) (c0 : DiscIssuerConfig) :
    List.foldl (fun c opt => opt c) c0 (customs.map (WithIssuerFromCustomHeaders 0 canon)) =
      { headers := match customs.getLast? with | some hs => hs.map canon | none => c0.headers } := by
  induction customs generalizing c0 with
  | nil => cases c0; simp
  | cons hs rest ih =>
    simp only [List.map_cons, List.foldl_cons]
    rw [ih]
    cases rest with
    | nil => simp [WithIssuerFromCustomHeaders, Go.mapList]
    | cons r rs =>
      have : (r :: rs).getLast? = some ((r :: rs).getLast (by simp)) := List.getLast?_eq_some_getLast (by simp)
      simp [List.getLast?_cons_cons, this]

/-- `IssuerFromForwardedOrHost(path, opts...)`: the header list is `[Forwarded]`, or the canonicalised names of the LAST
    `WithIssuerFromCustomHeaders` option -/
theorem issuerFromForwardedOrHost_opts (parse : String → Go.R DiscURL) (parseFwd : String → List String → Go.R (List String))
    (canon : String → String) (path : String) (customs : List (List String)) :
    IssuerFromForwardedOrHost 0 parse parseFwd canon path (customs.map (WithIssuerFromCustomHeaders 0 canon)) =
      GenServe.issuerFromForwardedOrHost 0 parse parseFwd path
        { headers := match customs.getLast? with | some hs => hs.map canon | none => [canon "forwarded"] } := by
  unfold IssuerFromForwardedOrHost
  simp only [GoX.foldList, foldl_customHeaders]

/-- the hand-written `Disco.issuerFn` / `IssuerStrategy.issuerConfig` of the second layer IS what the regenerated constructors build
    (the identity canonicalisation stands for header names the integrator already wrote canonically) -/
theorem issuerFn_regenerated (o : ServeOracles) (path : String) (insecure : Bool) :
    issuerFn o (.fromHost path) none insecure = IssuerFromHost 0 o.urlParse o.parseFwd path insecure ∧
    issuerFn o (.fromForwarded path) none insecure =
      IssuerFromForwardedOrHost 0 o.urlParse o.parseFwd (fun h => if h = "forwarded" then "Forwarded" else h) path [] insecure ∧
    ∀ iss, issuerFn o (.static iss) none insecure = GenServe.StaticIssuer 0 o.urlParse iss insecure :=
  ⟨rfl, rfl, fun _ => rfl⟩

def exIss : C19IssuerFn := fun insecure => .ok (fun r => (if insecure then "http://" else "https://") ++ r.Host)
def exOpts : List Opt :=
  [.tokenEndpoint { path := "/custom/token" }, .allowInsecure, .accessTokenKeySet (.custom 7), .httpInterceptors [1, 2],
   .endpoints { path := "a" } { path := "tok" } { path := "me" } { path := "rev" } { path := "out" } { path := "jwks", url := "https://ext.example/jwks" },
   .authEndpoint { path := "/login/authorize" }, .httpInterceptors [3]]

/-- a concrete option list is accepted; the LAST option per member wins; the access-token key set does not leak into the hint verifier -/
example : (match NewProvider 0 {} {} exIss (exOpts.map Opt.toOption) with
    | .ok p => (p.endpoints.Token.path, p.endpoints.Authorization.path, p.insecure, p.accessTokenKeySet, p.idTokenHinKeySet, p.interceptors,
        (p.Handler.map (·.lookup "/tok")), (p.Handler.map (·.lookup "/custom/token")), p.issuer.map (· { Host := "h" }))
    | .error _ => default) =
    ("tok", "/login/authorize", true, .custom 7, .openID {}, [1, 2, 3], some (some .token), some none, some "http://h") := by rfl
/-- one nil endpoint anywhere in the list refuses the construction -/
example : (NewProvider 0 {} {} exIss ((exOpts ++ [Opt.keysEndpoint .nilPtr]).map Opt.toOption)).toOption.isNone = true := by decide +kernel
example : Opt.independent (.tokenEndpoint {}) (.authEndpoint {}) = true ∧ Opt.independent (.tokenEndpoint {}) (.endpoints {} {} {} {} {} {}) = false := by decide +kernel
example : configuredEndpoint .token exOpts = { path := "tok" } ∧ configuredEndpoint .introspection exOpts = { path := "oauth/introspect" } := by decide +kernel

end C19
