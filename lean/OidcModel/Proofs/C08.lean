/-
  C08 proofs.  Everything is about the definitions REGENERATED from pkg/op/userinfo.go, token_intospection.go,
  token_revocation.go, token_exchange.go (getTokenIDAndClaims), op.go (Provider.AccessTokenVerifier) and the LegacyServer
  twins in server_legacy.go (Generated/Resource.lean, namespace `GenRes`), dispatched by Model/ResourceFlow.lean:

  * bridges (`getTokenIDAndSubject_eq`, …, `Userinfo_eq`, `Introspect_eq`, `Revoke_eq`, `LegacyRevocation_eq`): each regenerated function
    IS its hand-readable reference (`resolve`, `refUserinfo`, `refIntrospect`, `refRevoke`) - both routers denote the same function;
  * `honoured_cases`: all a step can honour is the live record (`honouredTok`) whose id the readers extracted from a presented
    access-token string, or a live refresh token presented by name; the clauses C08 (1) … (5) follow from it and from
    `dead_step` (deadness of access AND refresh tokens is an invariant of every operation), for ANY oracle (any plaintext, any parser);
  * `parseIntrospection_ok`, `parseRevocation_ok` — who may ask; `introspectRequest_eq`, `revokeRequest_eq` — the endpoints from the
    HTTP request on are the parser followed by the operation of the model.
  The examples at the end run the model on both routers (non-vacuity).
-/
import OidcModel.Model.ResourceFlow
import OidcModel.Proofs.C01
import OidcModel.Proofs.C02
namespace Res
open Go Hand

theorem lookup_some {s : St} {iss id : String} {t : Tok} (h : s.lookup iss id = some t) :
    t ∈ s.toks ∧ t.id = id ∧ t.gone = false ∧ s.sees iss t.issuer = true := by
  have h2 := List.find?_some h
  simp only [Bool.and_eq_true, beq_iff_eq, Bool.not_eq_true'] at h2
  exact ⟨List.mem_of_find?_eq_some h, h2.1.1, h2.1.2, h2.2⟩

theorem liveTok_some {s : St} {iss id : String} {t : Tok} (h : s.liveTok iss id = some t) :
    t ∈ s.toks ∧ t.id = id ∧ t.live = true ∧ s.sees iss t.issuer = true := by
  obtain ⟨hf, hl⟩ := Option.filter_eq_some_iff.mp h
  exact ⟨(lookup_some hf).1, (lookup_some hf).2.1, hl, (lookup_some hf).2.2.2⟩

theorem lookupR_some {s : St} {iss tok : String} {r : RTok} (h : s.lookupR iss tok = some r) :
    r ∈ s.rtoks ∧ r.token = tok ∧ r.gone = false ∧ s.sees iss r.issuer = true := by
  have h2 := List.find?_some h
  simp only [Bool.and_eq_true, beq_iff_eq, Bool.not_eq_true'] at h2
  exact ⟨List.mem_of_find?_eq_some h, h2.1.1, h2.1.2, h2.2⟩

theorem liveR_some {s : St} {iss tok : String} {r : RTok} (h : s.liveR iss tok = some r) :
    r ∈ s.rtoks ∧ r.token = tok ∧ r.live = true ∧ s.sees iss r.issuer = true := by
  obtain ⟨hf, hl⟩ := Option.filter_eq_some_iff.mp h
  exact ⟨(lookupR_some hf).1, (lookupR_some hf).2.1, hl, (lookupR_some hf).2.2.2⟩

/-- a partitioning storage shows a call made under issuer `iss` only the records created under `iss` -/
theorem sees_partitioned {s : St} {iss r : String} (hp : s.partitioned = true) (h : s.sees iss r = true) : r = iss := by
  simpa [St.sees, hp] using h

/-- the token is known to the storage and neither expired, revoked nor removed -/
def Live (s : St) : Ref → Prop
  | .at id => ∃ t, t ∈ s.toks ∧ t.id = id ∧ t.live = true
  | .rt tok => ∃ r, r ∈ s.rtoks ∧ r.token = tok ∧ r.live = true

theorem setUserinfo_ok {s : St} {iss id sub : String} {u : ResUserInfo} (h : s.SetUserinfoFromToken iss id sub = .ok u) :
    ∃ t, s.liveTok iss id = some t ∧ u = { Subject := if t.openid then t.subject else "", tokenID := t.id } := by
  unfold St.SetUserinfoFromToken at h
  split at h
  · rename_i t ht; simp at h; exact ⟨t, ht, h.symm⟩
  · simp at h

theorem setIntrospection_ok {s : St} {resp r : ResIntrospection} {iss id sub cid : String} (h : s.SetIntrospectionFromToken iss resp id sub cid = .ok r) :
    ∃ t, s.liveTok iss id = some t ∧ t.audience.contains cid = true ∧
      r = { resp with Active := true, Subject := t.subject, ClientID := t.client, Audience := t.audience, tokenID := t.id } := by
  unfold St.SetIntrospectionFromToken at h
  split at h
  · rename_i t ht
    split at h
    · rename_i ha; simp at h; exact ⟨t, ht, ha, h.symm⟩
    · simp at h
  · simp at h

theorem opVerifyAccessToken_ok {now : Int} {t : Token} {v : Verifier} {c : Claims} (h : Gen.OPVerifyAccessToken now t v = .ok c) :
    ∃ p c0, ParseToken now t = .ok (p, c0) ∧ c0.iss = v.Issuer ∧ Gen.CheckSignature now t p c0 v.SupportedSignAlgs v.KeySet = .ok c ∧
      Gen.CheckExpiration now c v.Offset = .ok () := by
  unfold Gen.OPVerifyAccessToken Gen.DecryptToken at h
  simp only [] at h
  repeat' (split at h <;> try (simp at h))
  subst h
  exact ⟨_, _, by assumption, C01.checkIssuer_ok.mp (by assumption), by assumption, by assumption⟩

/-- hand-readable meaning of the three regenerated readers of a presented access-token string: an opaque token is whatever
    `Decrypt` makes of it, split on ':' into exactly two parts; otherwise a JWT the request's verifier accepts -/
def resolve (now : Int) (p : ResProvider) (tok : String) : Option (String × String) :=
  match p.decrypt tok with
  | .ok plain =>
    match Hand.resSplit plain ":" with
    | [a, b] => some (a, b)
    | _ => none
  | .error _ =>
    match Gen.OPVerifyAccessToken now (p.tokenOf tok) p.verifier with
    | .ok c => some (p.jtiOf tok, c.sub)
    | .error _ => none

def resolved : Option (String × String) → String × String × Bool
  | some (a, b) => (a, b, true)
  | none => ("", "", false)

theorem len_eq_two {l : List String} : Go.len l = (2 : Int) ↔ ∃ a b, l = [a, b] := by
  match l with
  | [] | [_] => simp [Go.len, HasLen.len]
  | [a, b] => simp [Go.len, HasLen.len]
  | _ :: _ :: _ :: r => simp [Go.len, HasLen.len]; omega

theorem getTokenIDAndSubject_eq (now : Int) (p : ResProvider) (tok : String) :
    GenRes.getTokenIDAndSubject now p tok = resolved (resolve now p tok) := by
  unfold resolve
  go_spec [GenRes.getTokenIDAndSubject, resolved, ResProvider.Crypto, ResProvider.AccessTokenVerifier,
    Hand.resVerifyAccessToken, len_eq_two, Go.index]

/-- the regenerated `revocationKeySet.verifier`: the provider's verifier for the request comes back with ALL its settings (issuer,
    supported signing algorithms, offsets) and a key set that verifies as its own -/
theorem revocationKeySetVerifier_eq (now : Int) (k : ResRevocationKeys) (v : Verifier) : GenRes.revocationKeySetVerifier now k v = v := by
  unfold GenRes.revocationKeySetVerifier; cases v; rfl

/-- the key-set recorder of the revocation reader hands the verifier on unchanged and never holds an error in this model -/
theorem getTokenIDAndSubjectForRevocation_eq (now : Int) (p : ResProvider) (tok : String) :
    GenRes.getTokenIDAndSubjectForRevocation now p tok = .ok (resolved (resolve now p tok)) := by
  unfold resolve
  go_spec [GenRes.getTokenIDAndSubjectForRevocation, resolved, ResProvider.Crypto, ResProvider.AccessTokenVerifier,
    Hand.resVerifyAccessToken, len_eq_two, Go.index, revocationKeySetVerifier_eq, Go.notNil, Go.Nilable.isNil,
    show (default : ResRevocationKeys).err.isSet = false from rfl]

/-- `getTokenIDAndClaims` (token exchange): the same decision, plus the claims of a JWT -/
theorem getTokenIDAndClaims_eq (now : Int) (p : ResProvider) (tok : String) :
    ((GenRes.getTokenIDAndClaims now p tok).1, (GenRes.getTokenIDAndClaims now p tok).2.1, (GenRes.getTokenIDAndClaims now p tok).2.2.2)
      = resolved (resolve now p tok) := by
  unfold resolve
  go_spec [GenRes.getTokenIDAndClaims, resolved, ResProvider.Crypto, ResProvider.AccessTokenVerifier,
    Hand.resVerifyAccessToken, len_eq_two, Go.index]

/-- reference reading of `op.Userinfo` -/
def refUserinfo (now : Int) (p : ResProvider) (rq : Go.R String) : ResResp :=
  match rq with
  | .error _ => .httpError "access token missing" 401
  | .ok tok =>
    match resolve now p tok with
    | none => .httpError "access token invalid" 401
    | some (id, sub) =>
      match p.store.SetUserinfoFromToken p.ctxIssuer id sub with
      | .error err => .jsonError err 403
      | .ok info => .userinfo info

theorem Userinfo_eq (now : Int) (rq : Go.R String) (p : ResProvider) : GenRes.Userinfo now rq p = refUserinfo now p rq := by
  unfold refUserinfo
  go_spec [GenRes.Userinfo, getTokenIDAndSubject_eq, resolved, Hand.resParseUserinfoRequest, ResProvider.Storage,
    View.SetUserinfoFromToken]

/-- reference reading of `LegacyServer.UserInfo` -/
def refLegacyUserInfo (now : Int) (p : ResProvider) (tok : String) : Go.R ResUserInfo :=
  match resolve now p tok with
  | none => .error "401:ErrAccessDenied"
  | some (id, sub) =>
    match p.store.SetUserinfoFromToken p.ctxIssuer id sub with
    | .error err => .error ("403:" ++ err)
    | .ok info => .ok info

theorem LegacyUserInfo_eq (now : Int) (p : ResProvider) (r : ResRequest) :
    GenRes.LegacyUserInfo now ⟨p⟩ r = refLegacyUserInfo now p r.Data.AccessToken := by
  unfold refLegacyUserInfo
  go_spec [GenRes.LegacyUserInfo, getTokenIDAndSubject_eq, resolved, ResProvider.Storage, View.SetUserinfoFromToken,
    Hand.NewResponse, Hand.resNewStatusError]

/-- reference reading of `op.Introspect` / `LegacyServer.Introspect`: the response stays zero-valued unless the storage confirms -/
def refIntrospect (now : Int) (p : ResProvider) (tok cid : String) : ResIntrospection :=
  match resolve now p tok with
  | none => default
  | some (id, sub) =>
    match p.store.SetIntrospectionFromToken p.ctxIssuer default id sub cid with
    | .error _ => default
    | .ok r => { r with Active := true }

theorem Introspect_eq (now : Int) (rq : Go.R (String × String)) (p : ResProvider) :
    GenRes.Introspect now rq p = match rq with
      | .error err => .httpError err 401
      | .ok (tok, cid) => .introspection (refIntrospect now p tok cid) := by
  unfold refIntrospect
  go_spec [GenRes.Introspect, getTokenIDAndSubject_eq, resolved, Hand.resParseTokenIntrospectionRequest,
    ResProvider.Storage, View.SetIntrospectionFromToken]

theorem LegacyIntrospect_eq (now : Int) (p : ResProvider) (r : ResRequest) :
    GenRes.LegacyIntrospect now ⟨p⟩ r = match r.Data.ClientCredentials with
      | .error err => .error err
      | .ok cid => .ok (refIntrospect now p r.Data.Token cid) := by
  unfold refIntrospect
  go_spec [GenRes.LegacyIntrospect, getTokenIDAndSubject_eq, resolved, Hand.resAuthenticateResourceClient,
    ResProvider.Storage, View.SetIntrospectionFromToken, Hand.NewResponse]

/-- what the revocation handlers make of the submitted string when they treat it as an ACCESS token: its id and subject if it
    decrypts / verifies, else the raw string itself, so that the storage can still find a refresh token (RFC 7009 §2.1: a wrong
    hint must not stop the search) -/
def asAccess (now : Int) (p : ResProvider) (tok : String) : String × String :=
  match resolve now p tok with
  | some (id, sub) => (id, sub)
  | none => (tok, "")

/-- the (token, subject) pair handed to `Storage.RevokeToken` (error: the refresh-token lookup failed for another reason).  The
    token_type_hint plays no part (RFC 7009 §2.1): a string the storage knows as a refresh token is revoked as one, anything else as the
    access token it resolves to, else as the raw string -/
def revokeTarget (now : Int) (p : ResProvider) (w : ResWorld) (tok cid : String) : Go.R (String × String) :=
  match w.GetRefreshTokenInfo cid tok with
  | .ok (uid, tid) => .ok (tid, uid)
  | .error err => if !(Hand.resErrorsIs err "ErrInvalidRefreshToken") then .error "ErrServerError" else .ok (asAccess now p tok)

/-- reference reading of both revocation handlers -/
def refRevoke (now : Int) (p : ResProvider) (w : ResWorld) (tok cid : String) : ResWorld × Go.R Unit :=
  match revokeTarget now p w tok cid with
  | .error e => (w, .error e)
  | .ok (t, sub) => w.RevokeToken t sub cid

theorem Revoke_eq (now : Int) (rq : Go.R (String × String × String)) (w : ResWorld) (p : ResProvider) :
    GenRes.Revoke now rq w p = match rq with
      | .error err => Hand.resRevocationRequestError w err
      | .ok (tok, _hint, cid) =>
        match refRevoke now p w tok cid with
        | (w', .error err) => Hand.resRevocationRequestError w' err
        | (w', .ok _) => Hand.resMarshalJSON w' .empty := by
  rcases rq with _ | ⟨tok, _, cid⟩
  · rfl
  simp only [GenRes.Revoke, Hand.resParseTokenRevocationRequest, getTokenIDAndSubjectForRevocation_eq, refRevoke, revokeTarget, asAccess]
  cases w.GetRefreshTokenInfo cid tok <;> cases resolve now p tok <;> simp only [resolved] <;> repeat' (split <;> simp_all)

theorem LegacyRevocation_eq (now : Int) (w : ResWorld) (p : ResProvider) (r : ResClientRequest) :
    GenRes.LegacyRevocation now w ⟨p⟩ r =
      match refRevoke now p w r.Data.Token r.Client.id with
      | (w', .error err) => (w', .error err)
      | (w', .ok _) => (w', .ok .empty) := by
  simp only [GenRes.LegacyRevocation, getTokenIDAndSubjectForRevocation_eq, refRevoke, revokeTarget, asAccess, Hand.resRevocationError,
    Hand.NewResponse, OPClient.GetID]
  cases w.GetRefreshTokenInfo r.Client.id r.Data.Token <;> cases resolve now p r.Data.Token <;> simp only [resolved] <;>
    repeat' (split <;> simp_all)

theorem userinfo_spec (rt : Router) (atp : ResATProvider) (e : Env) (s : St) (tok : String) :
    userinfo rt atp e s tok =
      match resolve e.now (provider atp e s) tok with
      | none => .refused 401
      | some (id, sub) =>
        match s.SetUserinfoFromToken e.issuer id sub with
        | .ok u => .claims u
        | .error _ => .refused 403 := by
  cases rt with
  | provider =>
    simp only [userinfo, Userinfo_eq, refUserinfo]
    rcases resolve e.now (provider atp e s) tok with _ | ⟨id, sub⟩
    · rfl
    · simp only [provider]; cases s.SetUserinfoFromToken e.issuer id sub <;> rfl
  | legacy =>
    simp only [userinfo, LegacyUserInfo_eq, refLegacyUserInfo]
    rcases resolve e.now (provider atp e s) tok with _ | ⟨id, sub⟩
    · simp [Go.hasPrefix]
    · simp only [provider]
      cases s.SetUserinfoFromToken e.issuer id sub with
      | ok u => rfl
      | error err => simp [Go.hasPrefix, String.toList_append, List.isPrefixOf]

theorem introspect_spec (rt : Router) (atp : ResATProvider) (e : Env) (s : St) (caller : Option String) (tok : String) :
    introspect rt atp e s caller tok =
      match caller with
      | none => .unauthorized
      | some c => .answer (refIntrospect e.now (provider atp e s) tok c) := by
  cases rt <;> cases caller <;> simp [introspect, Introspect_eq, LegacyIntrospect_eq, callerR, Except.map]

/-- the storage calls of a revocation write nothing to the ResponseWriter -/
theorem refRevoke_out (now : Int) (p : ResProvider) (w : ResWorld) (tok cid : String) : (refRevoke now p w tok cid).1.out = w.out := by
  unfold refRevoke
  split
  · rfl
  · unfold ResWorld.RevokeToken; split <;> rfl

/-- the world a revocation request of `e` runs in: the storage, seen under the issuer of the request -/
def worldOf (e : Env) (s : St) : ResWorld := { store := s, ctxIssuer := e.issuer, faults := e.faults }

theorem revoke_spec (rt : Router) (atp : ResATProvider) (e : Env) (s : St) (caller : Option String) (hint tok : String) :
    revoke rt atp e s caller hint tok =
      match caller with
      | none => (s, .refused)
      | some c =>
        match refRevoke e.now (provider atp e s) (worldOf e s) tok c with
        | (w, .ok _) => (w.store, .ok)
        | (w, .error _) => (w.store, .refused) := by
  rcases caller with _ | c
  · cases rt
    · simp [revoke, Revoke_eq, callerR, Except.map, Hand.resRevocationRequestError]
    · rfl
  have hout := refRevoke_out e.now (provider atp e s) (worldOf e s) tok c
  simp only [worldOf] at hout ⊢
  cases rt with
  | provider =>
    simp only [revoke, Revoke_eq, callerR, Except.map]
    generalize refRevoke e.now (provider atp e s) { store := s, ctxIssuer := e.issuer, faults := e.faults } tok c = q at hout ⊢
    rcases q with ⟨w, _ | _⟩ <;> simp_all [Hand.resRevocationRequestError, Hand.resMarshalJSON]
  | legacy =>
    simp only [revoke, LegacyRevocation_eq]
    rcases refRevoke e.now (provider atp e s) { store := s, ctxIssuer := e.issuer, faults := e.faults } tok c with ⟨w, _ | _⟩ <;> rfl

/-- the two shapes of an introspection answer: the zero value, or the fields of a LIVE token whose audience contains the caller -/
theorem refIntrospect_cases (now : Int) (p : ResProvider) (tok cid : String) :
    refIntrospect now p tok cid = default ∨
      ∃ id sub t, resolve now p tok = some (id, sub) ∧ p.store.liveTok p.ctxIssuer id = some t ∧ t.audience.contains cid = true ∧
        refIntrospect now p tok cid = { Active := true, Subject := t.subject, ClientID := t.client, Audience := t.audience, tokenID := t.id } := by
  unfold refIntrospect
  cases hr : resolve now p tok with
  | none => left; rfl
  | some pr =>
    obtain ⟨id, sub⟩ := pr
    simp only []
    cases hs : p.store.SetIntrospectionFromToken p.ctxIssuer default id sub cid with
    | error err => left; rfl
    | ok r =>
      right
      obtain ⟨t, ht, ha, rfl⟩ := setIntrospection_ok hs
      exact ⟨id, sub, t, rfl, ht, ha, rfl⟩

/-- the issuer a request that may honour a token is addressed to -/
def requestIssuer : Op → Option String
  | .userinfo _ e _ => some e.issuer
  | .introspect _ e _ _ => some e.issuer
  | .exchange e _ _ => some e.issuer
  | .refresh e _ => some e.issuer
  | _ => none

def VisibleLive (s : St) (iss : String) : Ref → Prop
  | .at id => ∃ t, t ∈ s.toks ∧ t.id = id ∧ t.live = true ∧ s.sees iss t.issuer = true
  | .rt tok => ∃ r, r ∈ s.rtoks ∧ r.token = tok ∧ r.live = true ∧ s.sees iss r.issuer = true

/-- the operations at which an access-token string is presented to be honoured -/
def presentedAt : Op → Option (Env × String)
  | .userinfo _ e tok => some (e, tok)
  | .introspect _ e _ tok => some (e, tok)
  | .exchange e false tok => some (e, tok)
  | _ => none

/-- the refresh-token lookup of a request answers only for a live token the storage shows under the request's issuer - and not
    at all while the storage call fails -/
theorem tokenRequest_ok {e : Env} {s : St} {tok : String} {r : RTok} (h : tokenRequestByRefreshToken e s tok = .ok r) :
    s.liveR e.issuer tok = some r := by
  unfold tokenRequestByRefreshToken St.TokenRequestByRefreshToken at h
  split at h
  · simp at h
  · cases hl : s.liveR e.issuer tok with
    | none => simp [hl] at h
    | some r' => simp [hl] at h; rw [h]

/-- a refresh token presented by name - to the refresh grant, or as the subject of a token exchange - is honoured under that name -/
theorem honoured_rt {e : Env} {s : St} {tok : String} {x : Ref}
    (h : (match tokenRequestByRefreshToken e s tok with | .ok r => some (Ref.rt r.token) | .error _ => none) = some x) :
    ∃ r, s.liveR e.issuer tok = some r ∧ x = .rt tok := by
  cases hq : tokenRequestByRefreshToken e s tok with
  | error err => simp [hq] at h
  | ok r =>
    have hl := tokenRequest_ok hq
    exact ⟨r, hl, by simpa [hq, (liveR_some hl).2.1] using h.symm⟩

/-- the record behind a presented access-token string: the live token, shown under the issuer of the request, whose id the string
    resolves to.  Userinfo, introspection and token exchange of either router honour this record and no other. -/
def honouredTok (atp : ResATProvider) (e : Env) (s : St) (tok : String) : Option Tok :=
  (resolve e.now (provider atp e s) tok).bind fun p => s.liveTok e.issuer p.1

theorem honouredTok_some {atp : ResATProvider} {e : Env} {s : St} {tok : String} {t : Tok} (h : honouredTok atp e s tok = some t) :
    ∃ sub, resolve e.now (provider atp e s) tok = some (t.id, sub) ∧ s.liveTok e.issuer t.id = some t := by
  obtain ⟨⟨id, sub⟩, hr, hl⟩ := Option.bind_eq_some_iff.mp h
  obtain rfl : t.id = id := (liveTok_some hl).2.1
  exact ⟨sub, hr, hl⟩

theorem step_userinfo (atp : ResATProvider) (s : St) (rt : Router) (e : Env) (tok : String) :
    (step atp s (.userinfo rt e tok)).2 = (honouredTok atp e s tok).map fun t => .at t.id := by
  simp only [step, userinfo_spec, honouredTok, St.SetUserinfoFromToken]
  rcases resolve e.now (provider atp e s) tok with _ | ⟨id, sub⟩
  · rfl
  · dsimp only [Option.bind_some]; cases s.liveTok e.issuer id <;> rfl

/-- introspection honours that record only for a caller in the token's audience -/
theorem step_introspect (atp : ResATProvider) (s : St) (rt : Router) (e : Env) (c : Option String) (tok : String) :
    (step atp s (.introspect rt e c tok)).2 =
      c.bind fun cid => ((honouredTok atp e s tok).filter (·.audience.contains cid)).map fun t => .at t.id := by
  simp only [step, introspect_spec, honouredTok, refIntrospect, St.SetIntrospectionFromToken]
  rcases c with _ | cid
  · rfl
  rcases resolve e.now (provider atp e s) tok with _ | ⟨id, sub⟩
  · rfl
  dsimp only [Option.bind_some, provider]
  rcases s.liveTok e.issuer id with _ | t
  · rfl
  · by_cases ha : cid ∈ t.audience <;> simp [Option.filter, ha] <;> rfl

theorem step_exchange_at (atp : ResATProvider) (s : St) (e : Env) (tok : String) :
    (step atp s (.exchange e false tok)).2 = (honouredTok atp e s tok).map fun t => .at t.id := by
  have hb := getTokenIDAndClaims_eq e.now (provider atp e s) tok
  simp only [step, exchange, honouredTok, Bool.false_eq_true, if_false]
  revert hb
  rcases GenRes.getTokenIDAndClaims e.now (provider atp e s) tok with ⟨gid, gsub, gcl, gok⟩
  rcases resolve e.now (provider atp e s) tok with _ | ⟨id, sub⟩ <;> simp only [resolved, Prod.mk.injEq] <;>
    rintro ⟨rfl, rfl, rfl⟩ <;> rfl

/-- everything a step can honour: the record behind a presented access-token string, or a live refresh token presented by name
    (refresh grant, refresh token as exchange subject) -/
theorem honoured_cases (atp : ResATProvider) (s : St) (op : Op) (x : Ref) (h : (step atp s op).2 = some x) :
    (∃ (e : Env) (tok : String) (t : Tok), presentedAt op = some (e, tok) ∧ requestIssuer op = some e.issuer ∧ honouredTok atp e s tok = some t ∧ x = .at t.id) ∨
    (∃ (e : Env) (tok : String) (r : RTok), presentedAt op = none ∧ requestIssuer op = some e.issuer ∧ s.liveR e.issuer tok = some r ∧ x = .rt tok) := by
  cases op with
  | issue t r => simp only [step] at h; split at h <;> simp at h
  | expire y => cases y <;> simp [step] at h
  | revoke rt e c hint tok => simp [step] at h
  | endSession i a b => simp [step] at h
  | userinfo rt e tok =>
    rw [step_userinfo] at h
    obtain ⟨t, ht, rfl⟩ := Option.map_eq_some_iff.mp h
    exact Or.inl ⟨e, tok, t, rfl, rfl, ht, rfl⟩
  | introspect rt e c tok =>
    rw [step_introspect] at h
    obtain ⟨cid, _, h⟩ := Option.bind_eq_some_iff.mp h
    obtain ⟨t, ht, rfl⟩ := Option.map_eq_some_iff.mp h
    exact Or.inl ⟨e, tok, t, rfl, rfl, (Option.filter_eq_some_iff.mp ht).1, rfl⟩
  | exchange e asRefresh tok =>
    cases asRefresh with
    | false =>
      rw [step_exchange_at] at h
      obtain ⟨t, ht, rfl⟩ := Option.map_eq_some_iff.mp h
      exact Or.inl ⟨e, tok, t, rfl, rfl, ht, rfl⟩
    | true =>
      simp only [step, exchange, if_true] at h
      obtain ⟨r, hl, hx⟩ := honoured_rt h
      exact Or.inr ⟨e, tok, r, rfl, rfl, hl, hx⟩
  | refresh e tok =>
    obtain ⟨r, hl, hx⟩ := honoured_rt (e := e) (s := s) (tok := tok) (x := x) (by
      rw [← h]; simp only [step]; cases tokenRequestByRefreshToken e s tok <;> rfl)
    exact Or.inr ⟨e, tok, r, rfl, rfl, hl, hx⟩

theorem honoured_visible (atp : ResATProvider) (s : St) (op : Op) (x : Ref) (h : (step atp s op).2 = some x) :
    ∃ iss, requestIssuer op = some iss ∧ VisibleLive s iss x := by
  rcases honoured_cases atp s op x h with ⟨e, tok, t, _, hi, ht, rfl⟩ | ⟨e, tok, r, _, hi, hl, rfl⟩
  · obtain ⟨_, _, hl⟩ := honouredTok_some ht
    exact ⟨e.issuer, hi, t, liveTok_some hl⟩
  · exact ⟨e.issuer, hi, r, liveR_some hl⟩

/-- userinfo, introspection and token exchange (access-token subject) of either router honour the access token whose id the readers
    extracted from the presented string - nothing else -/
theorem honoured_is_resolved (atp : ResATProvider) (s : St) (op : Op) (x : Ref) (e : Env) (tok : String)
    (hp : presentedAt op = some (e, tok)) (h : (step atp s op).2 = some x) :
    ∃ id sub, resolve e.now (provider atp e s) tok = some (id, sub) ∧ x = .at id := by
  rcases honoured_cases atp s op x h with ⟨e', tok', t, hp', _, ht, rfl⟩ | ⟨_, _, _, hp', _⟩
  · obtain ⟨rfl, rfl⟩ : e = e' ∧ tok = tok' := by simpa [hp] using hp'
    obtain ⟨sub, hr, _⟩ := honouredTok_some ht
    exact ⟨t.id, sub, hr, rfl⟩
  · rw [hp] at hp'; cases hp'

/-- C08 (1): whatever is honoured - userinfo claims, active:true, an accepted exchange subject (access or refresh token), a
    refresh grant - belongs to a token the storage knows that is neither expired, revoked nor removed; on both routers, for ANY
    oracle behaviour (any plaintext a presented string decrypts to, any parser outcome) -/
theorem honoured_implies_live (atp : ResATProvider) (s : St) (op : Op) (x : Ref) (h : (step atp s op).2 = some x) : Live s x := by
  obtain ⟨iss, _, hv⟩ := honoured_visible atp s op x h
  cases x <;> exact hv.imp fun _ h => ⟨h.1, h.2.1, h.2.2.1⟩

/-- the live record of the token was created under issuer `iss` -/
def CreatedUnder (s : St) (iss : String) : Ref → Prop
  | .at id => ∃ t, t ∈ s.toks ∧ t.id = id ∧ t.live = true ∧ t.issuer = iss
  | .rt tok => ∃ r, r ∈ s.rtoks ∧ r.token = tok ∧ r.live = true ∧ r.issuer = iss

/-- C08 (1b): with a storage that keeps the tenants of a multi-issuer provider apart, a STORED token (opaque or JWT access token,
    refresh token) is honoured - at userinfo, introspection, token exchange, the refresh grant, on either router - only under the issuer
    it was created under: for all issuers, all oracles, all states -/
theorem c08_issuer_bound_stored (atp : ResATProvider) (s : St) (op : Op) (x : Ref) (iss : String) (hp : s.partitioned = true)
    (hi : requestIssuer op = some iss) (h : (step atp s op).2 = some x) : CreatedUnder s iss x := by
  obtain ⟨iss', hi', hv⟩ := honoured_visible atp s op x h
  rw [hi] at hi'; cases hi'
  cases x <;> exact hv.imp fun _ h => ⟨h.1, h.2.1, h.2.2.1, sees_partitioned hp h.2.2.2⟩

/-- every record with this id / token string is dead (expired, revoked or removed) -/
def Dead (s : St) : Ref → Prop
  | .at id => ∀ t, t ∈ s.toks → t.id = id → t.live = false
  | .rt tok => ∀ r, r ∈ s.rtoks → r.token = tok → r.live = false

/-- the storage has handed out this id / token string at some time -/
def Known (s : St) : Ref → Prop
  | .at id => ∃ t, t ∈ s.toks ∧ t.id = id
  | .rt tok => ∃ r, r ∈ s.rtoks ∧ r.token = tok

/-- `s'` arises from `s` by rewriting records in place without changing their names and without reviving any -/
structure Rewrites (s s' : St) : Prop where
  toks : ∃ f : Tok → Tok, s'.toks = s.toks.map f ∧ (∀ t, (f t).id = t.id) ∧ (∀ t, t.live = false → (f t).live = false)
  rtoks : ∃ g : RTok → RTok, s'.rtoks = s.rtoks.map g ∧ (∀ r, (g r).token = r.token) ∧ (∀ r, r.live = false → (g r).live = false)

theorem Rewrites.refl (s : St) : Rewrites s s :=
  ⟨⟨id, by simp, fun _ => rfl, fun _ h => h⟩, ⟨id, by simp, fun _ => rfl, fun _ h => h⟩⟩

theorem Rewrites.known {s s' : St} (h : Rewrites s s') (x : Ref) (hk : Known s x) : Known s' x := by
  obtain ⟨⟨f, hf, hfid, _⟩, ⟨g, hg, hgid, _⟩⟩ := h
  cases x with
  | «at» id => obtain ⟨t, ht, hti⟩ := hk; exact ⟨f t, by rw [hf]; exact List.mem_map_of_mem ht, by rw [hfid]; exact hti⟩
  | rt tok => obtain ⟨r, hr, hri⟩ := hk; exact ⟨g r, by rw [hg]; exact List.mem_map_of_mem hr, by rw [hgid]; exact hri⟩

theorem Rewrites.dead {s s' : St} (h : Rewrites s s') (x : Ref) (hd : Dead s x) (hk : Known s x) : Dead s' x ∧ Known s' x := by
  refine ⟨?_, h.known x hk⟩
  obtain ⟨⟨f, hf, hfid, hflive⟩, ⟨g, hg, hgid, hglive⟩⟩ := h
  cases x with
  | «at» id =>
    intro t ht hti
    obtain ⟨t0, ht0, rfl⟩ := List.mem_map.mp (hf ▸ ht)
    exact hflive t0 (hd t0 ht0 (hfid t0 ▸ hti))
  | rt tok =>
    intro r hr hri
    obtain ⟨r0, hr0, rfl⟩ := List.mem_map.mp (hg ▸ hr)
    exact hglive r0 (hd r0 hr0 (hgid r0 ▸ hri))

/-- what the storage does to its tables: under its name a record stays as it is, or is marked dead (revoked / expired / gone) -/
theorem Rewrites.of_marks {s s' : St} {f : Tok → Tok} {g : RTok → RTok} (ht : s'.toks = s.toks.map f) (hr : s'.rtoks = s.rtoks.map g)
    (hf : ∀ t, (f t).id = t.id ∧ (f t = t ∨ (f t).live = false))
    (hg : ∀ r, (g r).token = r.token ∧ (g r = r ∨ (g r).live = false)) : Rewrites s s' :=
  ⟨⟨f, ht, fun t => (hf t).1, fun t hl => (hf t).2.elim (fun e => e.symm ▸ hl) id⟩,
   ⟨g, hr, fun r => (hg r).1, fun r hl => (hg r).2.elim (fun e => e.symm ▸ hl) id⟩⟩

theorem killTok_mark (i : String) (t : Tok) : (killTok i t).id = t.id ∧ (killTok i t = t ∨ (killTok i t).live = false) := by
  unfold killTok; split <;> simp [Tok.live]
theorem dropR_mark (i : String) (r : RTok) : (dropR i r).token = r.token ∧ (dropR i r = r ∨ (dropR i r).live = false) := by
  unfold dropR; split <;> simp [RTok.live]

theorem revokeToken_rewrites (s : St) (i a b c : String) : Rewrites s (s.RevokeToken i a b c).1 := by
  unfold St.RevokeToken
  split
  · split
    · exact Rewrites.refl s
    · exact .of_marks rfl (List.map_id _).symm (killTok_mark a) fun _ => ⟨rfl, .inl rfl⟩
  · split
    · exact Rewrites.refl s
    · split
      · exact Rewrites.refl s
      · rename_i r _ _
        exact .of_marks rfl rfl (killTok_mark r.access) (dropR_mark a)

theorem refRevoke_rewrites (now : Int) (p : ResProvider) (e : Env) (s : St) (tok cid : String) :
    Rewrites s (refRevoke now p (worldOf e s) tok cid).1.store := by
  unfold refRevoke
  split
  · exact Rewrites.refl s
  · rename_i t sub _
    unfold ResWorld.RevokeToken worldOf
    split
    · exact Rewrites.refl s
    · exact revokeToken_rewrites s e.issuer t sub cid

theorem revoke_rewrites (rt : Router) (atp : ResATProvider) (e : Env) (s : St) (c : Option String) (hint tok : String) :
    Rewrites s (revoke rt atp e s c hint tok).1 := by
  rw [revoke_spec]
  cases c with
  | none => exact Rewrites.refl s
  | some cid =>
    simp only []
    have := refRevoke_rewrites e.now (provider atp e s) e s tok cid
    cases hr : refRevoke e.now (provider atp e s) (worldOf e s) tok cid with
    | mk w x => rw [hr] at this; cases x <;> exact this

theorem terminate_rewrites (s : St) (i sub cl : String) : Rewrites s (s.TerminateSession i sub cl) :=
  .of_marks rfl rfl (fun t => by split <;> simp [Tok.live]) (fun r => by split <;> simp [RTok.live])

theorem rotate_rewrites (s : St) (i tok : String) : Rewrites s (s.rotate i tok) := by
  unfold St.rotate
  split
  · exact Rewrites.refl s
  · exact .of_marks rfl rfl (fun t => by split <;> simp [Tok.live]) (dropR_mark tok)

/-- no operation brings a dead token back: deadness (of access and refresh tokens alike) is an invariant of every step -/
theorem dead_step (atp : ResATProvider) (s : St) (op : Op) (x : Ref) (h : Dead s x) (hk : Known s x) :
    Dead (step atp s op).1 x ∧ Known (step atp s op).1 x := by
  cases op with
  | userinfo rt e tok => exact ⟨h, hk⟩
  | introspect rt e c tok => exact ⟨h, hk⟩
  | exchange e a tok => exact ⟨h, hk⟩
  | revoke rt e c hint tok => exact (revoke_rewrites rt atp e s c hint tok).dead x h hk
  | endSession i sub cl => exact (terminate_rewrites s i sub cl).dead x h hk
  | refresh e tok =>
    simp only [step]
    split
    · exact (rotate_rewrites s e.issuer tok).dead x h hk
    · exact ⟨h, hk⟩
  | expire y =>
    have hr : Rewrites s (step atp s (.expire y)).1 := by
      cases y
      · exact .of_marks rfl (List.map_id _).symm (fun t => by split <;> simp [Tok.live]) fun _ => ⟨rfl, .inl rfl⟩
      · exact .of_marks (List.map_id _).symm rfl (fun _ => ⟨rfl, .inl rfl⟩) fun r => by split <;> simp [RTok.live]
    exact hr.dead x h hk
  | issue t r =>
    simp only [step]
    split
    · -- a new record would have to carry the name of a known one: impossible, names are fresh
      rename_i hfresh
      simp only [freshIDs, Bool.and_eq_true, Bool.not_eq_true', List.any_eq_false, beq_iff_eq] at hfresh
      cases x with
      | «at» i =>
        obtain ⟨t0, ht0, rfl⟩ := hk
        refine ⟨fun y hy hyi => ?_, t0, by simp [ht0], rfl⟩
        rcases List.mem_append.mp hy with hy | hy
        · exact h y hy hyi
        · obtain rfl := List.mem_singleton.mp hy
          exact absurd hyi.symm (hfresh.1 t0 ht0)
      | rt i =>
        obtain ⟨r0, hr0, rfl⟩ := hk
        refine ⟨fun y hy hyi => ?_, r0, by simp [hr0], rfl⟩
        rcases List.mem_append.mp hy with hy | hy
        · exact h y hy hyi
        · cases r with
          | none => cases hy
          | some r1 =>
            obtain rfl := List.mem_singleton.mp hy
            simp only [List.any_eq_false, beq_iff_eq, Bool.not_eq_true'] at hfresh
            exact absurd hyi.symm (hfresh.2 r0 hr0)
    · exact ⟨h, hk⟩

theorem dead_not_honoured (atp : ResATProvider) (s : St) (op : Op) (x : Ref) (h : Dead s x) : (step atp s op).2 ≠ some x := by
  intro hh
  have hl := honoured_implies_live atp s op x hh
  cases x <;> (obtain ⟨t, ht, hi, hlive⟩ := hl; rw [h t ht hi] at hlive; cases hlive)

/-- C08 (2): revocation and logout take effect everywhere and for good - once a known access OR refresh token is dead, NO later
    history of operations (any length, any order, either router, any issuer, any oracle behaviour) gets it honoured again -/
theorem revocation_sticks (atp : ResATProvider) (ops : List Op) (s : St) (x : Ref) (h : Dead s x) (hk : Known s x) :
    ∀ o, o ∈ (run atp s ops).2 → o ≠ some x := by
  induction ops generalizing s with
  | nil => intro o ho; simp [run] at ho
  | cons op rest ih =>
    intro o ho
    simp only [run, List.mem_cons] at ho
    rcases ho with rfl | ho
    · exact dead_not_honoured atp s op x h
    · obtain ⟨h1, h2⟩ := dead_step atp s op x h hk
      exact ih (step atp s op).1 h1 h2 o ho

/-- none of the storage calls of the revocation handlers fails while the request of `e` is served -/
def NoRevocationFault (e : Env) : Prop := e.faults.contains "RevokeToken" = false ∧ e.faults.contains "GetRefreshTokenInfo" = false

theorem NoRevocationFault.rt {e : Env} (h : NoRevocationFault e) : ¬ "RevokeToken" ∈ e.faults := by simpa using h.1
theorem NoRevocationFault.gi {e : Env} (h : NoRevocationFault e) : ¬ "GetRefreshTokenInfo" ∈ e.faults := by simpa using h.2

theorem getRefreshTokenInfo_none {e : Env} {s : St} {cid tok : String} (hf : NoRevocationFault e) (h : s.lookupR e.issuer tok = none) :
    (worldOf e s).GetRefreshTokenInfo cid tok = .error "ErrInvalidRefreshToken" := by
  simp [worldOf, ResWorld.GetRefreshTokenInfo, St.GetRefreshTokenInfo, h, hf.gi]

theorem getRefreshTokenInfo_some {e : Env} {s : St} {cid tok : String} {r : RTok} (hf : NoRevocationFault e) (h : s.lookupR e.issuer tok = some r) :
    (worldOf e s).GetRefreshTokenInfo cid tok = .ok (r.subject, tok) := by
  simp [worldOf, ResWorld.GetRefreshTokenInfo, St.GetRefreshTokenInfo, h, (lookupR_some h).2.1, hf.gi]

/-- a string the storage does not know as a refresh token is revoked as the access token it resolves to -/
theorem revokeTarget_at {now : Int} {p : ResProvider} {e : Env} {s : St} {tok cid id sub : String}
    (hf : NoRevocationFault e) (hr : resolve now p tok = some (id, sub)) (hnr : s.lookupR e.issuer tok = none) :
    revokeTarget now p (worldOf e s) tok cid = .ok (id, sub) := by
  unfold revokeTarget asAccess
  rw [hr]
  simp [getRefreshTokenInfo_none hf hnr, Hand.resErrorsIs]

/-- a string the storage knows as a refresh token is revoked as such - whatever the hint says and whatever else it may look like -/
theorem revokeTarget_rt {now : Int} {p : ResProvider} {e : Env} {s : St} {tok cid : String} {r : RTok}
    (hf : NoRevocationFault e) (hl : s.lookupR e.issuer tok = some r) :
    revokeTarget now p (worldOf e s) tok cid = .ok (tok, r.subject) := by
  unfold revokeTarget
  simp [getRefreshTokenInfo_some hf hl]

theorem revokeToken_at {s : St} {iss id sub cid : String} {t : Tok} (hl : s.lookup iss id = some t) (hown : t.client = cid) :
    s.RevokeToken iss id sub cid = ({ s with toks := s.toks.map (killTok id) }, .ok ()) := by
  simp [St.RevokeToken, hl, hown]

theorem revokeToken_rt {s : St} {iss tok sub cid : String} {r : RTok} (hn : s.lookup iss tok = none) (hl : s.lookupR iss tok = some r) (hown : r.client = cid) :
    s.RevokeToken iss tok sub cid = ({ s with toks := s.toks.map (killTok r.access), rtoks := s.rtoks.map (dropR tok) }, .ok ()) := by
  simp [St.RevokeToken, hn, hl, hown]

theorem killTok_dead (toks : List Tok) (id : String) : ∀ x, x ∈ toks.map (killTok id) → x.id = id → x.live = false := by
  intro x hx hxi
  simp only [List.mem_map] at hx
  obtain ⟨x0, _, rfl⟩ := hx
  unfold killTok at hxi ⊢
  split <;> simp_all [Tok.live]

theorem dropR_dead (rtoks : List RTok) (tok : String) : ∀ x, x ∈ rtoks.map (dropR tok) → x.token = tok → x.live = false := by
  intro x hx hxi
  simp only [List.mem_map] at hx
  obtain ⟨x0, _, rfl⟩ := hx
  unfold dropR at hxi ⊢
  split <;> simp_all [RTok.live]

/-- C08 (3a): revocation of an ACCESS token by the owning client answers 200 and kills the token - on both routers, for EVERY
    token_type_hint (absent, right, wrong, garbage) and every oracle behaviour.  (`hnr`: the string is not a stored refresh token.) -/
theorem revoke_kills_at (rt : Router) (atp : ResATProvider) (e : Env) (s : St) (cid hint tok id sub : String) (t : Tok)
    (hf : NoRevocationFault e)
    (hr : resolve e.now (provider atp e s) tok = some (id, sub)) (hl : s.lookup e.issuer id = some t) (hown : t.client = cid)
    (hnr : s.lookupR e.issuer tok = none) :
    (revoke rt atp e s (some cid) hint tok).2 = .ok ∧ Dead (revoke rt atp e s (some cid) hint tok).1 (.at id) := by
  rw [revoke_spec]
  simp only [refRevoke, revokeTarget_at hf hr hnr]
  simp only [ResWorld.RevokeToken, worldOf, hf.1, Bool.false_eq_true, if_false, revokeToken_at hl hown]
  exact ⟨trivial, killTok_dead s.toks id⟩

/-- C08 (3b): revocation of a REFRESH token by the owning client answers 200 and kills the refresh token AND the access token
    issued with it - on both routers, for EVERY token_type_hint (in particular the wrong one, `access_token`) and every oracle
    behaviour: whatever the string may decrypt to.  (`hn`: refresh-token strings and access-token ids are different name spaces.) -/
theorem revoke_kills_rt (rt : Router) (atp : ResATProvider) (e : Env) (s : St) (cid hint tok : String) (r : RTok)
    (hf : NoRevocationFault e)
    (hl : s.lookupR e.issuer tok = some r) (hown : r.client = cid) (hn : s.lookup e.issuer tok = none) :
    (revoke rt atp e s (some cid) hint tok).2 = .ok ∧ Dead (revoke rt atp e s (some cid) hint tok).1 (.rt tok) ∧
      Dead (revoke rt atp e s (some cid) hint tok).1 (.at r.access) := by
  rw [revoke_spec]
  simp only [refRevoke, revokeTarget_rt (cid := cid) hf hl]
  simp only [ResWorld.RevokeToken, worldOf, hf.1, Bool.false_eq_true, if_false, revokeToken_rt hn hl hown]
  exact ⟨trivial, dropR_dead s.rtoks tok, killTok_dead s.toks r.access⟩

/-- revocation of an access token by another client is refused and changes nothing -/
theorem foreign_revoke_refused_at (rt : Router) (atp : ResATProvider) (e : Env) (s : St) (cid hint tok id sub : String) (t : Tok)
    (hf : NoRevocationFault e)
    (hr : resolve e.now (provider atp e s) tok = some (id, sub)) (hl : s.lookup e.issuer id = some t) (hforeign : t.client ≠ cid)
    (hnr : s.lookupR e.issuer tok = none) :
    revoke rt atp e s (some cid) hint tok = (s, .refused) := by
  rw [revoke_spec]
  simp only [refRevoke, revokeTarget_at hf hr hnr]
  simp [ResWorld.RevokeToken, worldOf, St.RevokeToken, hl, hforeign, hf.rt]

/-- revocation of a refresh token by another client is refused and changes nothing - under every hint -/
theorem foreign_revoke_refused_rt (rt : Router) (atp : ResATProvider) (e : Env) (s : St) (cid hint tok : String) (r : RTok)
    (hf : NoRevocationFault e)
    (hl : s.lookupR e.issuer tok = some r) (hforeign : r.client ≠ cid) (hn : s.lookup e.issuer tok = none) :
    revoke rt atp e s (some cid) hint tok = (s, .refused) := by
  rw [revoke_spec]
  simp only [refRevoke, revokeTarget_rt (cid := cid) hf hl]
  simp [ResWorld.RevokeToken, worldOf, St.RevokeToken, hn, hl, hforeign, hf.rt]

/-- unknown or garbage strings (neither a stored refresh token, nor resolving to a stored access-token id, nor a stored name
    themselves - as seen under the issuer of the request) are answered 200 without effect -/
theorem unknown_revoke_ok (rt : Router) (atp : ResATProvider) (e : Env) (s : St) (cid hint tok : String)
    (hf : NoRevocationFault e)
    (hnr : s.lookupR e.issuer tok = none)
    (hna : s.lookup e.issuer (asAccess e.now (provider atp e s) tok).1 = none)
    (hnb : s.lookupR e.issuer (asAccess e.now (provider atp e s) tok).1 = none) :
    revoke rt atp e s (some cid) hint tok = (s, .ok) := by
  rw [revoke_spec]
  have ht : revokeTarget e.now (provider atp e s) (worldOf e s) tok cid = .ok (asAccess e.now (provider atp e s) tok) := by
    unfold revokeTarget
    simp [getRefreshTokenInfo_none hf hnr, Hand.resErrorsIs]
  simp only [refRevoke, ht]
  simp [ResWorld.RevokeToken, worldOf, St.RevokeToken, hna, hnb, hf.rt]

/-- C08 (4): an introspection answer is `unauthorized`, or the constant zero-valued inactive answer (it carries no field of any
    token), or the fields of a LIVE token whose audience contains the authenticated caller -/
theorem inactive_discloses_nothing (rt : Router) (atp : ResATProvider) (e : Env) (s : St) (c : Option String) (tok : String) :
    introspect rt atp e s c tok = .unauthorized ∨ introspect rt atp e s c tok = .answer default ∨
      ∃ cid t, c = some cid ∧ t ∈ s.toks ∧ t.live = true ∧ t.audience.contains cid = true ∧
        introspect rt atp e s c tok = .answer { Active := true, Subject := t.subject, ClientID := t.client, Audience := t.audience, tokenID := t.id } := by
  rw [introspect_spec]
  cases c with
  | none => left; rfl
  | some cid =>
    right
    rcases refIntrospect_cases e.now (provider atp e s) tok cid with h0 | ⟨id, sub, t, _, ht, ha, h1⟩
    · left; simp [h0]
    · right; exact ⟨cid, t, rfl, (liveTok_some ht).1, (liveTok_some ht).2.2.1, ha, by simp [h1]⟩

/-- the verifier that checks a JWT access token while a request addressed to `e.issuer` is served expects exactly that issuer
    (regenerated `Provider.AccessTokenVerifier`: built per request from `IssuerFromContext`) -/
theorem provider_verifier (atp : ResATProvider) (e : Env) (s : St) :
    (provider atp e s).verifier = { Issuer := e.issuer, KeySet := atp.accessTokenKeySet, SupportedSignAlgs := atp.accessTokenVerifierOpts } := by
  simp [provider, GenRes.ProviderAccessTokenVerifier, Hand.resNewAccessTokenVerifier]

/-- a string that is not an opaque token (Decrypt fails) resolves only through the request's verifier -/
theorem resolve_verified {now : Int} {p : ResProvider} {tok id sub : String} (hd : ∀ pl, p.decrypt tok ≠ .ok pl)
    (h : resolve now p tok = some (id, sub)) :
    ∃ c, Gen.OPVerifyAccessToken now (p.tokenOf tok) p.verifier = .ok c ∧ id = p.jtiOf tok ∧ sub = c.sub := by
  unfold resolve at h
  cases hdec : p.decrypt tok with
  | ok pl => exact absurd hdec (hd pl)
  | error err =>
    simp only [hdec] at h
    cases hv : Gen.OPVerifyAccessToken now (p.tokenOf tok) p.verifier with
    | error e => simp [hv] at h
    | ok c => simp [hv] at h; exact ⟨c, rfl, h.1.symm, h.2.symm⟩

/-- a string that is not an opaque token resolves only as a JWT the request's verifier accepts: its payload names the verifier's
    issuer, it carries exactly one signature with an allowed algorithm by a published key over that payload (C02), and it is unexpired -/
theorem jwt_resolve {now : Int} {p : ResProvider} {tok id sub : String} (hd : ∀ pl, p.decrypt tok ≠ .ok pl)
    (h : resolve now p tok = some (id, sub)) :
    ∃ pl c0 c, ParseToken now (p.tokenOf tok) = .ok (pl, c0) ∧ c0.iss = p.verifier.Issuer ∧
      C02.monitor p.verifier.SupportedSignAlgs p.verifier.KeySet (p.tokenOf tok) (some c) = none ∧
      Gen.CheckExpiration now c p.verifier.Offset = .ok () ∧ id = p.jtiOf tok ∧ sub = c.sub := by
  obtain ⟨c, hv, hid, hsub⟩ := resolve_verified hd h
  obtain ⟨pl, c0, hp, hi, _, he⟩ := opVerifyAccessToken_ok hv
  have hm := C02.c02_accessToken now (p.tokenOf tok) p.verifier
  rw [hv] at hm
  exact ⟨pl, c0, c, hp, hi, hm, he, hid, hsub⟩

/-- C08 (5): a JWT access token (a presented string that is not an opaque token) is honoured - userinfo claims, `active:true`,
    accepted exchange subject, on either router - ONLY by the issuer named in its payload: for all issuers / hosts the request may be
    addressed to, all key sets and every state (one step); and then it is validly signed by a published key (C02) and unexpired -/
theorem c08_issuer_bound (atp : ResATProvider) (s : St) (op : Op) (x : Ref) (e : Env) (tok : String)
    (hp : presentedAt op = some (e, tok)) (hd : ∀ pl, e.decrypt tok ≠ .ok pl) (h : (step atp s op).2 = some x) :
    ∃ pl c0 c, ParseToken e.now (e.tokenOf tok) = .ok (pl, c0) ∧ c0.iss = e.issuer ∧
      C02.monitor atp.accessTokenVerifierOpts atp.accessTokenKeySet (e.tokenOf tok) (some c) = none ∧
      Gen.CheckExpiration e.now c 0 = .ok () := by
  obtain ⟨id, sub, hr, _⟩ := honoured_is_resolved atp s op x e tok hp h
  obtain ⟨pl, c0, c, h1, h2, h3, h4, _, _⟩ := jwt_resolve (p := provider atp e s) hd hr
  rw [provider_verifier] at h2 h3 h4
  exact ⟨pl, c0, c, h1, h2, h3, h4⟩

/-- Remark (not a property clause): the LIBRARY itself does not look at the issuer when it reads an opaque token - what a string that
    decrypts resolves to is the same under every issuer.  For stored tokens the issuer reaches the storage through the context of every
    call, and keeping the tenants of a multi-issuer provider apart is the storage's part of the contract (`c08_issuer_bound_stored`). -/
theorem resolve_opaque_ignores_issuer (atp : ResATProvider) (s : St) (e : Env) (tok pl : String) (iss : String)
    (hd : e.decrypt tok = .ok pl) :
    resolve e.now (provider atp e s) tok = resolve e.now (provider atp { e with issuer := iss } s) tok := by
  simp [resolve, provider, hd]

/-- introspection is answered only for an AUTHENTICATED caller: `ParseTokenIntrospectionRequest` lets a request through only when
    `ClientIDFromRequest` authenticated the client (identification alone - a public client, a secret in the form - is not enough) -/
theorem parseIntrospection_ok {now : Int} {r : ResHttpReq} {p : ResProvider} {tok cid : String}
    (h : GenRes.ParseTokenIntrospectionRequest now r p = .ok (tok, cid)) :
    r.identified = .ok (cid, true) ∧ tok = r.Form.Token := by
  unfold GenRes.ParseTokenIntrospectionRequest Hand.resClientIDFromRequest ResProvider.Decoder at h
  simp only [] at h
  cases hi : r.identified with
  | error e => simp [hi] at h
  | ok pr =>
    obtain ⟨c, a⟩ := pr
    simp only [hi] at h
    cases a with
    | false => simp at h
    | true =>
      simp only [Bool.not_true, Bool.false_eq_true, if_false] at h
      by_cases hu : r.Form.undecodable = true
      · simp [hu] at h
      · simp [hu] at h
        exact ⟨by rw [h.2], h.1.symm⟩

theorem introspectRequest_eq (atp : ResATProvider) (e : Env) (s : St) (r : ResHttpReq) :
    introspectRequest atp e s r =
      match GenRes.ParseTokenIntrospectionRequest e.now r (provider atp e s) with
      | .error _ => .unauthorized
      | .ok (tok, cid) => introspect .provider atp e s (some cid) tok := by
  unfold introspectRequest
  cases hp : GenRes.ParseTokenIntrospectionRequest e.now r (provider atp e s) with
  | error err => simp [Introspect_eq]
  | ok pr => obtain ⟨tok, cid⟩ := pr; simp [introspect, Introspect_eq, callerR, Except.map]

/-- the client a revocation request is performed for: it proved itself by a verified assertion naming it as issuer (and private_key_jwt
    is switched on), by Basic auth or by a secret in the form that the storage accepts, or it is a registered PUBLIC client naming itself -/
def RevocationCaller (now : Int) (r : ResHttpReq) (p : ResProvider) (cid : String) : Prop :=
  (r.Form.ClientAssertionType = Const.ClientAssertionTypeJWTAssertion ∧ p.pkjwtSupported = true ∧
      ∃ c, Gen.VerifyJWTAssertion now r.assertionToken p.jwtProfileVerifier = .ok c ∧ c.iss = cid) ∨
  (∃ u pw sec, r.basic = some (u, pw) ∧ r.queryUnescape u = .ok cid ∧ r.queryUnescape pw = .ok sec ∧
      Gen.AuthorizeClientIDSecret now cid sec p.clientStore = .ok ()) ∨
  (r.basic = none ∧ r.Form.ClientID = cid ∧ cid ≠ "" ∧ ∃ c, p.clientStore.GetClientByClientID cid = .ok c ∧
      ((r.Form.ClientSecret = "" ∧ c.auth = Const.AuthMethodNone) ∨
       (r.Form.ClientSecret ≠ "" ∧ Gen.AuthorizeClientIDSecret now cid r.Form.ClientSecret p.clientStore = .ok ())))

/-- `ParseTokenRevocationRequest` hands the handler the submitted token and hint unchanged, for a client that proved who it is -/
theorem parseRevocation_ok {now : Int} {r : ResHttpReq} {p : ResProvider} {tok hint cid : String}
    (h : GenRes.ParseTokenRevocationRequest now r p = .ok (tok, hint, cid)) :
    tok = r.Form.Token ∧ hint = r.Form.TokenTypeHint ∧ RevocationCaller now r p cid := by
  unfold GenRes.ParseTokenRevocationRequest ResProvider.Decoder ResHttpReq.ParseForm ResHttpReq.BasicAuth Hand.resVerifyJWTAssertion
    ResProvider.AuthMethodPrivateKeyJWTSupported ResProvider.AuthMethodPostSupported ResProvider.JWTProfileVerifier at h
  simp only [] at h
  by_cases hpf : r.parseFormFails = true
  · simp [hpf] at h
  · by_cases hu : r.Form.undecodable = true
    · simp [hpf, hu] at h
    · simp only [hpf, hu, Bool.false_eq_true, if_false] at h
      by_cases hat : (r.Form.ClientAssertionType == Const.ClientAssertionTypeJWTAssertion) = true
      · simp only [hat, if_true] at h
        split at h
        · simp at h
        · rename_i hsup
          cases hv : Gen.VerifyJWTAssertion now r.assertionToken p.jwtProfileVerifier with
          | error e => simp [hv] at h
          | ok c =>
            simp only [hv] at h
            -- the assertion's issuer must be registered for private_key_jwt (checkPrivateKeyJWTClient)
            cases hpk : GenRes.checkPrivateKeyJWTClient now c.Issuer p.clientStore with
            | error e => simp [hpk] at h
            | ok _ =>
            simp [hpk] at h
            refine ⟨h.1.symm, h.2.1.symm, Or.inl ⟨by simpa using hat, ?_, c, hv, h.2.2⟩⟩
            simp at hsup; exact hsup.2
      · simp only [hat, Bool.false_eq_true, if_false] at h
        cases hb : r.basic with
        | some up =>
          obtain ⟨u, pw⟩ := up
          simp only [hb, if_true] at h
          cases hq1 : r.queryUnescape u with
          | error e => simp [hq1] at h
          | ok cid' =>
            simp only [hq1] at h
            cases hq2 : r.queryUnescape pw with
            | error e => simp [hq2] at h
            | ok sec =>
              simp only [hq2] at h
              cases ha : Gen.AuthorizeClientIDSecret now cid' sec p.clientStore with
              | error e => simp [ha] at h
              | ok _ =>
                simp only [ha] at h
                -- a client_secret_post client needs the method to be enabled (checkAuthMethodPost)
                cases hpost : GenRes.checkAuthMethodPost now cid' p with
                | error e => simp [hpost] at h
                | ok _ =>
                simp [hpost] at h
                obtain ⟨h1, h2, rfl⟩ := h
                exact ⟨h1.symm, h2.symm, Or.inr (Or.inl ⟨u, pw, sec, hb, hq1, hq2, ha⟩)⟩
        | none =>
          simp only [hb, Bool.false_eq_true, if_false] at h
          by_cases hid : (r.Form.ClientID == "") = true
          · simp [hid] at h
          · simp only [hid, Bool.false_eq_true, if_false] at h
            cases hc : p.clientStore.GetClientByClientID r.Form.ClientID with
            | error e => simp [hc] at h
            | ok c =>
              simp only [hc] at h
              by_cases hs : (r.Form.ClientSecret == "") = true
              · simp only [hs, if_true] at h
                split at h
                · simp at h
                · rename_i hnone
                  simp at h
                  obtain ⟨h1, h2, rfl⟩ := h
                  refine ⟨h1.symm, h2.symm, Or.inr (Or.inr ⟨hb, rfl, by simpa using hid, c, hc, Or.inl ⟨by simpa using hs, ?_⟩⟩)⟩
                  simpa [OPClient.AuthMethod] using hnone
              · simp only [hs, Bool.false_eq_true, if_false] at h
                split at h
                · simp at h
                · cases ha : Gen.AuthorizeClientIDSecret now r.Form.ClientID r.Form.ClientSecret p.clientStore with
                  | error e => simp [ha] at h
                  | ok _ =>
                    simp [ha] at h
                    obtain ⟨h1, h2, rfl⟩ := h
                    exact ⟨h1.symm, h2.symm, Or.inr (Or.inr ⟨hb, rfl, by simpa using hid, c, hc, Or.inr ⟨by simpa using hs, ha⟩⟩)⟩

theorem revokeRequest_eq (atp : ResATProvider) (e : Env) (s : St) (r : ResHttpReq) :
    revokeRequest atp e s r =
      match GenRes.ParseTokenRevocationRequest e.now r (provider atp e s) with
      | .error _ => (s, .refused)
      | .ok (tok, hint, cid) => revoke .provider atp e s (some cid) hint tok := by
  unfold revokeRequest
  cases hp : GenRes.ParseTokenRevocationRequest e.now r (provider atp e s) with
  | error err => simp [Revoke_eq, Hand.resRevocationRequestError]
  | ok pr => obtain ⟨tok, hint, cid⟩ := pr; simp [revoke, callerR, Except.map]

def exTok : Tok := { id := "at1", client := "web", subject := "u1", audience := ["web"], refresh := "rt1" }
def exRT : RTok := { token := "rt1", client := "web", subject := "u1", access := "at1" }
def exSt : St := { toks := [exTok], rtoks := [exRT] }
/-- "opaque1" is the opaque access token of at1; nothing else decrypts -/
def exEnv : Env := { decrypt := fun t => if t == "opaque1" then .ok "at1:u1" else .error "illegal base64 data" }
/-- a provider key, a JWT access token of issuer A signed by it, the request contexts of issuers A and B -/
def exKey : JWK := { KeyID := "sig1", Use := "sig", kty := .rsa, keyNo := 0 }
def exATP : ResATProvider := { accessTokenKeySet := { kind := .published, keys := [exKey] } }
def exPayload : Payload := { bytes := 1, claims := some { iss := "https://a.example", sub := "u1", aud := ["web"], exp := 2000 } }
def exJWT : Token :=
  { segs := 3, middle := some exPayload,
    jws := some { Signatures := [{ Header := ⟨"RS256", "sig1"⟩, signer := some 0, signedAlg := "RS256", signedBytes := 1, signedHdr := ⟨"RS256", "sig1"⟩ }], payload := exPayload } }
def exEnvA : Env := { now := 1000 * Go.second, issuer := "https://a.example", tokenOf := fun _ => exJWT, jtiOf := fun _ => "at1" }
def exEnvB : Env := { exEnvA with issuer := "https://b.example" }

example : (step {} exSt (.userinfo .provider exEnv "opaque1")).2 = some (.at "at1") := by decide +kernel
example : (step {} exSt (.introspect .legacy exEnv (some "web") "opaque1")).2 = some (.at "at1") := by decide +kernel
example : (step {} exSt (.introspect .provider exEnv (some "other") "opaque1")).2 = none := by decide +kernel
example : (run {} exSt [.exchange exEnv true "rt1", .refresh {} "rt1", .refresh {} "rt1"]).2 = [some (.rt "rt1"), some (.rt "rt1"), none] := by decide +kernel
-- a JWT access token of issuer A: honoured at A, refused at B (both routers, all three endpoints), refused at A once expired
example : (step exATP exSt (.userinfo .provider exEnvA "jwtA")).2 = some (.at "at1") := by decide +kernel
example : (step exATP exSt (.userinfo .provider exEnvB "jwtA")).2 = none := by decide +kernel
example : (step exATP exSt (.introspect .legacy exEnvB (some "web") "jwtA")).2 = none := by decide +kernel
example : (step exATP exSt (.exchange exEnvA false "jwtA")).2 = some (.at "at1") := by decide +kernel
example : (step exATP exSt (.exchange exEnvB false "jwtA")).2 = none := by decide +kernel
example : (step exATP exSt (.userinfo .legacy { exEnvA with now := 3000 * Go.second } "jwtA")).2 = none := by decide +kernel
-- revocation by the owner: access token (wrong hint), refresh token (no hint / wrong hint / garbage hint): dead everywhere afterwards
example : (run {} exSt [.revoke .provider exEnv (some "web") "refresh_token" "opaque1", .userinfo .provider exEnv "opaque1",
    .introspect .provider exEnv (some "web") "opaque1", .exchange exEnv false "opaque1"]).2 = [none, none, none, none] := by decide +kernel
example : (run {} exSt [.revoke .legacy exEnv (some "web") "access_token" "rt1", .refresh {} "rt1", .exchange exEnv true "rt1",
    .userinfo .provider exEnv "opaque1"]).2 = [none, none, none, none] := by decide +kernel
example : (run {} exSt [.revoke .provider exEnv (some "web") "bogus" "rt1", .refresh {} "rt1", .userinfo .legacy exEnv "opaque1"]).2 = [none, none, none] := by decide +kernel
example : (run {} exSt [.revoke .provider exEnv (some "evil") "" "rt1", .refresh {} "rt1"]).2 = [none, some (.rt "rt1")] := by decide +kernel
example : (run {} exSt [.endSession "" "u1" "web", .refresh {} "rt1", .userinfo .provider exEnv "opaque1"]).2 = [none, none, none] := by decide +kernel

-- the hint plays no part: a refresh token whose string happens to "decrypt" to `x:y` is revoked as the refresh token it is, under the
-- hint access_token as under any other
def exEnvCollide : Env := { decrypt := fun _ => .ok "x:y" }
example : (run {} exSt [.revoke .provider exEnvCollide (some "web") "access_token" "rt1", .refresh {} "rt1", .exchange exEnvCollide true "rt1"]).2
    = [none, none, none] := by decide +kernel
example : (run {} exSt [.revoke .legacy exEnvCollide (some "web") "access_token" "rt1", .refresh {} "rt1"]).2 = [none, none] := by decide +kernel
example : (run {} exSt [.revoke .provider exEnvCollide (some "evil") "access_token" "rt1", .refresh {} "rt1"]).2 = [none, some (.rt "rt1")] := by decide +kernel
example : (revoke .provider {} exEnvCollide exSt (some "evil") "access_token" "rt1").2 = .refused := by decide +kernel

-- a partitioning storage (multi-issuer provider): the OPAQUE access token and the refresh token created under issuer A are honoured
-- at A and refused at B - userinfo, introspection, exchange, the refresh grant - and a revocation or logout at B leaves them alone
def exStP : St := { toks := [{ exTok with issuer := "https://a.example" }], rtoks := [{ exRT with issuer := "https://a.example" }], partitioned := true }
def exOpA : Env := { exEnv with issuer := "https://a.example" }
def exOpB : Env := { exEnv with issuer := "https://b.example" }
example : (run {} exStP [.userinfo .provider exOpA "opaque1", .introspect .legacy exOpA (some "web") "opaque1", .exchange exOpA false "opaque1",
    .exchange exOpA true "rt1"]).2 = [some (.at "at1"), some (.at "at1"), some (.at "at1"), some (.rt "rt1")] := by decide +kernel
example : (run {} exStP [.userinfo .provider exOpB "opaque1", .introspect .legacy exOpB (some "web") "opaque1", .exchange exOpB false "opaque1",
    .exchange exOpB true "rt1", .refresh exOpB "rt1"]).2 = [none, none, none, none, none] := by decide +kernel
example : (run {} exStP [.revoke .provider exOpB (some "web") "" "rt1", .endSession "https://b.example" "u1" "web", .refresh exOpA "rt1"]).2
    = [none, none, some (.rt "rt1")] := by decide +kernel
example : (run {} exStP [.revoke .legacy exOpA (some "web") "access_token" "rt1", .refresh exOpA "rt1", .userinfo .provider exOpA "opaque1"]).2
    = [none, none, none] := by decide +kernel

-- the request parsers: Basic auth with the registered secret is let through, a wrong secret and a merely identified caller are not
def exClients : Store := { clients := [{ id := "web", secret := "s3cret", auth := "client_secret_basic" }, { id := "pub", auth := "none" }] }
def exProv : ResProvider := { clientStore := exClients, postSupported := true, pkjwtSupported := true }
example : (GenRes.ParseTokenRevocationRequest 0 { Form := { Token := "rt1", TokenTypeHint := "access_token" }, basic := some ("web", "s3cret") } exProv).toOption
    = some ("rt1", "access_token", "web") := by decide +kernel
example : (GenRes.ParseTokenRevocationRequest 0 { Form := { Token := "rt1" }, basic := some ("web", "guess") } exProv).toBool = false := by decide +kernel
example : (GenRes.ParseTokenRevocationRequest 0 { Form := { Token := "rt1", ClientID := "pub" } } exProv).toOption = some ("rt1", "", "pub") := by decide +kernel
example : (GenRes.ParseTokenRevocationRequest 0 { Form := { Token := "rt1", ClientID := "web" } } exProv).toBool = false := by decide +kernel
example : (GenRes.ParseTokenIntrospectionRequest 0 { Form := { Token := "t" }, identified := .ok ("web", true) } exProv).toOption = some ("t", "web") := by decide +kernel
example : (GenRes.ParseTokenIntrospectionRequest 0 { Form := { Token := "t" }, identified := .ok ("pub", false) } exProv).toBool = false := by decide +kernel

end Res
