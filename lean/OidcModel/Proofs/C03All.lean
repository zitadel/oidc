/-
  C03: everything the check builds and audits (checklib/props.d/C03.json `proof_module`).
    Proofs/C03Char.lean      one characterisation lemma per regenerated function (layer 1)
    Proofs/C03.lean          the property theorems: per step, per history, storage faults at every index (layer 2)
    Proofs/C03FormPost.lean  form_post answers on connections that break: composition with C11's regenerated program of
                             AuthResponseFormPost - the first form of every delivered document is its own request's
-/
import OidcModel.Proofs.C03
import OidcModel.Proofs.C03FormPost
