/-
  C14 — "unexpired, issued neither in the future nor more than the allowed age ago", at EVERY distance of iat / exp from
  the verifier's clock.

  The time checks of `op.VerifyJWTAssertion` (`oidc.CheckExpiration`, `oidc.CheckIssuedAt`) are regenerated with Go's int64
  arithmetic made explicit (`FuncSpec.Wrap64`, Model/Int64C14.lean): where the source itself computes with Durations / Unix seconds
  (`time.Duration(x) * time.Second`, `d1 - d2`) the regenerated term carries `Go.wrap64`, where it only uses `time.Time.Add / Round /
  Before / After` (exact on instants) it does not.  The statements below have NO hypothesis about how far the claims are from `now`:
  instants and durations are mathematical integers.  A check that computes an age as an int64 Duration does not satisfy them - the
  characterisation lemma stops checking, and the `decide`d samples at the places where int64 nanoseconds wrap (± 2⁶⁴ ns, 2⁵⁵ … 2⁶² s)
  evaluate to the wrong answer: the witness.

  This module depends on the regenerated definitions, `verifyJWTAssertion_ok` (Proofs/C14Reuse) and `go_unfold` / `go_leaf` only.
-/
import OidcModel.Proofs.C14Reuse
import OidcModel.Generated.AssertionTime

namespace C14
open Go Gen Hand

/-- `Round(time.Second)` moves an instant by at most half a second -/
theorem tRound_second_near (t : Int) : tRound t second - t ≤ 500000000 ∧ t - tRound t second ≤ 500000000 := by
  unfold tRound second zeroTime
  simp only []
  split
  · omega
  · split <;> omega

/-- CHARACTERISATION (shape-independent; the one place where the Go text of `CheckIssuedAt` matters): acceptance means exactly - iat
    present, not after the rounded `now + offset`, and (with a maximum age) not before the rounded `now - maxAge`.  No bound on any of
    the integers. -/
theorem checkIssuedAt_window {now : Int} {c : Claims} {maxIAT off : Int} :
    CheckIssuedAt now c maxIAT off = .ok () ↔
      (asTime c.iat ≠ zeroTime ∧ asTime c.iat ≤ tRound (now + off) second ∧
        (maxIAT = 0 ∨ tRound (now - maxIAT) second ≤ asTime c.iat)) := by
  unfold CheckIssuedAt
  go_unfold Claims.GetIssuedAt Go.ok tBefore tAfter tAdd tIsZero
  try simp only [Int.sub_eq_add_neg]
  go_leaf

/-- CHARACTERISATION of `CheckExpiration`: unexpired at `now + offset`, exactly -/
theorem checkExpiration_window {now : Int} {c : Claims} {off : Int} :
    CheckExpiration now c off = .ok () ↔ now + off < asTime c.exp := by
  unfold CheckExpiration
  go_unfold Claims.GetExpiration Go.ok tBefore tAfter tAdd
  go_leaf

/-- an assertion issued in the future (beyond the offset and the half second of rounding) is refused, WHATEVER the distance -/
theorem c14_iat_future_refused {now : Int} {c : Claims} {maxIAT off : Int} (h : now + off + 500000000 < asTime c.iat) :
    CheckIssuedAt now c maxIAT off ≠ .ok () := by
  intro hok
  have := (checkIssuedAt_window.mp hok).2.1
  have := tRound_second_near (now + off)
  omega

/-- an assertion older than the allowed age (beyond the half second of rounding) is refused, WHATEVER the distance -/
theorem c14_iat_old_refused {now : Int} {c : Claims} {maxIAT off : Int} (hm : maxIAT ≠ 0)
    (h : asTime c.iat + 500000000 < now - maxIAT) : CheckIssuedAt now c maxIAT off ≠ .ok () := by
  intro hok
  have h2 := (checkIssuedAt_window.mp hok).2.2
  have := tRound_second_near (now - maxIAT)
  rcases h2 with h2 | h2
  · exact hm h2
  · omega

/-- an assertion without iat (0 / the zero time) is refused -/
theorem c14_iat_missing_refused {now : Int} {c : Claims} {maxIAT off : Int} (h : asTime c.iat = zeroTime) :
    CheckIssuedAt now c maxIAT off ≠ .ok () := by
  intro hok
  exact (checkIssuedAt_window.mp hok).1 h

/-- completeness: inside the window (half a second away from its ends) the check passes -/
theorem c14_iat_inside_accepted {now : Int} {c : Claims} {maxIAT off : Int} (h0 : asTime c.iat ≠ zeroTime)
    (h1 : asTime c.iat + 500000000 ≤ now + off) (h2 : maxIAT = 0 ∨ now - maxIAT + 500000000 ≤ asTime c.iat) :
    CheckIssuedAt now c maxIAT off = .ok () := by
  refine checkIssuedAt_window.mpr ⟨h0, ?_, ?_⟩
  · have := tRound_second_near (now + off); omega
  · rcases h2 with h2 | h2
    · exact .inl h2
    · have := tRound_second_near (now - maxIAT); exact .inr (by omega)

/-- an expired assertion is refused whatever the distance -/
theorem c14_exp_refused {now : Int} {c : Claims} {off : Int} (h : asTime c.exp ≤ now + off) : CheckExpiration now c off ≠ .ok () := by
  intro hok
  have := checkExpiration_window.mp hok
  omega

/-- THE TIME WINDOW OF AN ACCEPTED ASSERTION, for every verifier (any issuer, max age, offset, key source, subject check), every
    token and every instant - no hypothesis on how far the claims are from `now`: the token's claims are unexpired at `now + offset`,
    carry an iat, issued not later than `now + offset` (+ half a second of rounding) and - with a maximum age - not earlier than
    `now - maxAge` (- half a second) -/
theorem c14_assertion_time_window {now : Int} {t : Token} {v : JWTProfileVerifier} {c : Claims}
    (h : VerifyJWTAssertion now t v = .ok c) :
    ∃ p c0, ParseToken now t = .ok (p, c0) ∧ now + v.Offset < asTime c0.exp ∧ asTime c0.iat ≠ zeroTime ∧
      asTime c0.iat ≤ now + v.Offset + 500000000 ∧ (v.MaxAgeIAT = 0 ∨ now - v.MaxAgeIAT - 500000000 ≤ asTime c0.iat) := by
  obtain ⟨p, c0, hp, _, hexp, hiat, _, _⟩ := verifyJWTAssertion_ok.mp h
  have hw := checkIssuedAt_window.mp hiat
  refine ⟨p, c0, hp, checkExpiration_window.mp hexp, hw.1, ?_, ?_⟩
  · have := tRound_second_near (now + v.Offset); omega
  · rcases hw.2.2 with h2 | h2
    · exact .inl h2
    · have := tRound_second_near (now - v.MaxAgeIAT); exact .inr (by omega)

/-! ### the time claims as the checks read them

`claims.GetIssuedAt()` / `claims.GetExpiration()` on a `*oidc.JWTTokenRequest` and `oidc.Time.AsTime` are regenerated
(`Generated/AssertionTime.lean`, int64 arithmetic explicit); the hand-written getters of Model/Token.lean that every regenerated check
is applied to are these functions. -/

/-- CHARACTERISATION of `oidc.Time.AsTime`: 0 is the zero time, every other value that many whole seconds after the epoch - exact for
    every integer (no nanosecond arithmetic on the way) -/
theorem timeAsTime_eq (now ts : Int) : GenC14.TimeAsTime now ts = Go.asTime ts := by
  unfold GenC14.TimeAsTime Go.asTime
  go_unfold Go.timeUnix Go.tUnix
  go_leaf

/-- the getters the regenerated checks read (`Claims.GetIssuedAt`, `Claims.GetExpiration`) are the getters of the source -/
theorem c14_time_getters (now : Int) (c : Claims) :
    GenC14.JWTTokenRequestGetIssuedAt now c = c.GetIssuedAt ∧ GenC14.JWTTokenRequestGetExpiration now c = c.GetExpiration := by
  unfold GenC14.JWTTokenRequestGetIssuedAt GenC14.JWTTokenRequestGetExpiration Claims.GetIssuedAt Claims.GetExpiration
  simp only [timeAsTime_eq, and_self]

/-- far values through the regenerated conversion: no wrap at ± one int64-nanosecond range, 2⁶² s, the year-1 / year-9999 edges -/
theorem c14_asTime_far_samples :
    ([18446744074, -18446744074, 9223372037, -9223372037, 4611686018427387904, -4611686018427387904, 253402300799, -62135596800,
      -62135596801, -1, 1, 4294967296].all fun s => GenC14.TimeAsTime 0 s == s * 1000000000) = true ∧ GenC14.TimeAsTime 0 0 = Go.zeroTime := by decide +kernel

/-! ### samples at the places where int64 nanoseconds wrap (a test, not the claim: the claim is the theorems above)

`farNow` = 2026-09-21T… + 0.3 s; the provider's window (1 h, 1 s).  Distances: one / two / three int64-nanosecond wraps
(2⁶⁴ ns = 18446744073.7 s ≈ 584.5 years) ± the width of the window, half a wrap, 2⁵⁵ … 2⁶² s (whole multiples of 2⁶⁴ ns), ± 292 / 293
years, the ends of years 1 … 9999, negative Unix times.  On a `CheckIssuedAt` / `CheckExpiration` that computes with int64 Durations
these evaluate differently and `decide` reports the proposition false. -/

def farNowS : Int := 1790000000
def farNow : Int := farNowS * second + 300000000

/-- distances (seconds) at which an iat must be refused as "in the future" (sign +) and as "too old" (sign -) -/
def farDistances : List Int :=
  [18446744074, 18446744074 + 3599, 18446744074 - 3599, 18446744073, 36893488147, 55340232221, 184467440737, 9223372037,
   36028797018963968, 72057594037927936, 288230376151711744, 4611686018427387904, 9214630000, 9246000000, 7200, 3602]

/-- the regenerated check answers (true = passed) -/
def iatPasses (iatS : Int) (maxAge off : Int) : Bool := (CheckIssuedAt farNow { iat := iatS, exp := farNowS + 300 } maxAge off).toBool
def expPasses (expS : Int) (off : Int) : Bool := (CheckExpiration farNow { iat := farNowS - 5, exp := expS } off).toBool

/-- every far FUTURE iat is refused (with and without a maximum age) -/
theorem c14_far_future_iat_refused :
    (farDistances.all fun d => !iatPasses (farNowS + d) (3600 * second) second && !iatPasses (farNowS + d) 0 second) = true := by decide +kernel

/-- every far PAST iat is refused under a maximum age (and passes without one, unless it is the zero time) -/
theorem c14_far_past_iat_refused :
    (farDistances.all fun d => !iatPasses (farNowS - d) (3600 * second) second && iatPasses (farNowS - d) 0 second) = true := by decide +kernel

/-- expiration: far in the past is expired, far in the future is unexpired -/
theorem c14_far_exp_samples :
    (farDistances.all fun d => !expPasses (farNowS - d) second && expPasses (farNowS + d) second) = true := by decide +kernel

/-- the edges of the years 1 … 9999, negative Unix times: year 1 itself is the zero time (missing), everything else before `now` is too
    old, the last second of 9999 and the first of 10000 are in the future -/
theorem c14_edge_iat_samples :
    ([-62135596800, -62135596799, -62135596801, -1, 1, -86400, -2147483648, 253402300799, 253402300800].all fun s =>
      !iatPasses s (3600 * second) second) = true ∧
    ([-62135596799, -62135596801, -1, 1, -86400, -2147483648].all fun s => iatPasses s 0 second) = true ∧
    iatPasses (-62135596800) 0 second = false ∧ iatPasses 0 0 second = false := by decide +kernel

/-- non-vacuity: inside the window the check passes -/
example : iatPasses (farNowS - 5) (3600 * second) second = true ∧ iatPasses (farNowS + 1) (3600 * second) second = true ∧
    iatPasses (farNowS - 3600) (3600 * second) second = true ∧ iatPasses (farNowS - 3601) (3600 * second) second = false ∧
    iatPasses (farNowS + 2) (3600 * second) second = false := by decide +kernel

end C14
