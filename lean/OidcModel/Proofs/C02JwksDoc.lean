/-
  C02: the relying party's parser of the downloaded JWKS document is the tie between what the provider PUBLISHES and the
  key list `FindMatchingKey` sees.  `GenC02J.jsonWebKeySetUnmarshalJSON` is regenerated from `jsonWebKeySet.UnmarshalJSON`,
  `GenC02J.fetchRemoteKeys` from `remoteKeySet.fetchRemoteKeys` (pkg/client/rp/jwks.go); encoding/json on the top level and
  go-jose's per-key parser are oracles (Model/JwksDocC02.lean).

  Every key of the resulting set is the oracle's parse of ONE raw entry of the document, handed over unchanged, once, into
  a fresh key object — nothing is re-read, no member dropped; hence (oracle faithful to the declared members) its use, key id, type
  and material are the PUBLISHED ones, the key `FindMatchingKey` selects for a signature was published with use `sig` or none, and
  what the RP's ID-token verifier believes satisfies `C02.monitor` for the published key set of the document; the same for the keys
  a download returns and for a long-lived remote key set that downloads a document whenever its cache does not settle the matter.
-/
import OidcModel.Generated.JwksDocC02
import OidcModel.Proofs.C02Remote

namespace C02
open Hand

/-- one round of the loop in the statement's words: the raw entry goes to go-jose's parser as it is, into a fresh key object; an
    accepted key is appended, a refused entry is skipped -/
def jwksStep (o : C02JOracle) (k : C02JKeySet) (r : C02JRaw) : C02JKeySet :=
  match o.parseJWK default r with
  | .ok w => { k with Keys := k.Keys ++ [w] }
  | .error _ => k

/-- ANY loop body that does per raw entry what `jwksStep` does yields the accepted parses, in document order, behind what was there -/
theorem foldList_parsed (o : C02JOracle) (f : C02JKeySet → C02JRaw → C02JKeySet) (hf : ∀ k r, f k r = jwksStep o k r)
    (l : List C02JRaw) (k : C02JKeySet) :
    GoX.foldList l k f = { k with Keys := k.Keys ++ c02jParsed o l } := by
  unfold GoX.foldList
  induction l generalizing k with
  | nil => simp [c02jParsed]
  | cons r rest ih =>
    simp only [List.foldl_cons, hf, ih]
    unfold jwksStep c02jParsed
    cases h : o.parseJWK default r <;> simp [h]

/-- **characterisation** of the regenerated parser: the top level of the document is read once by encoding/json (its error is the
    function's error); then the key set is extended by exactly the accepted per-key parses of the raw entries, in document order -/
theorem jsonWebKeySetUnmarshalJSON_char (now : Int) (o : C02JOracle) (k : C02JKeySet) (data : C02JDoc) :
    GenC02J.jsonWebKeySetUnmarshalJSON now o k data =
      match o.jsonUnmarshal data default with
      | .error e => .error e
      | .ok raw => .ok { k with Keys := k.Keys ++ c02jParsed o raw.Keys } := by
  unfold GenC02J.jsonWebKeySetUnmarshalJSON
  simp only []
  cases h : o.jsonUnmarshal data default with
  | error e => simp only [h]
  | ok raw =>
    simp only [h]
    rw [foldList_parsed o _ (by intro k r; simp only [jwksStep, Go.append]; go_leaf)]

/-- the parser run on a FRESH key set (`keySet := new(jsonWebKeySet)` in `fetchRemoteKeys`) -/
def parseDocument (now : Int) (o : C02JOracle) (data : C02JDoc) : Go.R C02JKeySet :=
  GenC02J.jsonWebKeySetUnmarshalJSON now o default data

theorem default_keys : (default : C02JKeySet).Keys = [] := rfl

theorem parseDocument_eq (now : Int) (o : C02JOracle) (data : C02JDoc) :
    parseDocument now o data =
      match o.jsonUnmarshal data default with
      | .error e => .error e
      | .ok raw => .ok { Keys := c02jParsed o raw.Keys } := by
  unfold parseDocument
  rw [jsonWebKeySetUnmarshalJSON_char]
  cases o.jsonUnmarshal data default <;> simp [default_keys]

theorem mem_c02jParsed {o : C02JOracle} {l : List C02JRaw} {key : JWK} :
    key ∈ c02jParsed o l ↔ ∃ r ∈ l, o.parseJWK default r = .ok key := by
  unfold c02jParsed
  simp only [List.mem_filterMap]
  refine exists_congr fun r => and_congr_right fun _ => ?_
  cases o.parseJWK default r <;> simp

/-- **nothing re-read, no member dropped.**  A document the parser accepts was readable at its top level, and the key list is, in
    document order, go-jose's parse of the raw entries — every key of the set is the parse of ONE raw entry of the document, handed
    over as it stands, once, into a fresh key object; an entry go-jose refuses contributes nothing. -/
theorem c02_jwks_key_origin {now : Int} {o : C02JOracle} {data : C02JDoc} {ks : C02JKeySet}
    (h : parseDocument now o data = .ok ks) :
    ∃ raw, o.jsonUnmarshal data default = .ok raw ∧ ks.Keys = c02jParsed o raw.Keys ∧
      (∀ key ∈ ks.Keys, ∃ r ∈ raw.Keys, o.parseJWK default r = .ok key) ∧
      (∀ r ∈ raw.Keys, ∀ key, o.parseJWK default r = .ok key → key ∈ ks.Keys) := by
  rw [parseDocument_eq] at h
  cases hr : o.jsonUnmarshal data default with
  | error e => rw [hr] at h; cases h
  | ok raw =>
    rw [hr] at h
    simp only [Except.ok.injEq] at h
    subst h
    refine ⟨raw, rfl, rfl, ?_, ?_⟩
    · intro key hk; exact mem_c02jParsed.1 hk
    · intro r hr key hp; exact mem_c02jParsed.2 ⟨r, hr, hp⟩

/-- a document whose top level encoding/json refuses yields no key set at all -/
theorem c02_jwks_unreadable {now : Int} {o : C02JOracle} {data : C02JDoc} {e : String}
    (h : o.jsonUnmarshal data default = .error e) : parseDocument now o data = .error e := by
  rw [parseDocument_eq, h]

/-- with a per-key parser that is faithful to the declared members, what is parsed IS what is published -/
theorem c02jParsed_eq_published {o : C02JOracle} (hf : o.faithful) (l : List C02JRaw) : c02jParsed o l = c02jPublished o l := by
  unfold c02jParsed c02jPublished
  induction l with
  | nil => rfl
  | cons r rest ih =>
    simp only [List.filterMap_cons, ih]
    cases hp : o.parseJWK default r with
    | ok k => simp [hf _ _ _ hp]
    | error e => rfl

/-- **the key list `FindMatchingKey` sees is the published one**: every key of the set carries the key id, use, type and material one
    entry of the document declares (and every accepted entry is there with its declared use) -/
theorem c02_jwks_published {now : Int} {o : C02JOracle} (hf : o.faithful) {data : C02JDoc} {ks : C02JKeySet}
    (h : parseDocument now o data = .ok ks) :
    ∃ raw, o.jsonUnmarshal data default = .ok raw ∧ ks.Keys = c02jPublished o raw.Keys ∧
      ∀ key ∈ ks.Keys, ∃ r ∈ raw.Keys, r.pub = some key := by
  obtain ⟨raw, hr, hk, hall, _⟩ := c02_jwks_key_origin h
  refine ⟨raw, hr, by rw [hk, c02jParsed_eq_published hf], ?_⟩
  intro key hkey
  obtain ⟨r, hr, hp⟩ := hall key hkey
  exact ⟨r, hr, hf _ _ _ hp⟩

/-- **declared use permits signatures.**  The key the REGENERATED `FindMatchingKey` selects for a signature from the parsed document is
    an entry of the document that go-jose accepts and whose DECLARED use is `sig` or absent — a key published with `use: enc` (or any
    other use) is never selected, whatever else its JWK carries. -/
theorem c02_jwks_selected_use {now : Int} {o : C02JOracle} (hf : o.faithful) {data : C02JDoc} {ks : C02JKeySet}
    (h : parseDocument now o data = .ok ks) {kid alg : String} {key : JWK}
    (hsel : GenC02.FindMatchingKey now kid Const.KeyUseSignature alg ks.Keys = .ok key) :
    ∃ raw r, o.jsonUnmarshal data default = .ok raw ∧ r ∈ raw.Keys ∧ r.pub = some key ∧ o.parseJWK default r = .ok key ∧
      (key.Use = "sig" ∨ key.Use = "") := by
  rw [findMatchingKey_bridge] at hsel
  obtain ⟨hmem, huse, _, _⟩ := findMatchingKey_ok hsel
  obtain ⟨raw, hr, _, hall, _⟩ := c02_jwks_key_origin h
  obtain ⟨r, hrm, hp⟩ := hall key hmem
  exact ⟨raw, r, hr, hrm, hf _ _ _ hp, hp, huse⟩

theorem c02_jwks_enc_never_selected {now : Int} {o : C02JOracle} (hf : o.faithful) {data : C02JDoc} {ks : C02JKeySet}
    (h : parseDocument now o data = .ok ks) {kid alg : String} {key : JWK}
    (hsel : GenC02.FindMatchingKey now kid Const.KeyUseSignature alg ks.Keys = .ok key) :
    ∀ raw, o.jsonUnmarshal data default = .ok raw → ∃ r ∈ raw.Keys, r.pub = some key ∧ ∀ d, r.pub = some d → d.Use ≠ "enc" := by
  intro raw hraw
  obtain ⟨raw', r, hr', hrm, hpub, _, huse⟩ := c02_jwks_selected_use hf h hsel
  rw [hraw] at hr'
  cases hr'
  refine ⟨r, hrm, hpub, ?_⟩
  intro d hd
  rw [hpub] at hd
  cases hd
  rcases huse with hu | hu <;> rw [hu] <;> decide

/-- **C02 for the RP's ID-token verifier over a downloaded document**: with the key set the regenerated parser makes of the document,
    whatever `VerifyIDToken` believes satisfies the monitor for the PUBLISHED key set of that document (the entries go-jose accepts,
    with their declared key id / use / type / material) -/
theorem c02_rp_document (now : Int) {o : C02JOracle} (hf : o.faithful) {data : C02JDoc} {ks : C02JKeySet}
    (h : parseDocument now o data = .ok ks) (t : Token) (v : Verifier) :
    ∃ raw, o.jsonUnmarshal data default = .ok raw ∧
      monitor v.SupportedSignAlgs { kind := .published, keys := c02jPublished o raw.Keys } t
        (Gen.VerifyIDToken now t { v with KeySet := { kind := .published, keys := ks.Keys } }).toOption = none := by
  obtain ⟨raw, hr, hk, _⟩ := c02_jwks_published hf h
  refine ⟨raw, hr, ?_⟩
  rw [← hk]
  exact c02_rp now t { v with KeySet := { kind := .published, keys := ks.Keys } }

/-! ## the download: `fetchRemoteKeys` hands the response body to this parser on a fresh key set and returns what it left there -/

/-- the download in the statement's words: the keys of a successful download (none: it failed) -/
def fetchSpec (now : Int) (o : C02JOracle) (w : C02JHttp) (r : C02JRemote) : Option (List JWK) :=
  if w.urlOK r.jwksURL then
    match w.respond { method := "GET", url := r.jwksURL } with
    | .transport _ => none
    | .answer status body =>
      if status = 200 then
        match parseDocument now o body with
        | .ok ks => some ks.Keys
        | .error _ => none
      else none
  else none

/-- **characterisation** of the regenerated `fetchRemoteKeys` (error texts aside): the request is a GET for the configured URL, the
    body of a 200 answer goes to the parser on a FRESH key set, and the keys returned are what the parser left in it -/
theorem fetchRemoteKeys_char (now : Int) (o : C02JOracle) (w : C02JHttp) (r : C02JRemote) :
    (GenC02J.fetchRemoteKeys now o w r).toOption = fetchSpec now o w r := by
  unfold GenC02J.fetchRemoteKeys fetchSpec Hand.c02jNewRequest Hand.c02jHttpRequest parseDocument Except.toOption
  go_leaf

/-- it succeeds exactly when the request could be built for the configured URL, the endpoint answered that GET request with status
    200, and the parser accepts the body on a fresh key set; the keys it returns (the keys `updateKeys` caches) are the parser's -/
theorem fetchRemoteKeys_ok (now : Int) (o : C02JOracle) (w : C02JHttp) (r : C02JRemote) (keys : List JWK) :
    GenC02J.fetchRemoteKeys now o w r = .ok keys ↔
      w.urlOK r.jwksURL = true ∧ ∃ body ks, w.respond { method := "GET", url := r.jwksURL } = .answer 200 body ∧
        parseDocument now o body = .ok ks ∧ ks.Keys = keys := by
  have hiff : GenC02J.fetchRemoteKeys now o w r = .ok keys ↔ fetchSpec now o w r = some keys := by
    rw [← fetchRemoteKeys_char]
    cases GenC02J.fetchRemoteKeys now o w r <;> simp [Except.toOption]
  rw [hiff]
  unfold fetchSpec
  constructor
  · intro h
    repeat' (split at h <;> try cases h)
    subst_vars
    exact ⟨‹_›, _, _, ‹_›, ‹_›, rfl⟩
  · rintro ⟨hu, body, ks, hr, hp, rfl⟩
    simp [hu, hr, hp]

/-- **what enters the cache is what the document publishes**: the keys a successful download returns are, in document order, the
    entries of the served body that go-jose accepts, with their DECLARED key id / use / type / material -/
theorem c02_download_published {now : Int} {o : C02JOracle} (hf : o.faithful) {w : C02JHttp} {r : C02JRemote} {keys : List JWK}
    (h : GenC02J.fetchRemoteKeys now o w r = .ok keys) :
    ∃ body raw, w.respond { method := "GET", url := r.jwksURL } = .answer 200 body ∧ o.jsonUnmarshal body default = .ok raw ∧
      keys = c02jPublished o raw.Keys := by
  obtain ⟨_, body, ks, hr, hp, rfl⟩ := (fetchRemoteKeys_ok now o w r keys).1 h
  obtain ⟨raw, hraw, hk, _⟩ := c02_jwks_published hf hp
  exact ⟨body, raw, hr, hraw, hk⟩

/-- a key the downloaded document declares for encryption only is never the key a signature is checked with -/
theorem c02_download_selected_use {now : Int} {o : C02JOracle} (hf : o.faithful) {w : C02JHttp} {r : C02JRemote} {keys : List JWK}
    (h : GenC02J.fetchRemoteKeys now o w r = .ok keys) {kid alg : String} {key : JWK}
    (hsel : GenC02.FindMatchingKey now kid Const.KeyUseSignature alg keys = .ok key) :
    ∃ body raw e, w.respond { method := "GET", url := r.jwksURL } = .answer 200 body ∧ o.jsonUnmarshal body default = .ok raw ∧
      e ∈ raw.Keys ∧ e.pub = some key ∧ (key.Use = "sig" ∨ key.Use = "") := by
  obtain ⟨_, body, ks, hr, hp, rfl⟩ := (fetchRemoteKeys_ok now o w r keys).1 h
  obtain ⟨raw, e, hraw, he, hpub, _, huse⟩ := c02_jwks_selected_use hf hp hsel
  exact ⟨body, raw, e, hr, hraw, he, hpub, huse⟩

/-! ## histories: one long-lived remote key set, a document downloaded whenever the cache does not settle the matter -/

theorem mem_c02jPublished {o : C02JOracle} {l : List C02JRaw} {key : JWK} (h : key ∈ c02jPublished o l) :
    ∃ e ∈ l, e.pub = some key ∧ ∃ k, o.parseJWK default e = .ok k := by
  unfold c02jPublished at h
  obtain ⟨e, he, h⟩ := List.mem_filterMap.mp h
  refine ⟨e, he, ?_⟩
  cases hp : o.parseJWK default e <;> simp_all

theorem remoteCall_lastServed (cfg : Jwks.JwksSet) (st : RemoteSt) (served : List JWK) (j : JWS) :
    (remoteCall cfg st served j).2.lastServed = st.lastServed ∨ (remoteCall cfg st served j).2.lastServed = served := by
  unfold remoteCall
  split
  · exact Or.inr rfl
  · exact Or.inl rfl

theorem remoteRun_lastServed (cfg : Jwks.JwksSet) (steps : List (List JWK × JWS)) (st : RemoteSt) :
    ∀ x ∈ remoteRun cfg st steps, x.2.2.lastServed = st.lastServed ∨ ∃ s ∈ steps, x.2.2.lastServed = s.1 := by
  induction steps generalizing st with
  | nil => intro x hx; simp [remoteRun] at hx
  | cons a rest ih =>
    obtain ⟨served, j⟩ := a
    intro x hx
    have hc := remoteCall_lastServed cfg st served j
    simp only [remoteRun, List.mem_cons] at hx
    rcases hx with rfl | hx
    · exact hc.imp id fun h => ⟨_, List.mem_cons_self, h⟩
    · rcases ih _ x hx with h | ⟨s, hs, h⟩
      · exact hc.imp h.trans fun h' => ⟨_, List.mem_cons_self, h.trans h'⟩
      · exact Or.inr ⟨s, List.mem_cons_of_mem _ hs, h⟩

/-- **document rotation.**  One remote key set, used sequentially; before each call the endpoint may publish another DOCUMENT (any
    bytes; the download of each succeeds).  Whatever a call believes is its own payload, genuinely signed by a consistently selected
    key of the key list the LAST download produced — and that list is the published content of one of the served documents: the key is
    an entry of that document which go-jose accepts as it stands and whose DECLARED use is `sig` or absent.  No key that any served
    document declares for encryption only, and no entry go-jose refuses, is ever believed, at any point of any history. -/
theorem c02_remote_document_rotation (cfg : Jwks.JwksSet) (hd : cfg.defaultAlg = "") (now : Int) {o : C02JOracle} (hf : o.faithful)
    (r : C02JRemote) (steps : List (C02JHttp × JWS)) (keysOf : C02JHttp → List JWK)
    (hok : ∀ s ∈ steps, GenC02J.fetchRemoteKeys now o s.1 r = .ok (keysOf s.1)) :
    ∀ x ∈ remoteRun cfg {} (steps.map fun s => (keysOf s.1, s.2)), ∀ p, x.2.1.1 = some p →
      p = x.1.payload ∧ ∃ sg k, x.1.Signatures = [sg] ∧
        justifies { kind := .published, keys := x.2.2.lastServed } x.1 sg k = true ∧ (k.Use = "sig" ∨ k.Use = "") ∧
        ∃ s ∈ steps, ∃ body raw e, s.1.respond { method := "GET", url := r.jwksURL } = .answer 200 body ∧
          o.jsonUnmarshal body default = .ok raw ∧ x.2.2.lastServed = c02jPublished o raw.Keys ∧ e ∈ raw.Keys ∧ e.pub = some k := by
  intro x hx p hp
  obtain ⟨hpay, sg, k, hsig, hj⟩ := c02_remote_rotation cfg hd _ {} rfl x hx p hp
  refine ⟨hpay, sg, k, hsig, hj, ?_⟩
  have hj' := hj
  simp only [justifies, selectedOK, publishedOK, Bool.and_eq_true, List.contains_eq_mem, decide_eq_true_eq, Bool.or_eq_true,
    beq_iff_eq] at hj'
  obtain ⟨⟨hmem, _⟩, huse, _⟩ := hj'
  refine ⟨huse, ?_⟩
  rcases remoteRun_lastServed cfg _ {} x hx with h0 | ⟨s', hs', hl⟩
  · rw [h0] at hmem; cases hmem
  · simp only [List.mem_map] at hs'
    obtain ⟨s, hs, rfl⟩ := hs'
    obtain ⟨body, raw, hr, hraw, hk⟩ := c02_download_published hf (hok s hs)
    have hl' : x.2.2.lastServed = c02jPublished o raw.Keys := by rw [hl]; exact hk
    rw [hl'] at hmem
    obtain ⟨e, he, hpub, _⟩ := mem_c02jPublished hmem
    exact ⟨s, hs, body, raw, e, hr, hraw, hl', he, hpub⟩

/-! ## non-vacuity -/
section examples
def jdSig : JWK := { KeyID := "s", Use := "sig", kty := .rsa, keyNo := 1 }
def jdEnc : JWK := { KeyID := "e", Use := "enc", kty := .rsa, keyNo := 2 }
def jdEncBad : JWK := { KeyID := "x", Use := "enc", kty := .rsa, keyNo := 3 }
/-- three entries: a signing key, an encryption key, an encryption key whose `x5t` is in padded standard base64 (bytes 12) -/
def jdRaw : List C02JRaw := [{ bytes := 10, pub := some jdSig }, { bytes := 11, pub := some jdEnc }, { bytes := 12, pub := some jdEncBad }]
/-- go-jose: refuses entry 12, reads the others as declared -/
def jdOracle : C02JOracle :=
  { jsonUnmarshal := fun d _ => if d.bytes == 1 then .ok { Keys := jdRaw } else .error "invalid character",
    parseJWK := fun _ r => if r.bytes == 12 then .error "go-jose/go-jose: invalid JWK, x5t header has invalid encoding" else
      match r.pub with | some k => .ok k | none => .error "go-jose/go-jose: unknown json web key type" }

theorem jdOracle_faithful : jdOracle.faithful := by
  intro w r k h
  unfold jdOracle at h
  simp only at h
  split at h
  · cases h
  · cases hp : r.pub with
    | none => rw [hp] at h; cases h
    | some d => rw [hp] at h; cases h; rfl

example : ((parseDocument 0 jdOracle { bytes := 1 }).map (·.Keys)).toOption = some [jdSig, jdEnc] := by decide +kernel
example : (parseDocument 0 jdOracle { bytes := 2 }).toBool = false := by decide +kernel
/-- the refused encryption key is not in the set: a token naming it finds no key; the accepted encryption key is not selected either -/
example : (GenC02.FindMatchingKey 0 "x" "sig" "RS256" [jdSig, jdEnc]).toBool = false := by decide +kernel
example : (GenC02.FindMatchingKey 0 "e" "sig" "RS256" [jdSig, jdEnc]).toBool = false := by decide +kernel
example : (GenC02.FindMatchingKey 0 "s" "sig" "RS256" [jdSig, jdEnc]).toOption = some jdSig := by decide +kernel
/-- a per-key parser that, when go-jose refuses an entry, re-reads it from a subset of its members that leaves `use` out is NOT
    faithful: it yields a key whose use is not the declared one (and `FindMatchingKey` would select it for signatures) -/
def jdLenient : C02JOracle :=
  { jdOracle with parseJWK := fun w r => match jdOracle.parseJWK w r with
      | .ok k => .ok k
      | .error e => match r.pub with | some k => .ok { k with Use := "" } | none => .error e }
example : ¬ jdLenient.faithful := by
  intro h
  have := h default { bytes := 12, pub := some jdEncBad } { jdEncBad with Use := "" } rfl
  revert this; decide
example : (GenC02.FindMatchingKey 0 "x" "sig" "RS256" (c02jParsed jdLenient jdRaw)).toBool = true := by decide +kernel
/-- the download: status 200 with document 1 yields the two accepted keys; another status, a transport error, an unreadable
    document or a URL no request can be built for yield none -/
def jdWorld (resp : C02JResponse) : C02JHttp := { urlOK := fun u => u != "", respond := fun _ => resp }
example : (GenC02J.fetchRemoteKeys 0 jdOracle (jdWorld (.answer 200 { bytes := 1 })) { jwksURL := "https://op/keys" }).toOption = some [jdSig, jdEnc] := by decide +kernel
example : (GenC02J.fetchRemoteKeys 0 jdOracle (jdWorld (.answer 404 { bytes := 1 })) { jwksURL := "https://op/keys" }).toOption = none := by decide +kernel
example : (GenC02J.fetchRemoteKeys 0 jdOracle (jdWorld (.answer 200 { bytes := 2 })) { jwksURL := "https://op/keys" }).toOption = none := by decide +kernel
example : (GenC02J.fetchRemoteKeys 0 jdOracle (jdWorld (.transport "dial tcp")) { jwksURL := "https://op/keys" }).toOption = none := by decide +kernel
example : (GenC02J.fetchRemoteKeys 0 jdOracle (jdWorld (.answer 200 { bytes := 1 })) { jwksURL := "" }).toOption = none := by decide +kernel
end examples

end C02
