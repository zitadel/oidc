/-
  C07 for token requests AS THEY TRAVEL and registrations that change (Model/C07Wire.lean, Spec/C07Wire.lean).

  Layer 1 - characterisation lemmas of the REGENERATED wire-level functions (Generated/TokenWire.lean, namespace GenTok): an
            equation with a hand-readable function of `WireSpec`, proved with the shape-independent `go_leaf` / `go_eq`; the two
            grant switches (`Exchange`, `tokensHandler`) are rewritten by `unfold; simp only` under a hypothesis on `grantOf`.
  Layer 2 - everything else uses only those lemmas: the wire-level token endpoint of either router IS the typed
            `Flow.refreshExchange` / `Flow.codeExchange` on the request read off the wire (`tokenEndpoint_refresh`,
            `tokenEndpoint_code`; `tokenEndpoint_issue`: nothing else is answered with tokens), hence
            "a refresh succeeds only if the client's CURRENT registration contains the refresh grant - for every request
            shape, on both routers" (`wire_refresh_needs_current_grant`), and the history theorems over `Flow.OpX`.
-/
import OidcModel.Proofs.C07History
import OidcModel.Model.C07Wire
import OidcModel.Spec.C07Wire
import OidcModel.GoTacEq

namespace WireSpec
open Go Gen Hand Flow

/-- `Authorization: Basic` overrides the client id / secret of the decoded form; an undecodable header is invalid_client -/
def withBasic (o : TokOracles) (r : TokRequest) (f : TokForm) : Go.R TokForm :=
  match r.w.basic with
  | none => .ok f
  | some (u, p) =>
    match o.unescape u with
    | .error _ => .error "ErrInvalidClient"
    | .ok u' =>
      match o.unescape p with
      | .error _ => .error "ErrInvalidClient"
      | .ok p' => .ok { f with ClientID := u', ClientSecret := p' }

/-- the form the handlers work with: every parameter's LAST value in `r.Form` (body pairs, then query pairs), Basic on top -/
def creds (o : TokOracles) (r : TokRequest) : Go.R TokForm := withBasic o r (TokForm.decode r.Form)

/-- the two presence checks of `parseClientCredentials` -/
def ccChecks (f : TokForm) : Go.R TokForm :=
  if f.ClientID == "" && f.ClientAssertion == "" then .error "ErrInvalidRequest"
  else if f.ClientAssertion != "" && f.ClientAssertionType != Const.ClientAssertionTypeJWTAssertion then .error "ErrInvalidRequest"
  else .ok f

def lift (x : Go.R IssueFor) : TokResp :=
  match x with
  | .ok i => .issue i
  | .error e => .err e

/-- the grant type the dispatchers read: the FIRST value in `r.Form` -/
def grantOf (r : TokRequest) : String := r.Form.Get "grant_type"

/-! ## Layer 1: characterisation lemmas of the regenerated `GenTok` functions -/

theorem parseAuthenticated_eq (now : Int) (o : TokOracles) (r : TokRequest) (d : TokDecoder) (f0 : TokForm) :
    GenTok.ParseAuthenticatedTokenRequest now o r d f0 = creds o r := by
  unfold GenTok.ParseAuthenticatedTokenRequest creds withBasic TokRequest.ParseForm TokDecoder.Decode TokRequest.BasicAuth
    TokForm.SetClientID TokForm.SetClientSecret
  go_eq []

theorem parseRefresh_eq (now : Int) (o : TokOracles) (r : TokRequest) (d : TokDecoder) :
    GenTok.ParseRefreshTokenRequest now o r d = creds o r := by
  unfold GenTok.ParseRefreshTokenRequest
  simp only [parseAuthenticated_eq]
  go_leaf

theorem parseAccess_eq (now : Int) (o : TokOracles) (r : TokRequest) (d : TokDecoder) :
    GenTok.ParseAccessTokenRequest now o r d = creds o r := by
  unfold GenTok.ParseAccessTokenRequest
  simp only [parseAuthenticated_eq]
  go_leaf

theorem decodeRequest_eq (now : Int) (d : TokDecoder) (r : TokRequest) (postOnly : Bool) :
    GenTok.decodeRequest now d r postOnly = .ok (TokForm.decode (if postOnly then r.PostForm else r.Form)) := by
  unfold GenTok.decodeRequest TokRequest.ParseForm TokDecoder.Decode
  go_leaf

theorem parseClientCredentials_eq (now : Int) (o : TokOracles) (s : TokWebServer) (r : TokRequest) :
    GenTok.parseClientCredentials now o s r = (match creds o r with | .error e => .error e | .ok f => ccChecks f) := by
  unfold GenTok.parseClientCredentials creds withBasic ccChecks TokRequest.ParseForm TokDecoder.Decode TokRequest.BasicAuth
  go_eq []

theorem verifyRequestClient_eq (now : Int) (o : TokOracles) (s : TokWebServer) (r : TokRequest) :
    GenTok.verifyRequestClient now o s r =
      (match GenTok.parseClientCredentials now o s r with
       | .error e => .error e
       | .ok cc => Hand.tokVerifyClient now o s.server { Form := r.Form, Data := cc }) := by
  unfold GenTok.verifyRequestClient
  go_leaf

/-- `withClient`: authenticate, then - whenever the request NAMES a grant type - the client's registration must contain it -/
theorem withClient_eq (now : Int) (o : TokOracles) (s : TokWebServer) (h : TokRequest → OPClient → TokResp) (r : TokRequest) :
    GenTok.withClient now o s h r =
      (match GenTok.verifyRequestClient now o s r with
       | .error e => .err e
       | .ok c => if grantOf r != "" && !ValidateGrantType now c (grantOf r) then .err "ErrUnauthorizedClient" else h r c) := by
  unfold GenTok.withClient grantOf Hand.tokError
  go_leaf

theorem refreshTokenHandler_eq (now : Int) (o : TokOracles) (s : TokWebServer) (r : TokRequest) (c : OPClient) :
    GenTok.refreshTokenHandler now o s r c =
      (if (TokForm.decode r.Form).RefreshToken == "" then .err "ErrInvalidRequest"
       else lift (Hand.tokLegacyRefreshToken now o s.server { Data := TokForm.decode r.Form, Client := c })) := by
  unfold GenTok.refreshTokenHandler lift Hand.tokError Hand.tokNewClientRequest
  simp only [decodeRequest_eq]
  go_leaf

theorem codeExchangeHandler_eq (now : Int) (o : TokOracles) (s : TokWebServer) (r : TokRequest) (c : OPClient) :
    GenTok.codeExchangeHandler now o s r c =
      (if (TokForm.decode r.Form).Code == "" then .err "ErrInvalidRequest"
       else if (TokForm.decode r.Form).RedirectURI == "" then .err "ErrInvalidRequest"
       else lift (Hand.tokLegacyCodeExchange now o s.server { Data := TokForm.decode r.Form, Client := c })) := by
  unfold GenTok.codeExchangeHandler lift Hand.tokError Hand.tokNewClientRequest
  simp only [decodeRequest_eq]
  go_leaf

/-- Provider router, refresh handler -/
theorem refreshTokenExchange_eq (now : Int) (o : TokOracles) (r : TokRequest) (x : TokExchanger) :
    GenTok.RefreshTokenExchange now o r x =
      (match creds o r with
       | .error e => .err e
       | .ok f =>
         match Hand.tokValidateRefreshTokenRequest now o f x with
         | .error e => .err e
         | .ok (v, c) => .issue (.refresh v c f.RefreshToken)) := by
  unfold GenTok.RefreshTokenExchange Hand.tokError Hand.tokIssueForRefresh
  simp only [parseRefresh_eq]
  go_leaf

/-- Provider router, code handler -/
theorem codeExchange_eq (now : Int) (o : TokOracles) (r : TokRequest) (x : TokExchanger) :
    GenTok.CodeExchange now o r x =
      (match creds o r with
       | .error e => .err e
       | .ok f =>
         if f.Code == "" then .err "ErrInvalidRequest" else
         match Hand.tokValidateAccessTokenRequest now o f x with
         | .error e => .err e
         | .ok (a, c) => .issue (.code a c f.Code)) := by
  unfold GenTok.CodeExchange Hand.tokError Hand.tokIssueForCode
  simp only [parseAccess_eq]
  go_leaf

/-! The grant switches.  Which handler a request reaches is decided by `grantOf` alone: once the conditions of the switch are
    rewritten with what is known about `grantOf r` they are closed comparisons of constants, and no case is split.  For the
    grants that are neither the code nor the refresh grant what is left is a tree of `if`s whose leaves are errors and
    handlers of other grants; `ite_ne_issue` walks through it. -/

theorem ite_ne_issue {c : Prop} [Decidable c] {a b : TokResp} {i : IssueFor} :
    (if c then a else b) ≠ .issue i ↔ (c → a ≠ .issue i) ∧ (¬c → b ≠ .issue i) := by
  split <;> simp [*]

theorem refresh_ne_code : Const.GrantTypeRefreshToken ≠ Const.GrantTypeCode := by decide

/-- the grant switch of the Provider router -/
theorem exchange_refresh (now : Int) (o : TokOracles) (r : TokRequest) (x : TokExchanger) (h : grantOf r = Const.GrantTypeRefreshToken) :
    GenTok.Exchange now o r x =
      (if x.p.refreshSupported then GenTok.RefreshTokenExchange now o r x else .err "ErrUnsupportedGrantType") := by
  unfold grantOf at h
  unfold GenTok.Exchange TokRequest.FormValue TokExchanger.GrantTypeRefreshTokenSupported Hand.tokError
  simp only [h, beq_iff_eq, refresh_ne_code, if_false, if_true]

theorem exchange_code (now : Int) (o : TokOracles) (r : TokRequest) (x : TokExchanger) (h : grantOf r = Const.GrantTypeCode) :
    GenTok.Exchange now o r x = GenTok.CodeExchange now o r x := by
  unfold grantOf at h
  unfold GenTok.Exchange TokRequest.FormValue
  simp only [h, beq_iff_eq, refresh_ne_code.symm, if_false, if_true]

/-- any other grant type: no code is consumed and no refresh token rotated (nothing reaches `CreateTokenResponse` of these grants) -/
theorem exchange_other (now : Int) (o : TokOracles) (r : TokRequest) (x : TokExchanger)
    (h1 : grantOf r ≠ Const.GrantTypeRefreshToken) (h2 : grantOf r ≠ Const.GrantTypeCode) (i : IssueFor) :
    GenTok.Exchange now o r x ≠ .issue i := by
  unfold grantOf at h1 h2
  unfold GenTok.Exchange TokRequest.FormValue Hand.tokError Hand.tokOther
  simp only [beq_iff_eq, h1, h2, if_false, ite_ne_issue, ne_eq, reduceCtorEq, not_false_eq_true, implies_true, and_true]

/-- the grant switch of the Server router -/
theorem tokensHandler_refresh (now : Int) (o : TokOracles) (s : TokWebServer) (r : TokRequest) (h : grantOf r = Const.GrantTypeRefreshToken) :
    GenTok.tokensHandler now o s r = GenTok.withClient now o s (GenTok.refreshTokenHandler now o s) r := by
  unfold grantOf at h
  unfold GenTok.tokensHandler TokRequest.ParseForm
  simp only [h, beq_iff_eq, refresh_ne_code, if_false, if_true]

theorem tokensHandler_code (now : Int) (o : TokOracles) (s : TokWebServer) (r : TokRequest) (h : grantOf r = Const.GrantTypeCode) :
    GenTok.tokensHandler now o s r = GenTok.withClient now o s (GenTok.codeExchangeHandler now o s) r := by
  unfold grantOf at h
  unfold GenTok.tokensHandler TokRequest.ParseForm
  simp only [h, beq_iff_eq, refresh_ne_code.symm, if_false, if_true]

theorem withClient_ne_issue (now : Int) (o : TokOracles) (s : TokWebServer) (h : TokRequest → OPClient → TokResp) (r : TokRequest)
    (i : IssueFor) (hh : ∀ c, h r c ≠ .issue i) : GenTok.withClient now o s h r ≠ .issue i := by
  rw [withClient_eq]
  split
  · simp
  · rw [ite_ne_issue]; exact ⟨fun _ => by simp, fun _ => hh _⟩

theorem tokensHandler_other (now : Int) (o : TokOracles) (s : TokWebServer) (r : TokRequest)
    (h1 : grantOf r ≠ Const.GrantTypeRefreshToken) (h2 : grantOf r ≠ Const.GrantTypeCode) (i : IssueFor) :
    GenTok.tokensHandler now o s r ≠ .issue i := by
  have hw : ∀ hd, ¬ GenTok.withClient now o s (Hand.tokOtherHandler hd) r = .issue i :=
    fun hd => withClient_ne_issue now o s _ r i fun _ => by simp [Hand.tokOtherHandler]
  unfold grantOf at h1 h2
  unfold GenTok.tokensHandler TokRequest.ParseForm Hand.tokError Hand.tokOther
  simp only [beq_iff_eq, h1, h2, if_false, ite_ne_issue, ne_eq, reduceCtorEq, hw, not_false_eq_true, implies_true, and_true]

/-! ## Layer 2: the wire-level endpoint is the typed exchange on the request read off the wire -/

/-- a `client_assertion` was sent -/
def haOf (f : TokForm) : Bool := f.ClientAssertion != ""

theorem withBasic_fields {o : TokOracles} {r : TokRequest} {f f' : TokForm} (h : withBasic o r f = .ok f') :
    f'.RefreshToken = f.RefreshToken ∧ f'.Scopes = f.Scopes ∧ f'.Code = f.Code ∧ f'.RedirectURI = f.RedirectURI ∧
    f'.CodeVerifier = f.CodeVerifier ∧ f'.ClientAssertion = f.ClientAssertion ∧ f'.ClientAssertionType = f.ClientAssertionType := by
  unfold withBasic at h
  split at h
  · cases h; exact ⟨rfl, rfl, rfl, rfl, rfl, rfl, rfl⟩
  · split at h; · cases h
    split at h; · cases h
    cases h; exact ⟨rfl, rfl, rfl, rfl, rfl, rfl, rfl⟩

theorem legacyVerifyClient_form (now : Int) (s : LegacyServer) (F F' : FormVals) (d : ClientCredentials)
    (h : F.Get "grant_type" = F'.Get "grant_type") :
    LegacyVerifyClient now s { Form := F, Data := d } = LegacyVerifyClient now s { Form := F', Data := d } := by
  unfold LegacyVerifyClient
  simp only [h]

theorem legacyRefreshToken_data (now : Int) (s : LegacyServer) (d d' : RefreshTokenRequest) (c : OPClient)
    (h1 : d.RefreshToken = d'.RefreshToken) (h2 : d.Scopes = d'.Scopes) :
    LegacyRefreshToken now s { Data := d, Client := c } = LegacyRefreshToken now s { Data := d', Client := c } := by
  unfold LegacyRefreshToken
  simp only [h1, h2]

theorem legacyCodeExchange_data (now : Int) (s : LegacyServer) (d d' : AccessTokenRequest) (c : OPClient)
    (h1 : d.Code = d'.Code) (h2 : d.RedirectURI = d'.RedirectURI) (h3 : d.CodeVerifier = d'.CodeVerifier) :
    LegacyCodeExchange now s { Data := d, Client := c } = LegacyCodeExchange now s { Data := d', Client := c } := by
  unfold LegacyCodeExchange
  simp only [h1, h2, h3]

/-- Server router: `verifyRequestClient` + the registered-grant check of `withClient`, for a request whose grant type reads `g`,
    are the typed `Flow.withClient` for grant `g` on the credentials read off the wire -/
theorem wire_withClient (now : Int) (p : Provider) (w : WireReq) (h : TokRequest → OPClient → TokResp) {f : TokForm}
    (hc : creds w.oracles { w := w } = .ok f) :
    GenTok.withClient now w.oracles { server := ⟨p⟩ } h { w := w } =
      (match Flow.withClient now p (grantOf { w := w }) (Hand.tokClientCredentials w.oracles f) (haOf f) with
       | .error e => .err e
       | .ok c => h { w := w } c) := by
  rw [withClient_eq, verifyRequestClient_eq, parseClientCredentials_eq, hc]
  unfold Flow.withClient Flow.parseCC ccChecks haOf Hand.tokVerifyClient
  simp only [Hand.tokClientCredentials]
  have hlv : ∀ d, LegacyVerifyClient now ⟨p⟩ { Form := ({ w := w } : TokRequest).Form, Data := d } =
      LegacyVerifyClient now ⟨p⟩ { Form := { kv := [("grant_type", grantOf { w := w })] }, Data := d } :=
    fun d => legacyVerifyClient_form now ⟨p⟩ _ _ d (by rw [FlowObs.formGet_grant]; rfl)
  simp only [hlv]
  by_cases h1 : (f.ClientID == "" && f.ClientAssertion == "") = true
  · simp [h1]
    simp only [Bool.and_eq_true, beq_iff_eq] at h1
    simp [h1.1, h1.2]
  · by_cases h2 : (f.ClientAssertion != "" && f.ClientAssertionType != Const.ClientAssertionTypeJWTAssertion) = true
    · simp only [h1, h2, Bool.false_eq_true, if_false, if_true]
      simp only [Bool.and_eq_true, bne_iff_ne, ne_eq, beq_iff_eq, not_and] at h1 h2
      by_cases hid : f.ClientID = ""
      · simp [hid, h2.1]
      · simp [hid, h2.1]
    · simp only [h1, h2, Bool.false_eq_true, if_false]
      have e1 : (f.ClientID == "" && !(f.ClientAssertion != "")) = false := by
        cases ha : (f.ClientID == "") <;> cases hb : (f.ClientAssertion == "") <;> simp_all
      have e2 : ((f.ClientAssertion != "") && (f.ClientAssertionType != Const.ClientAssertionTypeJWTAssertion)) = false := by
        simpa using h2
      simp only [e1, Bool.false_eq_true, if_false]
      generalize LegacyVerifyClient now _ _ = x
      cases x with
      | error e => rfl
      | ok c => simp only []; split <;> rfl

theorem creds_decode {w : WireReq} {f : TokForm} (hc : creds w.oracles { w := w } = .ok f) :
    f.RefreshToken = (TokForm.decode ({ w := w } : TokRequest).Form).RefreshToken ∧
    f.Scopes = (TokForm.decode ({ w := w } : TokRequest).Form).Scopes ∧
    f.Code = (TokForm.decode ({ w := w } : TokRequest).Form).Code ∧
    f.RedirectURI = (TokForm.decode ({ w := w } : TokRequest).Form).RedirectURI ∧
    f.CodeVerifier = (TokForm.decode ({ w := w } : TokRequest).Form).CodeVerifier := by
  obtain ⟨h1, h2, h3, h4, h5, _, _⟩ := withBasic_fields hc
  exact ⟨h1, h2, h3, h4, h5⟩

/-- **A refresh request, wherever its parameters travel, on either router, is the typed refresh exchange on the request read
    off the wire** (every parameter's last value in body-then-query order, Basic credentials on top): same answer, same error. -/
theorem tokenEndpoint_refresh (now : Int) (rt : Router) (p : Provider) (w : WireReq) {f : TokForm}
    (hg : grantOf { w := w } = Const.GrantTypeRefreshToken) (hc : creds w.oracles { w := w } = .ok f) :
    tokenEndpoint now rt p w = lift (refreshExchange now rt p (Hand.tokRefreshTokenRequest w.oracles f) (haOf f)) := by
  obtain ⟨d1, d2, _, _, _⟩ := creds_decode hc
  cases rt with
  | provider =>
    simp only [tokenEndpoint, exchange_refresh _ _ _ _ hg, refreshTokenExchange_eq, hc, refreshExchange,
      Hand.tokValidateRefreshTokenRequest, Hand.issueForRefresh]
    have hcur : Gen.refreshHandlerCurrent = "presented" := by decide
    by_cases hs : p.refreshSupported = true
    · simp only [hs, if_true, Bool.not_true, Bool.false_eq_true, if_false, hcur]
      cases ValidateRefreshTokenRequest now (Hand.tokRefreshTokenRequest w.oracles f) p with
      | error e => rfl
      | ok vc => obtain ⟨v, c⟩ := vc; rfl
    · simp [hs, lift]
  | legacy =>
    simp only [tokenEndpoint, tokensHandler_refresh _ _ _ _ hg, wire_withClient now p w _ hc, refreshExchange, hg]
    have hcc : Hand.tokClientCredentials w.oracles f =
        { ClientID := (Hand.tokRefreshTokenRequest w.oracles f).ClientID, ClientSecret := (Hand.tokRefreshTokenRequest w.oracles f).ClientSecret,
          ClientAssertion := (Hand.tokRefreshTokenRequest w.oracles f).ClientAssertion,
          ClientAssertionType := (Hand.tokRefreshTokenRequest w.oracles f).ClientAssertionType } := rfl
    rw [← hcc]
    cases Flow.withClient now p Const.GrantTypeRefreshToken (Hand.tokClientCredentials w.oracles f) (haOf f) with
    | error e => rfl
    | ok c =>
      simp only [refreshTokenHandler_eq, Hand.tokLegacyRefreshToken]
      have hrt : (Hand.tokRefreshTokenRequest w.oracles f).RefreshToken = (TokForm.decode ({ w := w } : TokRequest).Form).RefreshToken := d1
      rw [hrt]
      split
      · rfl
      · rw [legacyRefreshToken_data now ⟨p⟩ (Hand.tokRefreshTokenRequest w.oracles (TokForm.decode ({ w := w } : TokRequest).Form))
          (Hand.tokRefreshTokenRequest w.oracles f) c d1.symm d2.symm]

/-- A code exchange, on either router, is the typed code exchange on the request read off the wire. -/
theorem tokenEndpoint_code (now : Int) (rt : Router) (p : Provider) (w : WireReq) {f : TokForm}
    (hg : grantOf { w := w } = Const.GrantTypeCode) (hc : creds w.oracles { w := w } = .ok f) :
    tokenEndpoint now rt p w = lift (codeExchange now rt p (Hand.tokAccessTokenRequest w.oracles f) (haOf f)) := by
  obtain ⟨_, _, d3, d4, d5⟩ := creds_decode hc
  cases rt with
  | provider =>
    simp only [tokenEndpoint, exchange_code _ _ _ _ hg, codeExchange_eq, hc, codeExchange, Hand.tokValidateAccessTokenRequest, Hand.issueForCode]
    have hcode : (Hand.tokAccessTokenRequest w.oracles f).Code = f.Code := rfl
    rw [hcode]
    split
    · rfl
    · cases ValidateAccessTokenRequest now (Hand.tokAccessTokenRequest w.oracles f) p with
      | error e => rfl
      | ok vc => obtain ⟨v, c⟩ := vc; rfl
  | legacy =>
    simp only [tokenEndpoint, tokensHandler_code _ _ _ _ hg, wire_withClient now p w _ hc, codeExchange, hg]
    have hcc : Hand.tokClientCredentials w.oracles f =
        { ClientID := (Hand.tokAccessTokenRequest w.oracles f).ClientID, ClientSecret := (Hand.tokAccessTokenRequest w.oracles f).ClientSecret,
          ClientAssertion := (Hand.tokAccessTokenRequest w.oracles f).ClientAssertion,
          ClientAssertionType := (Hand.tokAccessTokenRequest w.oracles f).ClientAssertionType } := rfl
    rw [← hcc]
    cases Flow.withClient now p Const.GrantTypeCode (Hand.tokClientCredentials w.oracles f) (haOf f) with
    | error e => rfl
    | ok c =>
      simp only [codeExchangeHandler_eq, Hand.tokLegacyCodeExchange]
      have h1 : (Hand.tokAccessTokenRequest w.oracles f).Code = (TokForm.decode ({ w := w } : TokRequest).Form).Code := d3
      have h2 : (Hand.tokAccessTokenRequest w.oracles f).RedirectURI = (TokForm.decode ({ w := w } : TokRequest).Form).RedirectURI := d4
      rw [h1, h2]
      split
      · rfl
      · split
        · rfl
        · rw [legacyCodeExchange_data now ⟨p⟩ (Hand.tokAccessTokenRequest w.oracles (TokForm.decode ({ w := w } : TokRequest).Form))
            (Hand.tokAccessTokenRequest w.oracles f) c d3.symm d4.symm d5.symm]

/-- a request whose Basic header does not decode is refused -/
theorem tokenEndpoint_badBasic (now : Int) (rt : Router) (p : Provider) (w : WireReq) {e : String}
    (hg : grantOf { w := w } = Const.GrantTypeRefreshToken ∨ grantOf { w := w } = Const.GrantTypeCode)
    (hc : creds w.oracles { w := w } = .error e) : ∃ e', tokenEndpoint now rt p w = .err e' := by
  cases rt with
  | provider =>
    rcases hg with hg | hg
    · simp only [tokenEndpoint, exchange_refresh _ _ _ _ hg, refreshTokenExchange_eq, hc]
      split <;> exact ⟨_, rfl⟩
    · simp only [tokenEndpoint, exchange_code _ _ _ _ hg, codeExchange_eq, hc]
      exact ⟨_, rfl⟩
  | legacy =>
    rcases hg with hg | hg
    · simp only [tokenEndpoint, tokensHandler_refresh _ _ _ _ hg, withClient_eq, verifyRequestClient_eq, parseClientCredentials_eq, hc]
      exact ⟨_, rfl⟩
    · simp only [tokenEndpoint, tokensHandler_code _ _ _ _ hg, withClient_eq, verifyRequestClient_eq, parseClientCredentials_eq, hc]
      exact ⟨_, rfl⟩

/-- any other grant type (as the dispatchers read it): nothing reaches `CreateTokenResponse` of the code / refresh grants -/
theorem tokenEndpoint_other (now : Int) (rt : Router) (p : Provider) (w : WireReq)
    (h1 : grantOf { w := w } ≠ Const.GrantTypeRefreshToken) (h2 : grantOf { w := w } ≠ Const.GrantTypeCode) (i : IssueFor) :
    tokenEndpoint now rt p w ≠ .issue i := by
  cases rt with
  | provider => exact exchange_other _ _ _ _ h1 h2 i
  | legacy => exact tokensHandler_other _ _ _ _ h1 h2 i

/-- **a request the endpoint answers with tokens was a code exchange or a refresh, and went through the typed exchange of its
    grant** on the request read off the wire -/
theorem tokenEndpoint_issue {now : Int} {rt : Router} {p : Provider} {w : WireReq} {i : IssueFor}
    (h : tokenEndpoint now rt p w = .issue i) :
    ∃ f, creds w.oracles { w := w } = .ok f ∧
      ((grantOf { w := w } = Const.GrantTypeRefreshToken ∧
          refreshExchange now rt p (Hand.tokRefreshTokenRequest w.oracles f) (haOf f) = .ok i) ∨
       (grantOf { w := w } = Const.GrantTypeCode ∧
          codeExchange now rt p (Hand.tokAccessTokenRequest w.oracles f) (haOf f) = .ok i)) := by
  have lift_ok : ∀ {x : Go.R IssueFor}, lift x = .issue i → x = .ok i := by
    intro x hx; cases x <;> simp_all [lift]
  have hg : grantOf { w := w } = Const.GrantTypeRefreshToken ∨ grantOf { w := w } = Const.GrantTypeCode := by
    apply Classical.byContradiction
    intro hn
    exact tokenEndpoint_other now rt p w (fun e => hn (Or.inl e)) (fun e => hn (Or.inr e)) i h
  cases hc : creds w.oracles { w := w } with
  | error e =>
    obtain ⟨e', he⟩ := tokenEndpoint_badBasic now rt p w hg hc
    rw [he] at h; cases h
  | ok f =>
    refine ⟨f, rfl, hg.imp (fun hg => ⟨hg, lift_ok ?_⟩) (fun hg => ⟨hg, lift_ok ?_⟩)⟩
    · rw [← tokenEndpoint_refresh now rt p w hg hc]; exact h
    · rw [← tokenEndpoint_code now rt p w hg hc]; exact h

theorem wire_refresh_typed {now : Int} {rt : Router} {p : Provider} {w : WireReq} {r : RefreshReq} {c : OPClient} {cur : String}
    (h : tokenEndpoint now rt p w = .issue (.refresh r c cur)) :
    ∃ f, creds w.oracles { w := w } = .ok f ∧ grantOf { w := w } = Const.GrantTypeRefreshToken ∧
      refreshExchange now rt p (Hand.tokRefreshTokenRequest w.oracles f) (haOf f) = .ok (.refresh r c cur) := by
  obtain ⟨f, hc, ⟨hg, hre⟩ | ⟨_, hce⟩⟩ := tokenEndpoint_issue h
  · exact ⟨f, hc, hg, hre⟩
  · obtain ⟨_, _, hi, _⟩ := FlowObs.codeExchange_ok hce
    cases hi

theorem wire_code_typed {now : Int} {rt : Router} {p : Provider} {w : WireReq} {a : AuthReq} {c : OPClient} {k : String}
    (h : tokenEndpoint now rt p w = .issue (.code a c k)) :
    ∃ f, creds w.oracles { w := w } = .ok f ∧ grantOf { w := w } = Const.GrantTypeCode ∧
      codeExchange now rt p (Hand.tokAccessTokenRequest w.oracles f) (haOf f) = .ok (.code a c k) := by
  obtain ⟨f, hc, ⟨_, hre⟩ | ⟨hg, hce⟩⟩ := tokenEndpoint_issue h
  · obtain ⟨_, _, _, hi, _⟩ := FlowObs.refreshExchange_ok hre
    cases hi
  · exact ⟨f, hc, hg, hce⟩

end WireSpec


namespace C07
open Go Gen Hand Flow FlowObs WireSpec

/-- **Both routers, every request shape.**  Whatever the storage holds and wherever the parameters of a POST to the token endpoint
    travel (body, query, both - with equal or different values): if the request ends in a refresh (`CreateTokenResponse` is
    reached for a refresh-token request) then
    * the token that is handed on for rotation (`cur`) resolves in the storage to a grant `r0`,
    * `c`, the client the tokens are issued for, is the registration the storage holds NOW for that grant's client id,
    * that registration contains the refresh_token grant, and refresh is switched on,
    * the caller authenticated as - or, for a public client, identified as - `c` with the credentials read off the wire,
    * the new grant keeps subject, audience, authentication time and its scopes are within the old ones. -/
theorem wire_refresh_needs_current_grant {now : Int} {rt : Router} {p : Provider} {w : WireReq} {r : RefreshReq} {c : OPClient} {cur : String}
    (h : tokenEndpoint now rt p w = .issue (.refresh r c cur)) :
    ∃ r0 f, creds w.oracles { w := w } = .ok f ∧ grantOf { w := w } = Const.GrantTypeRefreshToken ∧ cur = f.RefreshToken ∧ cur ≠ "" ∧
      p.store.TokenRequestByRefreshToken cur = .ok r0 ∧
      p.store.clients.find? (·.id == r0.clientID) = some c ∧
      Const.GrantTypeRefreshToken ∈ c.grants ∧ p.refreshSupported = true ∧
      AuthAs now p f.ClientID f.ClientSecret f.ClientAssertionType (w.tokenOf f.ClientAssertion) c ∧
      ValidateRefreshTokenScopes now f.Scopes r0 = .ok r := by
  obtain ⟨f, hc, hg, hre⟩ := wire_refresh_typed h
  obtain ⟨r0, r1, c', hi, hsup, htok, hlook, hcid, hgrant, hvs, hauth⟩ := refreshExchange_ok hre
  cases hi
  refine ⟨r0, f, hc, hg, rfl, htok, hlook, ?_, hgrant, hsup, hauth, hvs⟩
  rw [← hcid]; exact (authCapable_of_authAs hauth).1

end C07

/-! ## The model's own reading of a request is one of the readings the monitors consider -/

namespace FlowObs
open Go Gen Hand Flow WireSpec

theorem last_mem_presented (w : WireReq) (k : String) : ({ kv := w.body ++ w.query } : FormVals).last k ∈ presentedVals w k := by
  unfold FormVals.last presentedVals WireReq.vals WireReq.formPairs
  simp only []
  cases hl : (w.body ++ w.query).filter (·.1 == k) with
  | nil => simp
  | cons x xs =>
    have hne : (x :: xs) ≠ [] := by simp
    have : ((x :: xs).getLast?.map (·.2)).getD "" = ((x :: xs).getLast hne).2 := by
      rw [List.getLast?_eq_some_getLast hne]; rfl
    rw [this]
    simp only [List.map_cons]
    exact List.mem_map.2 ⟨(x :: xs).getLast hne, List.getLast_mem hne, rfl⟩

theorem find_mem_filter (l : List (String × String)) (k : String) (x : String × String) (h : l.find? (·.1 == k) = some x) :
    x ∈ l.filter (·.1 == k) :=
  List.mem_filter.2 ⟨List.mem_of_find?_eq_some h, by have := List.find?_some h; simpa using this⟩

theorem get_mem_presented (w : WireReq) (k : String) : ({ kv := w.body ++ w.query } : FormVals).Get k ∈ presentedVals w k := by
  unfold FormVals.Get presentedVals WireReq.vals WireReq.formPairs
  simp only []
  cases hf : (w.body ++ w.query).find? (·.1 == k) with
  | none =>
    have : (w.body ++ w.query).filter (·.1 == k) = [] := by
      rw [List.filter_eq_nil_iff]
      intro x hx
      exact List.find?_eq_none.1 hf x hx
    rw [this]; simp
  | some x =>
    have hm := find_mem_filter _ k x hf
    cases hl : (w.body ++ w.query).filter (·.1 == k) with
    | nil => rw [hl] at hm; cases hm
    | cons y ys =>
      rw [hl] at hm
      simp only [List.map_cons, Option.map_some, Option.getD_some]
      exact List.mem_map.2 ⟨x, hm, rfl⟩

/-- the request as the library ends up reading it -/
def ownReading (o : TokOracles) (g : String) (f : TokForm) : Reading :=
  { grant := g, rt := f.RefreshToken, requested := f.Scopes,
    p := { clientID := f.ClientID, secret := f.ClientSecret,
           assertion := if f.ClientAssertionType == Const.ClientAssertionTypeJWTAssertion then some (o.tokenOf f.ClientAssertion) else none,
           code := f.Code, redirectURI := f.RedirectURI, verifier := f.CodeVerifier } }

theorem creds_ids {w : WireReq} {f : TokForm} (hc : creds w.oracles { w := w } = .ok f) :
    f.ClientID ∈ seenIDs w ∧ f.ClientSecret ∈ seenSecrets w := by
  unfold creds withBasic at hc
  unfold seenIDs seenSecrets WireReq.basicSeen
  cases hb : w.basic with
  | none =>
    simp only [hb] at hc
    cases hc
    exact ⟨last_mem_presented w "client_id", last_mem_presented w "client_secret"⟩
  | some up =>
    obtain ⟨u, p⟩ := up
    simp only [hb] at hc
    have ho : w.oracles.unescape = w.unescape := rfl
    rw [ho] at hc
    cases hu : w.unescape u with
    | error e => simp [hu] at hc
    | ok u' =>
      cases hp : w.unescape p with
      | error e => simp [hu, hp] at hc
      | ok p' =>
        simp only [hu, hp] at hc
        cases hc
        simp [hu, hp]

theorem ownReading_mem {w : WireReq} {f : TokForm} (hc : creds w.oracles { w := w } = .ok f) :
    ownReading w.oracles (grantOf { w := w }) f ∈ readings w := by
  obtain ⟨hid, hsec⟩ := creds_ids hc
  obtain ⟨d1, d2, d3, d4, d5, d6, d7⟩ := withBasic_fields hc
  simp only [readings, List.mem_flatMap, List.mem_map]
  refine ⟨_, get_mem_presented w "grant_type", _, hid, _, hsec, _, last_mem_presented w "code", _, last_mem_presented w "redirect_uri",
    _, last_mem_presented w "code_verifier", _, last_mem_presented w "refresh_token", _, last_mem_presented w "scope", ?_⟩
  refine ⟨if ({ kv := w.body ++ w.query } : FormVals).last "client_assertion_type" == Const.ClientAssertionTypeJWTAssertion
      then some (w.tokenOf (({ kv := w.body ++ w.query } : FormVals).last "client_assertion")) else none, ?_, ?_⟩
  · simp only [seenAssertions, List.mem_flatMap, List.mem_map]
    exact ⟨_, last_mem_presented w "client_assertion", _, last_mem_presented w "client_assertion_type", rfl⟩
  · unfold ownReading grantOf
    rw [d1, d2, d3, d4, d5, d6, d7]
    rfl

theorem c07judge_congr (m : C07.MonState) (now : Int) (p p' : C04.Presented) (rt : String) (req : List String) (obs : Option C07.Result)
    (err : String) (cr : Bool) (h1 : p.clientID = p'.clientID) (h2 : p.secret = p'.secret) (h3 : p.assertion = p'.assertion) :
    C07.judge m now p rt req obs err cr = C07.judge m now p' rt req obs err cr := by
  unfold C07.judge C04.callerIs
  simp only [h1, h2, h3]


/-- the answer an onlooker sees to a token request the model served (tokens: what the response's tokens carry; for a refresh: the
    grant as the storage recorded it with the new token) -/
def answerOf (s s' : Flow.St) : Flow.OutX → Option Answer
  | .base (.issued (.code a c _) nr) =>
    some { tokens := some { subject := a.subject, client := c.id, scopes := a.scopes, nonce := a.nonce },
           minted := (recOf s' nr).map toRT, created := true }
  | .base (.issued (.refresh _ _ cur) nr) =>
    let rec' : RefreshReq := (recOf s' nr).getD {}
    some { tokens := some { subject := rec'.subject, client := rec'.clientID, scopes := rec'.scopes },
           audience := rec'.audience, idSubject := some rec'.subject, idAuthTime := some rec'.authTime,
           minted := (recOf s' nr).map toRT, handed := if nr.isSome then some cur else none, created := true }
  | .base (.error e) => some { minted := mintedIn s s', err := Flow.oauthCode e, created := s'.nextRT != s.nextRT }
  | _ => none

def eventOfX (s s' : Flow.St) : Flow.OpX → Flow.OutX → Option EventX
  | .base op, .base out => (eventOf s s' op out).map .base
  | .reregister c, _ => some (.registered c)
  | .token _ w _, out => (answerOf s s' out).map (.token w)
  | _, _ => none

def stepObsX (now : Int) (so : Flow.St × ObsState) (op : Flow.OpX) : (Flow.St × ObsState) × (Flow.OutX × Option String × Option String) :=
  let r := Flow.stepX now so.1 op
  match eventOfX so.1 r.1 op r.2 with
  | none => ((r.1, so.2), (r.2, none, none))
  | some e => let v := observeX now so.2 e; ((r.1, v.1), (r.2, v.2.1, v.2.2))

def runObsX (now : Int) (so : Flow.St × ObsState) : List Flow.OpX → (Flow.St × ObsState) × List (Flow.OutX × Option String × Option String)
  | [] => (so, [])
  | op :: rest =>
    let r := stepObsX now so op
    let rr := runObsX now r.1 rest
    (rr.1, r.2 :: rr.2)

theorem stepObsX_eq {now : Int} {s : Flow.St} {o : ObsState} {op : Flow.OpX} {s' : Flow.St} {out : Flow.OutX}
    (hs : Flow.stepX now s op = (s', out)) :
    stepObsX now (s, o) op = match eventOfX s s' op out with
      | none => ((s', o), (out, none, none))
      | some e => ((s', (observeX now o e).1), (out, (observeX now o e).2.1, (observeX now o e).2.2)) := by
  simp only [stepObsX, hs]

theorem stepObsX_base (now : Int) (s : Flow.St) (o : ObsState) (op : Flow.Op) :
    stepObsX now (s, o) (.base op) =
      ((stepObs now (s, o) op).1, (.base (stepObs now (s, o) op).2.1, (stepObs now (s, o) op).2.2.1, (stepObs now (s, o) op).2.2.2)) := by
  simp only [stepObsX, stepObs, Flow.stepX, eventOfX]
  cases eventOf s (Flow.step now s op).1 op (Flow.step now s op).2 <;> rfl


theorem issueDeleteFails_eq (s : Flow.St) (i : IssueFor) :
    issueDeleteFails s i = (if tokensBeforeDelete then mintTokens s i else s, .error "ErrServerError") := by
  simp only [issueDeleteFails, deletes_authRequest, delete_failure_fatal, Bool.not_true, Bool.false_eq_true, if_false, if_true]

/-- the typed operation a token request stands for once its parameters are read off the wire -/
def typedOp (rt : Router) (w : WireReq) (df : Bool) (f : TokForm) : Flow.Op :=
  if grantOf { w := w } = Const.GrantTypeRefreshToken then .refresh rt (Hand.tokRefreshTokenRequest w.oracles f) (haOf f)
  else if df then .exchangeDeleteFails rt (Hand.tokAccessTokenRequest w.oracles f) (haOf f)
  else .exchange rt (Hand.tokAccessTokenRequest w.oracles f) (haOf f)

theorem stepX_token_typed {now : Int} {s : Flow.St} {rt : Router} {w : WireReq} {i : IssueFor} (df : Bool)
    (hte : tokenEndpoint now rt s.p w = .issue i) :
    ∃ f, creds w.oracles { w := w } = .ok f ∧ Flow.stepX now s (.token rt w df) = Flow.stepX now s (.base (typedOp rt w df f)) := by
  obtain ⟨f, hc, ⟨hg, hre⟩ | ⟨hg, hce⟩⟩ := tokenEndpoint_issue hte
  · refine ⟨f, hc, ?_⟩
    obtain ⟨_, r1, c, rfl, _⟩ := refreshExchange_ok hre
    show _ = ((Flow.step now s _).1, Flow.OutX.base (Flow.step now s _).2)
    rw [typedOp, if_pos hg, step_refresh, hre]
    simp only [Flow.stepX, hte]
  · refine ⟨f, hc, ?_⟩
    obtain ⟨a, c, rfl, _⟩ := codeExchange_ok hce
    have hg' : ¬ grantOf { w := w } = Const.GrantTypeRefreshToken := by rw [hg]; exact refresh_ne_code.symm
    show _ = ((Flow.step now s _).1, Flow.OutX.base (Flow.step now s _).2)
    rw [typedOp, if_neg hg']
    cases df
    · rw [if_neg (by decide), step_exchange, hce]; simp only [Flow.stepX, hte]; rfl
    · rw [if_pos rfl, step_exchangeDeleteFails, hce]; simp only [Flow.stepX, hte, issueDeleteFails_eq, if_true]

theorem find?_isNone {α β : Type} {f : α → Option β} {l : List α} {x : α} (h : l.find? (fun a => (f a).isNone) = some x) : f x = none := by
  simpa using List.find?_some h

theorem c07judge_handed {m : C07.MonState} {now : Int} {p : C04.Presented} {rt : String} {req : List String} {r : C07.Result}
    {err : String} {cr : Bool} (h : C07.judge m now p rt req (some r) err cr = none) : r.handedOver = true := by
  unfold C07.judge at h
  simp only [] at h
  split at h
  · cases h
  split at h
  · cases h
  iterate 11 obtain ⟨_, h⟩ := Go.guard_none.mp h
  obtain ⟨hh, _⟩ := Go.guard_none.mp h
  cases hv : r.handedOver
  · rw [hv] at hh; exact absurd rfl hh
  · rfl

theorem judge07_handed {o : ObsState} {now : Int} {a : Answer} {ρ : Reading} {tk : C04.Tokens} (ht : a.tokens = some tk)
    (h : judge07 o now a ρ = none) : a.handed = some ρ.rt := by
  unfold judge07 at h
  split at h
  · cases h
  · rename_i hj
    simp only [resultOf, ht, Option.map_some] at hj
    have := c07judge_handed hj
    simpa using this

/-- the answer of a refresh the model served: the tokens carry the grant as recorded with the new token -/
def refreshAnswer (s : Flow.St) (r1 : RefreshReq) (cur : String) : Answer :=
  { tokens := some { subject := r1.subject, client := r1.clientID, scopes := r1.scopes }, audience := r1.audience, idSubject := some r1.subject, idAuthTime := some r1.authTime, minted := some (toRT { r1 with token := "rt" ++ toString s.nextRT }), handed := some cur, created := true }

/-- **A refresh that the wire-level endpoint lets through, in any reachable state**: the monitors have nothing to object under
    the reading the library took, the state they move to is the one the storage moved to. -/
theorem goodX_token_refresh {now : Int} {s : Flow.St} {o : ObsState} (h : Inv07 s o) (rt : Router) (w : WireReq) (df : Bool)
    {r1 : RefreshReq} {c : OPClient} {cur : String} (hte : tokenEndpoint now rt s.p w = .issue (.refresh r1 c cur)) :
    Inv07 (stepObsX now (s, o) (.token rt w df)).1.1 (stepObsX now (s, o) (.token rt w df)).1.2 ∧
    (stepObsX now (s, o) (.token rt w df)).2.2.2 = none ∧ (stepObsX now (s, o) (.token rt w df)).2.2.1 = none ∧
    (stepObsX now (s, o) (.token rt w df)).1.2.m04 = o.m04 ∧ (stepObsX now (s, o) (.token rt w df)).1.2.reqs = o.reqs := by
  obtain ⟨f, hc, hg, hre⟩ := wire_refresh_typed hte
  obtain ⟨_, _, _, hi, _⟩ := refreshExchange_ok hre
  obtain rfl : cur = f.RefreshToken := by cases hi; rfl
  obtain ⟨hrec, G1, G2⟩ := refresh_accepted h hre
  have hrtk : (Hand.tokRefreshTokenRequest w.oracles f).RefreshToken = f.RefreshToken := rfl
  have hrsc : (Hand.tokRefreshTokenRequest w.oracles f).Scopes = f.Scopes := rfl
  simp only [hrtk, hrsc] at hrec G1 G2
  have m3 := (mintTokens_refresh s r1 c f.RefreshToken).2.2
  have hstep : Flow.stepX now s (.token rt w df) =
      (mintTokens s (.refresh r1 c f.RefreshToken), .base (.issued (.refresh r1 c f.RefreshToken) (some ("rt" ++ toString s.nextRT)))) := by
    simp only [Flow.stepX, hte, m3]; rfl
  rw [stepObsX_eq hstep]
  have hans : answerOf s (mintTokens s (.refresh r1 c f.RefreshToken)) (.base (.issued (.refresh r1 c f.RefreshToken) (some ("rt" ++ toString s.nextRT))))
      = some (refreshAnswer s r1 f.RefreshToken) := by
    simp only [answerOf, hrec, Option.getD_some, Option.map_some, Option.isSome_some, if_true, refreshAnswer]
  simp only [eventOfX, hans, Option.map_some]
  generalize hA : refreshAnswer s r1 f.RefreshToken = A
  have hAt : A.tokens = some { subject := r1.subject, client := r1.clientID, scopes := r1.scopes } := by rw [← hA]; rfl
  have hAh : A.handed = some f.RefreshToken := by rw [← hA]; rfl
  have hres : resultOf A f.RefreshToken = some (rotated s r1) := by
    rw [← hA]; simp [resultOf, toRT, refreshAnswer, rotated]
  -- the library's own reading is a refresh reading the monitor accepts
  have hown := ownReading_mem hc
  rw [hg] at hown
  have hownJ : judge07 o now A (ownReading w.oracles Const.GrantTypeRefreshToken f) = none := by
    unfold judge07
    have e1 : (ownReading w.oracles Const.GrantTypeRefreshToken f).rt = f.RefreshToken := rfl
    have e2 : (ownReading w.oracles Const.GrantTypeRefreshToken f).requested = f.Scopes := rfl
    rw [e1, e2, hres]
    have hcg := c07judge_congr o.m07 now (ownReading w.oracles Const.GrantTypeRefreshToken f).p
      (presentedRefresh (Hand.tokRefreshTokenRequest w.oracles f)) f.RefreshToken f.Scopes
      (some (rotated s r1)) A.err A.created rfl rfl rfl
    rw [hcg]
    rw [G2]
    simp only [hAt]
    rw [← hA]
    simp [refreshAnswer, rotated]
  have hmemR : ownReading w.oracles Const.GrantTypeRefreshToken f ∈ (readings w).filter isRefresh :=
    List.mem_filter.2 ⟨hown, by simp [isRefresh, ownReading]⟩
  -- the reading the monitor settles on
  have hsome : (((readings w).filter isRefresh).find? (fun ρ => (judge07 o now A ρ).isNone)).isSome = true :=
    find?_mem_isSome hmemR (by rw [hownJ]; rfl)
  cases hfind : ((readings w).filter isRefresh).find? (fun ρ => (judge07 o now A ρ).isNone) with
  | none => rw [hfind] at hsome; cases hsome
  | some ρ =>
    have hρJ : judge07 o now A ρ = none := find?_isNone hfind
    have hρrt : ρ.rt = f.RefreshToken := by
      have := judge07_handed hAt hρJ
      rw [hAh] at this
      exact (Option.some.inj this).symm
    simp only [observeX, hAt, hAh, Option.isNone_some, Bool.false_eq_true, if_false, hfind, hρrt, hres]
    exact ⟨G1, trivial, trivial, trivial, trivial⟩


theorem Inv07.of_m07 {s : Flow.St} {o o' : ObsState} (h : Inv07 s o) (e : o'.m07 = o.m07) : Inv07 s o' :=
  h.of_same rfl rfl (CfgEq.refl s) e

/-- tokens without rotation for a request that can be read as a code exchange: the C07 monitor learns the refresh token the
    storage minted and has nothing to object (the judgement is C04's) -/
theorem observeX_code_success (now : Int) (o : ObsState) (w : WireReq) (A : Answer) {tk : C04.Tokens} {ρ0 : Reading}
    (ht : A.tokens = some tk) (hh : A.handed = none) (hρ : ρ0 ∈ (readings w).filter isCode) :
    (observeX now o (.token w A)).1.m07 = (learn o A).m07 ∧ (observeX now o (.token w A)).2.2 = none := by
  simp only [observeX, ht, hh, Option.isNone_none, if_true]
  cases h4 : ((readings w).filter isCode).find? (fun ρ => (judge04 o now A ρ).isNone) with
  | some ρ => exact ⟨rfl, rfl⟩
  | none =>
    cases h7 : ((readings w).filter isRefresh).find? (fun ρ => (judge07 o now A ρ).isNone) with
    | some ρ' =>
      exfalso
      have := judge07_handed ht (find?_isNone h7)
      rw [hh] at this; cases this
    | none =>
      simp only [Option.isSome_none, Bool.false_or]
      cases hl : (readings w).filter isCode with
      | nil => rw [hl] at hρ; cases hρ
      | cons x xs => exact ⟨rfl, rfl⟩

/-- a refusal of a request that has a reading which is no refresh request: nothing to object -/
theorem observeX_refusal_notRefresh (now : Int) (o : ObsState) (w : WireReq) (A : Answer) {ρ0 : Reading}
    (ht : A.tokens = none) (hρ : ρ0 ∈ readings w) (hnr : isRefresh ρ0 = false) :
    (observeX now o (.token w A)).1 = learn o A ∧ (observeX now o (.token w A)).2.1 = none ∧ (observeX now o (.token w A)).2.2 = none := by
  simp only [observeX, ht]
  refine ⟨trivial, trivial, ?_⟩
  have : (readings w).all (fun ρ => isRefresh ρ && (judge07 o now A ρ).isSome) = false := by
    rw [List.all_eq_false]
    exact ⟨ρ0, hρ, by simp [hnr]⟩
  simp [this]

theorem observeX_refusal (now : Int) (o : ObsState) (w : WireReq) (A : Answer) (ht : A.tokens = none) (hc : A.created = false) :
    (observeX now o (.token w A)).1 = learn o A ∧ (observeX now o (.token w A)).2.1 = none ∧
    ((observeX now o (.token w A)).2.2 = none ∨ (observeX now o (.token w A)).2.2 = some "widening-not-answered-with-invalid_scope") := by
  simp only [observeX, ht]
  refine ⟨trivial, trivial, ?_⟩
  split
  · cases hr : (readings w).head? with
    | none => exact Or.inl rfl
    | some ρ =>
      simp only [Option.bind_some]
      unfold judge07
      have := c07judge_refusal o.m07 now ρ.p ρ.rt ρ.requested A.err
      simp only [resultOf, ht, Option.map_none, hc]
      rcases this with h | h
      · rw [h]; exact Or.inl rfl
      · rw [h]; exact Or.inr rfl
  · exact Or.inl rfl


/-- the typed step of an exchange-type operation and the observer's C07 side after it, for the two outputs such a step has -/
theorem exchange_obs_m07 {now : Int} {s s' : Flow.St} {o : ObsState} {op : Flow.Op} {out : Flow.Out} {req : AccessTokenRequest}
    (hop : (∃ rt ha, op = .exchange rt req ha) ∨ (∃ rt ha, op = .exchangeDeleteFails rt req ha))
    (hstep : Flow.step now s op = (s', out))
    (hout : (∃ a c k nr, out = .issued (.code a c k) nr) ∨ (∃ e, out = .error e)) :
    ∃ A, answerOf s s' (.base out) = some A ∧ A.handed = none ∧ (A.tokens = none ↔ ∃ e, out = .error e) ∧
      (stepObs now (s, o) op).1 = (s', (stepObs now (s, o) op).1.2) ∧ (stepObs now (s, o) op).1.2.m07 = (learn o A).m07 := by
  rw [stepObs_eq hstep]
  rcases hout with ⟨a, c, k, nr, rfl⟩ | ⟨e, rfl⟩
  · refine ⟨_, rfl, rfl, ⟨fun h => (by cases h), fun ⟨e, he⟩ => (by cases he)⟩, ?_⟩
    rcases hop with ⟨rt, ha, rfl⟩ | ⟨rt, ha, rfl⟩ <;> simp only [eventOf, observe, learn] <;> exact ⟨trivial, rfl⟩
  · refine ⟨_, rfl, rfl, ⟨fun _ => ⟨e, rfl⟩, fun _ => rfl⟩, ?_⟩
    rcases hop with ⟨rt, ha, rfl⟩ | ⟨rt, ha, rfl⟩ <;> simp only [eventOf, observe, learn] <;> exact ⟨trivial, rfl⟩

/-- **A code exchange that the wire-level endpoint lets through** (with or without the storage fault): the C07 monitor learns the
    refresh token the storage minted, exactly as for the typed operation, and has nothing to object. -/
theorem goodX_token_code {now : Int} {s : Flow.St} {o : ObsState} (h : Inv07 s o) (rt : Router) (w : WireReq) (df : Bool)
    {a : AuthReq} {c : OPClient} {k : String} (hte : tokenEndpoint now rt s.p w = .issue (.code a c k)) :
    Inv07 (stepObsX now (s, o) (.token rt w df)).1.1 (stepObsX now (s, o) (.token rt w df)).1.2 ∧
    (stepObsX now (s, o) (.token rt w df)).2.2.2 = none := by
  obtain ⟨f, hc, hg, hce⟩ := wire_code_typed hte
  have hown := ownReading_mem hc
  rw [hg] at hown
  have hcodeR : ownReading w.oracles Const.GrantTypeCode f ∈ (readings w).filter isCode :=
    List.mem_filter.2 ⟨hown, by simp [isCode, ownReading]⟩
  have hnotR : isRefresh (ownReading w.oracles Const.GrantTypeCode f) = false := by
    simp [isRefresh, ownReading, Const.GrantTypeCode, Const.GrantTypeRefreshToken]
  -- the typed operation with the same step
  have key : ∀ (op : Flow.Op) (s' : Flow.St) (out : Flow.Out),
      ((∃ rt ha, op = .exchange rt (Hand.tokAccessTokenRequest w.oracles f) ha) ∨ (∃ rt ha, op = .exchangeDeleteFails rt (Hand.tokAccessTokenRequest w.oracles f) ha)) →
      Flow.step now s op = (s', out) → Flow.stepX now s (.token rt w df) = (s', .base out) →
      ((∃ a c k nr, out = .issued (.code a c k) nr) ∨ (∃ e, out = .error e)) →
      Inv07 (stepObs now (s, o) op).1.1 (stepObs now (s, o) op).1.2 →
      Inv07 (stepObsX now (s, o) (.token rt w df)).1.1 (stepObsX now (s, o) (.token rt w df)).1.2 ∧
      (stepObsX now (s, o) (.token rt w df)).2.2.2 = none := by
    intro op s' out hop hstep hstepX hout hinv
    obtain ⟨A, hA, hh, htok, hst, hm⟩ := exchange_obs_m07 (o := o) hop hstep hout
    rw [hst] at hinv
    rw [stepObsX_eq hstepX]
    simp only [eventOfX, hA, Option.map_some]
    cases hAt : A.tokens with
    | none =>
      obtain ⟨e1, e2, e3⟩ := observeX_refusal_notRefresh now o w A hAt hown hnotR
      refine ⟨?_, e3⟩
      simp only [e1]
      exact hinv.of_m07 hm.symm
    | some tk =>
      obtain ⟨e1, e2⟩ := observeX_code_success now o w A hAt hh hcodeR
      refine ⟨?_, e2⟩
      exact hinv.of_m07 (by rw [e1, hm])
  cases df with
  | false =>
    exact key (.exchange rt (Hand.tokAccessTokenRequest w.oracles f) (haOf f)) _ _ (Or.inl ⟨_, _, rfl⟩)
      (by rw [step_exchange, hce]) (by simp only [Flow.stepX, hte]; rfl) (Or.inl ⟨_, _, _, _, rfl⟩)
      (good07_exchange h rt _ _).1
  | true =>
    exact key (.exchangeDeleteFails rt (Hand.tokAccessTokenRequest w.oracles f) (haOf f)) _ _ (Or.inr ⟨_, _, rfl⟩)
      (by rw [step_exchangeDeleteFails, hce]) (by simp only [Flow.stepX, hte, issueDeleteFails_eq, if_true]) (Or.inr ⟨_, rfl⟩)
      (good07_exchangeDeleteFails h rt _ _).1

/-- a token request the endpoint refuses: nothing changes, nothing was created; at most the widening clause can fire -/
theorem goodX_token_err {now : Int} {s : Flow.St} {o : ObsState} (h : Inv07 s o) (rt : Router) (w : WireReq) (df : Bool)
    {e : String} (hte : tokenEndpoint now rt s.p w = .err e) :
    Inv07 (stepObsX now (s, o) (.token rt w df)).1.1 (stepObsX now (s, o) (.token rt w df)).1.2 ∧
    ((stepObsX now (s, o) (.token rt w df)).2.2.2 = none ∨ (stepObsX now (s, o) (.token rt w df)).2.2.2 = widening) ∧
    (stepObsX now (s, o) (.token rt w df)).2.1 = .base (.error e) ∧ (stepObsX now (s, o) (.token rt w df)).1.1 = s := by
  have hstep : Flow.stepX now s (.token rt w df) = (s, .base (.error e)) := by simp only [Flow.stepX, hte]
  rw [stepObsX_eq hstep]
  simp only [eventOfX, answerOf, mintedIn_self, bne_self_eq_false, Option.map_some]
  obtain ⟨e1, _, e3⟩ := observeX_refusal now o w { minted := none, err := Flow.oauthCode e, created := false } rfl rfl
  refine ⟨?_, e3, trivial, trivial⟩
  simp only [e1]
  exact h.of_m07 rfl

/-- a request that goes to the handler of another grant: the model (and the monitors) say nothing -/
theorem goodX_token_other {now : Int} {s : Flow.St} {o : ObsState} (rt : Router) (w : WireReq) (df : Bool)
    {hd : String} (hte : tokenEndpoint now rt s.p w = .other hd) :
    stepObsX now (s, o) (.token rt w df) = ((s, o), (.other hd, none, none)) := by
  have hstep : Flow.stepX now s (.token rt w df) = (s, .other hd) := by simp only [Flow.stepX, hte]
  rw [stepObsX_eq hstep]
  rfl

theorem goodX_token {now : Int} {s : Flow.St} {o : ObsState} (h : Inv07 s o) (rt : Router) (w : WireReq) (df : Bool) :
    Inv07 (stepObsX now (s, o) (.token rt w df)).1.1 (stepObsX now (s, o) (.token rt w df)).1.2 ∧
    ((stepObsX now (s, o) (.token rt w df)).2.2.2 = none ∨
      ((stepObsX now (s, o) (.token rt w df)).2.2.2 = widening ∧ ∃ e, (stepObsX now (s, o) (.token rt w df)).2.1 = .base (.error e))) := by
  cases hte : tokenEndpoint now rt s.p w with
  | err e =>
    obtain ⟨h1, h2, h3, _⟩ := goodX_token_err h rt w df hte
    refine ⟨h1, ?_⟩
    rcases h2 with h2 | h2
    · exact Or.inl h2
    · exact Or.inr ⟨h2, e, h3⟩
  | other hd =>
    rw [goodX_token_other rt w df hte]
    exact ⟨h, Or.inl rfl⟩
  | issue i =>
    cases i with
    | code a c k =>
      obtain ⟨h1, h2⟩ := goodX_token_code h rt w df hte
      exact ⟨h1, Or.inl h2⟩
    | refresh r c cur =>
      obtain ⟨h1, h2, _⟩ := goodX_token_refresh h rt w df hte
      exact ⟨h1, Or.inl h2⟩

theorem find?_map_id {l : List OPClient} {f : OPClient → OPClient} (hf : ∀ x, (f x).id = x.id) (k : String) :
    (l.map f).find? (·.id == k) = (l.find? (·.id == k)).map f := by
  induction l with
  | nil => rfl
  | cons x xs ih =>
    simp only [List.map_cons, List.find?_cons, hf]
    split
    · rfl
    · exact ih

def swapReg (c : OPClient) (x : OPClient) : OPClient := if x.id == c.id then c else x

theorem swapReg_id (c x : OPClient) : (swapReg c x).id = x.id := by
  unfold swapReg
  split
  · rename_i h; exact (beq_iff_eq.1 h).symm
  · rfl

/-- a registration is replaced by one the provider's configuration lets authenticate: storage and monitors stay in step -/
theorem goodX_reregister {now : Int} {s : Flow.St} {o : ObsState} (h : Inv07 s o) (c : OPClient) (hcap : AuthCapable s.p c) :
    Inv07 (stepObsX now (s, o) (.reregister c)).1.1 (stepObsX now (s, o) (.reregister c)).1.2 ∧
    (stepObsX now (s, o) (.reregister c)).2.2.2 = none := by
  have hstep : Flow.stepX now s (.reregister c) = (Flow.reRegister s c, .base .done) := rfl
  rw [stepObsX_eq hstep]
  simp only [eventOfX, observeX, and_true]
  obtain ⟨hcl, hiss, hmax, hoff⟩ := h.cfg
  refine ⟨⟨?_, hiss, hmax, hoff⟩, h.flag, h.live, h.fresh, ?_⟩
  · show reRegister o.m07.base.clients c = (Flow.reRegister s c).p.store.clients
    rw [hcl]; rfl
  · intro r hr
    obtain ⟨c0, hc0, hcap0⟩ := h.capable r hr
    have hmap : (Flow.reRegister s c).p.store.clients = s.p.store.clients.map (swapReg c) := rfl
    refine ⟨swapReg c c0, ?_, ?_⟩
    · rw [hmap, find?_map_id (swapReg_id c), hc0]; rfl
    · unfold swapReg
      split
      · exact hcap
      · exact hcap0


/-- the provider's switches, which no operation changes - not even a changed registration -/
def FlagsEq (s s' : Flow.St) : Prop :=
  s'.p.postSupported = s.p.postSupported ∧ s'.p.pkjwtSupported = s.p.pkjwtSupported ∧
  s'.p.is_JWTAuthorizationGrantExchanger = s.p.is_JWTAuthorizationGrantExchanger

theorem FlagsEq.of_cfg {s s' : Flow.St} (h : CfgEq s s') : FlagsEq s s' := ⟨h.2.2.2.2.2.1, h.2.2.2.2.2.2.1, h.2.2.2.2.2.2.2⟩

theorem AuthCapable.flags {s s' : Flow.St} {c : OPClient} (h : AuthCapable s.p c) (e : FlagsEq s s') : AuthCapable s'.p c := by
  obtain ⟨e1, e2, e3⟩ := e
  unfold AuthCapable at *
  rw [e1, e2, e3]; exact h

theorem stepX_cfg (now : Int) (s : Flow.St) (op : Flow.OpX) (hop : ∀ c, op ≠ .reregister c) : CfgEq s (Flow.stepX now s op).1 := by
  cases op with
  | base op => exact step_cfg now s op
  | reregister c => exact absurd rfl (hop c)
  | token rt w df =>
    cases hte : tokenEndpoint now rt s.p w with
    | err e => simp only [Flow.stepX, hte]; exact CfgEq.refl s
    | other hd => simp only [Flow.stepX, hte]; exact CfgEq.refl s
    | issue i =>
      obtain ⟨f, _, h⟩ := stepX_token_typed df hte
      rw [h]; exact step_cfg now s _

theorem stepX_flags (now : Int) (s : Flow.St) (op : Flow.OpX) : FlagsEq s (Flow.stepX now s op).1 := by
  by_cases hop : ∃ c, op = .reregister c
  · obtain ⟨c, rfl⟩ := hop
    exact ⟨rfl, rfl, rfl⟩
  · exact FlagsEq.of_cfg (stepX_cfg now s op fun c e => hop ⟨c, e⟩)

theorem stepObsX_state (now : Int) (s : Flow.St) (o : ObsState) (op : Flow.OpX) : (stepObsX now (s, o) op).1.1 = (Flow.stepX now s op).1 := by
  simp only [stepObsX]; cases eventOfX s (Flow.stepX now s op).1 op (Flow.stepX now s op).2 <;> rfl

/-- one step of an extended history: the invariant is kept; the C07 monitor has nothing to object unless the step is a REFUSED
    refresh, which can at most trip the widening clause -/
theorem goodX_step (now : Int) {s : Flow.St} {o : ObsState} (h : Inv07 s o) (op : Flow.OpX)
    (hreg : ∀ c, op = .reregister c → AuthCapable s.p c) :
    Inv07 (stepObsX now (s, o) op).1.1 (stepObsX now (s, o) op).1.2 ∧
    ((stepObsX now (s, o) op).2.2.2 = none ∨
      ((stepObsX now (s, o) op).2.2.2 = widening ∧ ∃ e, (stepObsX now (s, o) op).2.1 = .base (.error e))) := by
  cases op with
  | base op =>
    rw [stepObsX_base]
    obtain ⟨h1, h2, _⟩ := good07_step now h op
    refine ⟨h1, ?_⟩
    rcases h2 with h2 | ⟨h2, e, he⟩
    · exact Or.inl h2
    · exact Or.inr ⟨h2, e, by simp only [he]⟩
  | reregister c =>
    obtain ⟨h1, h2⟩ := goodX_reregister (now := now) h c (hreg c rfl)
    exact ⟨h1, Or.inl h2⟩
  | token rt w df => exact goodX_token h rt w df

theorem inv07_runX (now : Int) {s : Flow.St} {o : ObsState} (h : Inv07 s o) (ops : List Flow.OpX)
    (hreg : ∀ c, Flow.OpX.reregister c ∈ ops → AuthCapable s.p c) :
    Inv07 (runObsX now (s, o) ops).1.1 (runObsX now (s, o) ops).1.2 ∧
    ∀ x ∈ (runObsX now (s, o) ops).2, x.2.2 = none ∨ (x.2.2 = widening ∧ ∃ e, x.1 = .base (.error e)) := by
  induction ops generalizing s o with
  | nil => exact ⟨h, by intro x hx; cases hx⟩
  | cons op rest ih =>
    obtain ⟨hinv, hv⟩ := goodX_step now h op (fun c hc => hreg c (by rw [hc]; exact List.mem_cons_self))
    have hfl : FlagsEq s (stepObsX now (s, o) op).1.1 := by rw [stepObsX_state]; exact stepX_flags now s op
    obtain ⟨i1, i2⟩ := ih hinv (fun c hc => (hreg c (List.mem_cons_of_mem _ hc)).flags hfl)
    exact ⟨i1, List.forall_mem_cons.2 ⟨hv, i2⟩⟩

end FlowObs

namespace C07
open FlowObs Flow

/-- **C07 over histories whose token requests are given as they travel and in which registrations change.**  From an initial
    situation, for EVERY list of operations - the operations of `c07_history_core`, POSTs to the token endpoint of either router
    with every parameter in the body, in the query, or in both with equal or different values (with or without the storage
    fault), and registrations that are replaced (grant types removed or given back, another authentication method - one the
    provider's configuration lets the client use) - the reference monitor, which judges a request under every reading of its
    parameters and against the CURRENT registration, has nothing to object to any step that is not a refused refresh: every
    refresh that succeeds was made with a live refresh token, by the authenticated / identified client the token belongs to,
    whose registration contains the refresh grant AT THAT MOMENT, with refresh enabled, requested ⊆ granted, client / subject /
    audience / auth time kept (on the new refresh token, the access token and the ID token), the presented token handed to the
    storage and a different one returned; no refused request created tokens. -/
theorem c07_wire_history_core (now : Int) (s : Flow.St) (o : ObsState) (h0 : Init s o) (ops : List Flow.OpX)
    (hreg : ∀ c, Flow.OpX.reregister c ∈ ops → AuthCapable s.p c) :
    ∀ x ∈ (runObsX now (s, o) ops).2, x.2.2 = none ∨ (x.2.2 = widening ∧ ∃ e, x.1 = .base (.error e)) :=
  (inv07_runX now h0.inv07 ops hreg).2

theorem runObsX_runX (now : Int) (s : Flow.St) (o : ObsState) (ops : List Flow.OpX) :
    (runObsX now (s, o) ops).1.1 = (Flow.runX now s ops).1 ∧ (runObsX now (s, o) ops).2.map (·.1) = (Flow.runX now s ops).2 := by
  induction ops generalizing s o with
  | nil => exact ⟨rfl, rfl⟩
  | cons op rest ih =>
    have h1 : (stepObsX now (s, o) op).1.1 = (Flow.stepX now s op).1 := stepObsX_state now s o op
    have h2 : (stepObsX now (s, o) op).2.1 = (Flow.stepX now s op).2 := by
      simp only [stepObsX]; cases eventOfX s (Flow.stepX now s op).1 op (Flow.stepX now s op).2 <;> rfl
    obtain ⟨i1, i2⟩ := ih (stepObsX now (s, o) op).1.1 (stepObsX now (s, o) op).1.2
    rw [h1] at i1 i2
    have hrun : Flow.runX now s (op :: rest) =
        ((Flow.runX now (Flow.stepX now s op).1 rest).1, (Flow.stepX now s op).2 :: (Flow.runX now (Flow.stepX now s op).1 rest).2) := rfl
    have hpair : (stepObsX now (s, o) op).1 = ((Flow.stepX now s op).1, (stepObsX now (s, o) op).1.2) := by rw [← h1]
    show (runObsX now (stepObsX now (s, o) op).1 rest).1.1 = _ ∧
      ((stepObsX now (s, o) op).2 :: (runObsX now (stepObsX now (s, o) op).1 rest).2).map (·.1) = _
    rw [hrun, List.map_cons, h2, hpair]
    exact ⟨i1, by rw [i2]⟩

end C07

/-! ## Non-vacuity: concrete extended histories (evaluated by the kernel) -/

namespace FlowObs
open Go Gen Hand Flow

def demoWebNoRefresh : OPClient := { demoWeb with grants := ["authorization_code"] }

/-- the code exchange of `demoOps`, on the wire: grant_type in the QUERY, the rest in the body, Basic credentials -/
def wireExchange (rt : Router) : Flow.OpX :=
  .token rt { query := [("grant_type", "authorization_code")], body := [("code", "c1"), ("redirect_uri", "https://rp.example/cb")],
              basic := some ("web", "s3cret") } false

/-- a refresh of `tok`: every parameter in the query, nothing in the body -/
def wireRefreshQ (rt : Router) (tok : String) (scope : String) : Flow.OpX :=
  .token rt { query := [("grant_type", "refresh_token"), ("refresh_token", tok), ("scope", scope)], basic := some ("web", "s3cret") } false

/-- a refresh whose parameters are presented TWICE with different values: grant_type (body: refresh_token, query: bogus),
    refresh_token (body: a rotated token, query: the live one), scope (body: a widening one, query: a narrowing one) -/
def wireRefreshDup (rt : Router) (tokBody tokQuery : String) : Flow.OpX :=
  .token rt { body := [("grant_type", "refresh_token"), ("refresh_token", tokBody), ("scope", "openid admin")],
              query := [("grant_type", "bogus"), ("refresh_token", tokQuery), ("scope", "openid")], basic := some ("web", "s3cret") } false

def showOutX : Flow.OutX → String
  | .base o => showOutShort o
  | .other h => "other:" ++ h

/-- a grant, the registration loses the refresh grant, refreshes shaped in different ways, the grant is given back -/
def demoWire (rt : Router) : List Flow.OpX :=
  [.base demoAuthorize, .base (.login "ar1" "user1" 1000), .base (.callback "ar1" "c1"), wireExchange rt,
   wireRefreshQ rt "rt1" "openid email offline_access",
   .reregister demoWebNoRefresh,
   wireRefreshQ rt "rt2" "openid email",                 -- refused: the CURRENT registration has no refresh grant
   .base (demoRefresh rt "rt2" []),                      -- the same with every parameter in the body
   .reregister demoWeb,
   wireRefreshDup rt "rt1" "rt2",                        -- body: rotated token + widening scope; query: live token + narrowing scope
   wireRefreshQ rt "rt3" "openid email"]                 -- re-widening to a scope dropped by the previous request

end FlowObs

namespace C07
open FlowObs Flow

example : ((runObsX 0 (demoState, obsOf demoState) (demoWire .provider)).2.map fun x => (showOutX x.1, x.2.1, x.2.2)) =
  [("login:ar1", none, none), ("done", none, none), ("code:c1", none, none), ("tokens:user1:web:rt1", none, none),
   ("refreshed:user1:web:openid email offline_access:rt2", none, none), ("done", none, none),
   ("error:ErrUnauthorizedClient", none, none), ("error:ErrUnauthorizedClient", none, none), ("done", none, none),
   ("refreshed:user1:web:openid:rt3", none, none), ("error:ErrInvalidScope", none, none)] := by decide +kernel

example : ((runObsX 0 (demoState, obsOf demoState) (demoWire .legacy)).2.map fun x => (showOutX x.1, x.2.1, x.2.2)) =
  [("login:ar1", none, none), ("done", none, none), ("code:c1", none, none), ("tokens:user1:web:rt1", none, none),
   ("refreshed:user1:web:openid email offline_access:rt2", none, none), ("done", none, none),
   ("error:ErrUnauthorizedClient", none, none), ("error:ErrUnauthorizedClient", none, none), ("done", none, none),
   ("refreshed:user1:web:openid:rt3", none, none), ("error:ErrInvalidScope", none, none)] := by decide +kernel

/-- the premise of `c07_wire_history_core` holds for it -/
example : Init demoState (obsOf demoState) ∧ ∀ c, Flow.OpX.reregister c ∈ demoWire .legacy → AuthCapable demoState.p c := by
  refine ⟨init_obsOf rfl rfl rfl, ?_⟩
  intro c hc
  simp only [demoWire, wireExchange, wireRefreshQ, wireRefreshDup, List.mem_cons, List.mem_nil_iff, or_false, reduceCtorEq, false_or,
    Flow.OpX.reregister.injEq] at hc
  rcases hc with rfl | rfl <;> exact Or.inr (Or.inr (Or.inl rfl))

/-- the monitor is not vacuous about the registration: had the provider answered the refresh of the client WITHOUT the refresh
    grant with tokens (what a `withClient` that looks for grant_type in the body only does when grant_type travels in the
    query), the observer flags exactly that -/
example :
    let so := (runObsX 0 (demoState, obsOf demoState) ((demoWire .legacy).take 6)).1
    (observeX 0 so.2 (.token { query := [("grant_type", "refresh_token"), ("refresh_token", "rt2")], basic := some ("web", "s3cret") }
        { tokens := some { subject := "user1", client := "web", scopes := ["openid", "email", "offline_access"] }, audience := ["web"],
          minted := some { token := "rt3", client := "web", subject := "user1", scopes := ["openid", "email", "offline_access"], audience := ["web"], authTime := 1000 },
          handed := some "rt2", created := true })).2.2 = some "grant-not-registered" := by decide +kernel

/-- ... and with the registration that HAS the grant the same response is accepted -/
example :
    let so := (runObsX 0 (demoState, obsOf demoState) ((demoWire .legacy).take 5)).1
    (observeX 0 so.2 (.token { query := [("grant_type", "refresh_token"), ("refresh_token", "rt2")], basic := some ("web", "s3cret") }
        { tokens := some { subject := "user1", client := "web", scopes := ["openid", "email", "offline_access"] }, audience := ["web"],
          minted := some { token := "rt3", client := "web", subject := "user1", scopes := ["openid", "email", "offline_access"], audience := ["web"], authTime := 1000 },
          handed := some "rt2", created := true })).2.2 = none := by decide +kernel

end C07

/-! ## What one step does to the refresh tokens of the storage, and the ORIGIN of every token

  Rotation handed to the storage, "new tokens keep the original subject / audience / authentication time" and "over any chain
  of refreshes the granted scope never grows" as statements about whole (extended) histories, by induction over the
  operations - with no hypothesis about registrations. -/

namespace FlowObs
open Go Gen Hand Flow WireSpec

def IsRefreshIssue (out : Flow.OutX) : Prop := ∃ r c cur tok, out = .base (.issued (.refresh r c cur) (some tok))

/-- what a step did to the stored refresh tokens: nothing; or it minted one for an authorization request; or it rotated one -/
def Change (s s' : Flow.St) (out : Flow.OutX) : Prop :=
  (s'.store.refresh = s.store.refresh ∧ s'.nextRT = s.nextRT ∧ ¬ IsRefreshIssue out) ∨
  (∃ a, s'.store.refresh = s.store.refresh ++ [newCodeRT s a] ∧ s'.nextRT = s.nextRT + 1 ∧ ¬ IsRefreshIssue out) ∨
  (∃ r0 r1 c cur, out = .base (.issued (.refresh r1 c cur) (some ("rt" ++ toString s.nextRT))) ∧
      s.store.refresh.find? (·.token == cur) = some r0 ∧
      s'.store.refresh = s.store.refresh.filter (·.token != cur) ++ [{ r1 with token := "rt" ++ toString s.nextRT }] ∧
      s'.nextRT = s.nextRT + 1 ∧
      C07.sub r1.scopes r0.scopes ∧ r1.clientID = r0.clientID ∧ r1.subject = r0.subject ∧ r1.audience = r0.audience ∧ r1.authTime = r0.authTime)

theorem step_change (now : Int) (s : Flow.St) (op : Flow.Op) : Change s (Flow.step now s op).1 (.base (Flow.step now s op).2) := by
  have quiet : ∀ {out : Flow.Out}, (∀ i nr, out ≠ .issued i nr) → Change s s (.base out) :=
    fun h => Or.inl ⟨rfl, rfl, by rintro ⟨_, _, _, _, e⟩; exact h _ _ (Flow.OutX.base.inj e)⟩
  -- the storage holds what `mintTokens` made of a code issue: one more token, or the same
  have minted : ∀ (a : AuthReq) (c : OPClient) (k : String) {s' : Flow.St} {out : Flow.Out},
      s'.store.refresh = (mintTokens s (.code a c k)).store.refresh → s'.nextRT = (mintTokens s (.code a c k)).nextRT →
      (∀ r c cur nr, out ≠ .issued (.refresh r c cur) nr) → Change s s' (.base out) := by
    intro a c k s' out hR hN hout
    have hno : ¬ IsRefreshIssue (.base out) := by rintro ⟨_, _, _, _, e⟩; exact hout _ _ _ _ (Flow.OutX.base.inj e)
    by_cases hw : wantsRefresh (.code a c k) = true
    · obtain ⟨m1, m2, _⟩ := mintTokens_code_yes (s := s) hw
      exact Or.inr (Or.inl ⟨a, by rw [hR, m1], by rw [hN, m2], hno⟩)
    · obtain ⟨m1, _⟩ := mintTokens_no (s := s) (i := .code a c k) (by simpa using hw)
      exact Or.inl ⟨by rw [hR, m1], by rw [hN, m1], hno⟩
  cases op with
  | authorize a hint => rw [step_authorize]; split <;> exact quiet (by simp)
  | login a b c => exact quiet (fun _ _ h => by cases h)
  | callback id code => rw [step_callback]; (repeat' split) <;> exact quiet (by simp)
  | exchange rt req ha =>
    rw [step_exchange]
    cases hce : codeExchange now rt s.p req ha with
    | error e => exact quiet (by simp)
    | ok i =>
      obtain ⟨a, c, rfl, _⟩ := codeExchange_ok hce
      obtain ⟨hR, hN⟩ := applyIssue_refreshPart s (.code a c req.Code)
      exact minted a c req.Code hR hN (by simp)
  | exchangeDeleteFails rt req ha =>
    rw [step_exchangeDeleteFails]
    cases hce : codeExchange now rt s.p req ha with
    | error e => exact quiet (by simp)
    | ok i =>
      obtain ⟨a, c, rfl, _⟩ := codeExchange_ok hce
      show Change s (if tokensBeforeDelete then _ else s) _
      split
      · exact minted a c req.Code rfl rfl (by simp)
      · exact quiet (by simp)
  | refresh rt req ha =>
    rw [step_refresh]
    cases hre : refreshExchange now rt s.p req ha with
    | error e => exact quiet (by simp)
    | ok i =>
      obtain ⟨r0, r1, c, rfl, _, _, hlook, _, _, hvs, _⟩ := refreshExchange_ok hre
      obtain ⟨m1, m2, m3⟩ := mintTokens_refresh s r1 c req.RefreshToken
      obtain ⟨h1, h2, h3, h4, h5, _⟩ := C07.validateRefreshTokenScopes_ok hvs
      exact Or.inr (Or.inr ⟨r0, r1, c, req.RefreshToken, by rw [← m3], tokenLookup hlook, m1, m2, h1, h2, h3, h4, h5⟩)

/-- **What a step can do to the refresh tokens** - for every operation of an extended history, in any state:
    (a) nothing, and its answer is no refresh; or (b) a code exchange made the storage mint ONE fresh token for the authorization
    request it redeemed; or (c) a refresh: the answer names the presented token `cur`, which resolved to grant `r0`, exactly that
    token is gone, ONE fresh token carries grant `r1` with scopes within `r0`'s and the same client, subject, audience and
    authentication time. -/
theorem stepX_change (now : Int) (s : Flow.St) (op : Flow.OpX) :
    ((Flow.stepX now s op).1.store.refresh = s.store.refresh ∧ (Flow.stepX now s op).1.nextRT = s.nextRT ∧ ¬ IsRefreshIssue (Flow.stepX now s op).2) ∨
    (∃ a, (Flow.stepX now s op).1.store.refresh = s.store.refresh ++ [newCodeRT s a] ∧ (Flow.stepX now s op).1.nextRT = s.nextRT + 1 ∧
        ¬ IsRefreshIssue (Flow.stepX now s op).2) ∨
    (∃ r0 r1 c cur, (Flow.stepX now s op).2 = .base (.issued (.refresh r1 c cur) (some ("rt" ++ toString s.nextRT))) ∧
        s.store.refresh.find? (·.token == cur) = some r0 ∧
        (Flow.stepX now s op).1.store.refresh = s.store.refresh.filter (·.token != cur) ++ [{ r1 with token := "rt" ++ toString s.nextRT }] ∧
        (Flow.stepX now s op).1.nextRT = s.nextRT + 1 ∧
        C07.sub r1.scopes r0.scopes ∧ r1.clientID = r0.clientID ∧ r1.subject = r0.subject ∧ r1.audience = r0.audience ∧ r1.authTime = r0.authTime) := by
  show Change s _ _
  cases op with
  | base op => exact step_change now s op
  | reregister c => exact Or.inl ⟨rfl, rfl, by rintro ⟨_, _, _, _, h⟩; cases h⟩
  | token rt w df =>
    cases hte : tokenEndpoint now rt s.p w with
    | err e => simp only [Flow.stepX, hte]; exact Or.inl ⟨rfl, rfl, by rintro ⟨_, _, _, _, h⟩; cases h⟩
    | other hd => simp only [Flow.stepX, hte]; exact Or.inl ⟨rfl, rfl, by rintro ⟨_, _, _, _, h⟩; cases h⟩
    | issue i =>
      obtain ⟨f, _, h⟩ := stepX_token_typed df hte
      rw [h]; exact step_change now s _

/-- Ghost bookkeeping of one step: for every refresh token the storage has minted, the GRANT OF THE CODE EXCHANGE it descends
    from (as the storage recorded it then: client, subject, audience, authentication time, scopes).  A refresh that answers
    with a new token passes the origin of the presented token on; any other step that makes the storage mint a token starts an
    origin with that token's own record. -/
def originStep (now : Int) (s : Flow.St) (g : List (String × RefreshReq)) (op : Flow.OpX) : List (String × RefreshReq) :=
  match (Flow.stepX now s op).2 with
  | .base (.issued (.refresh _ _ cur) (some tok)) =>
    (match g.find? (·.1 == cur) with
     | some (_, r0) => g ++ [(tok, r0)]
     | none => g)
  | _ =>
    (match mintedRec s (Flow.stepX now s op).1 with
     | some new => g ++ [(new.token, new)]
     | none => g)

def origins (now : Int) : Flow.St → List (String × RefreshReq) → List Flow.OpX → List (String × RefreshReq)
  | _, g, [] => g
  | s, g, op :: rest => origins now (Flow.stepX now s op).1 (originStep now s g op) rest

/-- every stored refresh token has an origin and is within it -/
structure Org (s : Flow.St) (g : List (String × RefreshReq)) : Prop where
  within : ∀ r ∈ s.store.refresh, ∃ r0, g.find? (·.1 == r.token) = some (r.token, r0) ∧ C07.sub r.scopes r0.scopes ∧
      r.clientID = r0.clientID ∧ r.subject = r0.subject ∧ r.audience = r0.audience ∧ r.authTime = r0.authTime
  freshG : ∀ e ∈ g, ∃ k, k < s.nextRT ∧ e.1 = "rt" ++ toString k
  freshS : ∀ r ∈ s.store.refresh, ∃ k, k < s.nextRT ∧ r.token = "rt" ++ toString k

theorem org_not_found {s : Flow.St} {g : List (String × RefreshReq)} (h : Org s g) :
    g.find? (·.1 == "rt" ++ toString s.nextRT) = none :=
  find?_rt_none (key := fun e : String × RefreshReq => e.1) h.freshG

/-- the storage gained `new` (fresh token), the rest is a part of what it held; the origin list gained `(new.token, r0)` -/
theorem Org.mint {s s' : Flow.St} {g : List (String × RefreshReq)} (h : Org s g) {l : List RefreshReq} (hl : ∀ r ∈ l, r ∈ s.store.refresh)
    {new r0 : RefreshReq} (hnew : new.token = "rt" ++ toString s.nextRT)
    (hin : C07.sub new.scopes r0.scopes ∧ new.clientID = r0.clientID ∧ new.subject = r0.subject ∧ new.audience = r0.audience ∧ new.authTime = r0.authTime)
    (h1 : s'.store.refresh = l ++ [new]) (h2 : s'.nextRT = s.nextRT + 1) : Org s' (g ++ [(new.token, r0)]) := by
  refine ⟨?_, ?_, ?_⟩
  · intro r hr
    rw [h1] at hr
    rcases List.mem_append.1 hr with hr | hr
    · obtain ⟨r0', hf, hs⟩ := h.within r (hl r hr)
      exact ⟨r0', by rw [List.find?_append, hf]; rfl, hs⟩
    · have : r = new := by simpa using hr
      subst this
      refine ⟨r0, ?_, hin⟩
      rw [List.find?_append, hnew, org_not_found h]
      simp
  · intro e he
    rw [h2]
    rcases List.mem_append.1 he with he | he
    · obtain ⟨k, hk, hid⟩ := h.freshG e he
      exact ⟨k, by omega, hid⟩
    · have : e = (new.token, r0) := by simpa using he
      subst this
      exact ⟨s.nextRT, by omega, hnew⟩
  · intro r hr
    rw [h1] at hr; rw [h2]
    rcases List.mem_append.1 hr with hr | hr
    · obtain ⟨k, hk, hid⟩ := h.freshS r (hl r hr)
      exact ⟨k, by omega, hid⟩
    · have : r = new := by simpa using hr
      subst this
      exact ⟨s.nextRT, by omega, hnew⟩

theorem originStep_other {now : Int} {s : Flow.St} {g : List (String × RefreshReq)} {op : Flow.OpX}
    (hno : ¬ IsRefreshIssue (Flow.stepX now s op).2) :
    originStep now s g op = match mintedRec s (Flow.stepX now s op).1 with
      | some new => g ++ [(new.token, new)]
      | none => g := by
  unfold originStep
  split
  · rename_i r c cur tok heq; exact absurd ⟨r, c, cur, tok, heq⟩ hno
  · rfl

theorem org_step (now : Int) {s : Flow.St} {g : List (String × RefreshReq)} (h : Org s g) (op : Flow.OpX) :
    Org (Flow.stepX now s op).1 (originStep now s g op) := by
  have hnf : s.store.refresh.find? (·.token == "rt" ++ toString s.nextRT) = none := find?_rt_none (key := fun r : RefreshReq => r.token) h.freshS
  rcases stepX_change now s op with ⟨h1, h2, hno⟩ | ⟨a, h1, h2, hno⟩ | ⟨r0, r1, c, cur, hout, hf, h1, h2, hsub, hc, hs, ha, ht⟩
  · -- nothing happened
    rw [originStep_other hno, mintedRec_same h1]
    exact ⟨by rw [h1]; exact h.within, by rw [h2]; exact h.freshG, by rw [h1, h2]; exact h.freshS⟩
  · -- a code exchange minted
    rw [originStep_other hno, mintedRec_append h1 hnf]
    exact h.mint (l := s.store.refresh) (fun r hr => hr) rfl ⟨fun _ hx => hx, rfl, rfl, rfl, rfl⟩ h1 h2
  · -- a rotation
    have hr0mem := List.mem_of_find?_eq_some hf
    have hr0tok : r0.token = cur := by simpa using List.find?_some hf
    obtain ⟨r00, hg0, hsub0, hc0, hs0, ha0, ht0⟩ := h.within r0 hr0mem
    rw [hr0tok] at hg0
    have hg : originStep now s g op = g ++ [("rt" ++ toString s.nextRT, r00)] := by
      unfold originStep
      rw [hout]
      simp only [hg0]
    rw [hg]
    exact h.mint (l := s.store.refresh.filter (·.token != cur)) (fun r hr => (List.mem_filter.1 hr).1)
      (new := { r1 with token := "rt" ++ toString s.nextRT }) rfl
      ⟨fun x hx => hsub0 x (hsub x hx), hc.trans hc0, hs.trans hs0, ha.trans ha0, ht.trans ht0⟩ h1 h2

theorem org_run (now : Int) {s : Flow.St} {g : List (String × RefreshReq)} (h : Org s g) (ops : List Flow.OpX) :
    Org (Flow.runX now s ops).1 (origins now s g ops) := by
  induction ops generalizing s g with
  | nil => exact h
  | cons op rest ih => exact ih (org_step now h op)

/-! The scope lineage of Proofs/C07History.lean is the scope part of the origins: on the plain operations the two ledgers move
    together. -/

def scopePart (e : String × RefreshReq) : String × List String := (e.1, e.2.scopes)

theorem minted_scopePart (s s' : Flow.St) (g : List (String × RefreshReq)) :
    (match mintedIn s s' with
      | some t => g.map scopePart ++ [(t.token, t.scopes)]
      | none => g.map scopePart) =
    (match mintedRec s s' with
      | some new => g ++ [(new.token, new)]
      | none => g).map scopePart := by
  rw [mintedIn_eq]
  cases mintedRec s s' <;> simp [scopePart, toRT]

theorem lineageStep_eq (now : Int) (s : Flow.St) (g : List (String × RefreshReq)) (op : Flow.Op) :
    lineageStep now s (g.map scopePart) op = (originStep now s g (.base op)).map scopePart := by
  have notRI_err : ∀ e, ¬ IsRefreshIssue (.base (.error e)) := by rintro e ⟨_, _, _, _, h⟩; cases h
  -- an operation that leaves the refresh tokens alone and answers with no refresh
  have quiet : ∀ {op}, (Flow.step now s op).1.store.refresh = s.store.refresh → ¬ IsRefreshIssue (.base (Flow.step now s op).2) →
      originStep now s g (.base op) = g := by
    intro op h1 hno
    rw [originStep_other (now := now) (op := .base op) hno]; exact mintedRec_same h1 ▸ rfl
  -- a code exchange: both ledgers look at what the storage minted
  have exch : ∀ {op}, ¬ IsRefreshIssue (.base (Flow.step now s op).2) →
      (match mintedIn s (Flow.step now s op).1 with
        | some t => g.map scopePart ++ [(t.token, t.scopes)]
        | none => g.map scopePart) = (originStep now s g (.base op)).map scopePart := by
    intro op hno
    rw [originStep_other (now := now) (op := .base op) hno]; exact minted_scopePart s _ g
  cases op with
  | authorize a hint =>
    rw [quiet (by rw [step_authorize]; split <;> rfl) (by rw [step_authorize]; split <;> rintro ⟨_, _, _, _, h⟩ <;> cases h)]
    simp [lineageStep]
  | login a b c => rw [quiet rfl (by rintro ⟨_, _, _, _, h⟩; cases h)]; rfl
  | callback id code =>
    rw [quiet (by rw [step_callback]; (repeat' split) <;> rfl)
      (by rw [step_callback]; (repeat' split) <;> rintro ⟨_, _, _, _, h⟩ <;> cases h)]
    simp [lineageStep]
  | exchange rt req ha =>
    rw [← exch]
    · rfl
    · rw [step_exchange]
      cases hce : codeExchange now rt s.p req ha with
      | error e => exact notRI_err e
      | ok i =>
        obtain ⟨a, c, rfl, _⟩ := codeExchange_ok hce
        rintro ⟨_, _, _, _, h⟩; cases h
  | exchangeDeleteFails rt req ha =>
    rw [← exch]
    · rfl
    · rw [step_exchangeDeleteFails]; split <;> exact notRI_err _
  | refresh rt req ha =>
    cases hre : refreshExchange now rt s.p req ha with
    | error e =>
      have hst : Flow.step now s (.refresh rt req ha) = (s, .error e) := by rw [step_refresh, hre]
      rw [quiet (by rw [hst]) (by rw [hst]; exact notRI_err e)]
      simp [lineageStep, hst]
    | ok i =>
      obtain ⟨r0, r1, c, rfl, _⟩ := refreshExchange_ok hre
      have hst : Flow.step now s (.refresh rt req ha) =
          (applyIssue s (.refresh r1 c req.RefreshToken), .issued (.refresh r1 c req.RefreshToken) (some ("rt" ++ toString s.nextRT))) := by
        rw [step_refresh, hre, ← (mintTokens_refresh s r1 c req.RefreshToken).2.2]
      have hx : Flow.stepX now s (.base (.refresh rt req ha)) = (applyIssue s (.refresh r1 c req.RefreshToken),
          .base (.issued (.refresh r1 c req.RefreshToken) (some ("rt" ++ toString s.nextRT)))) := by
        show (_, Flow.OutX.base _) = _; rw [hst]
      simp only [lineageStep, originStep, hst, hx, List.find?_map]
      show (match (g.find? (·.1 == req.RefreshToken)).map scopePart with | some (_, sc) => _ | none => _) = _
      cases g.find? (·.1 == req.RefreshToken) <;> simp [scopePart]

theorem lineage_eq (now : Int) (s : Flow.St) (g : List (String × RefreshReq)) (ops : List Flow.Op) :
    (Flow.runX now s (ops.map .base)).1 = (Flow.run now s ops).1 ∧
    lineage now s (g.map scopePart) ops = (origins now s g (ops.map .base)).map scopePart := by
  induction ops generalizing s g with
  | nil => exact ⟨rfl, rfl⟩
  | cons op rest ih =>
    obtain ⟨i1, i2⟩ := ih (Flow.step now s op).1 (originStep now s g (.base op))
    refine ⟨i1, ?_⟩
    show lineage now (Flow.step now s op).1 (lineageStep now s (g.map scopePart) op) rest = _
    rw [lineageStep_eq]; exact i2

theorem Org.lin {s : Flow.St} {g : List (String × RefreshReq)} (h : Org s g) : Lin s (g.map scopePart) := by
  refine ⟨fun r hr => ?_, fun e he => ?_⟩
  · obtain ⟨r0, hf, hsub, _⟩ := h.within r hr
    exact ⟨r0.scopes, by rw [List.find?_map]; exact congrArg (Option.map scopePart) hf, hsub⟩
  · obtain ⟨e0, he0, rfl⟩ := List.mem_map.1 he
    exact h.freshG e0 he0

end FlowObs

namespace C07
open FlowObs Flow

/-- **Origin of every refresh token, over extended histories.**  Along ANY history - code exchanges, refreshes and token
    requests of every shape on either router, storage faults, registrations that change in whatever way - from a storage that
    holds no refresh tokens: every refresh token the storage holds at the end descends, through the chain of rotations, from the
    grant `r0` the storage recorded at ONE code exchange, and it still carries that grant's client, SUBJECT, AUDIENCE and
    AUTHENTICATION TIME, with scopes WITHIN the scopes granted then - however many refreshes, by whomever, with whatever scope
    parameters, wherever the parameters travelled. -/
theorem c07_wire_origin (now : Int) (s : Flow.St) (hrt : s.store.refresh = []) (ops : List Flow.OpX) :
    ∀ r ∈ (Flow.runX now s ops).1.store.refresh,
      ∃ r0, (origins now s [] ops).find? (·.1 == r.token) = some (r.token, r0) ∧ sub r.scopes r0.scopes ∧
        r.clientID = r0.clientID ∧ r.subject = r0.subject ∧ r.audience = r0.audience ∧ r.authTime = r0.authTime := by
  have horg : Org s [] := ⟨(by rw [hrt]; intro r hr; cases hr), (by intro e he; cases he), (by rw [hrt]; intro r hr; cases hr)⟩
  exact (org_run now horg ops).within

/-- **Scope chains over histories.**  Along ANY history (from an empty storage), every refresh token the storage holds at
    the end has a lineage - the code exchange it descends from through the chain of rotations - and its scopes are within the
    scopes granted by that exchange: however many refreshes, by whomever, with whatever scope parameters, interleaved with
    whatever else. -/
theorem c07_scope_chain (now : Int) (s : Flow.St) (hr : s.store.authReqs = []) (hc : s.store.codes = []) (hrt : s.store.refresh = [])
    (ops : List Flow.Op) :
    ∀ r ∈ (Flow.run now s ops).1.store.refresh,
      ∃ granted, (lineage now s [] ops).find? (·.1 == r.token) = some (r.token, granted) ∧ sub r.scopes granted := by
  have horg : Org s [] := ⟨(by rw [hrt]; intro r hr; cases hr), (by intro e he; cases he), (by rw [hrt]; intro r hr; cases hr)⟩
  obtain ⟨h1, h2⟩ := lineage_eq now s [] ops
  have := (org_run now horg (ops.map .base)).lin
  rw [h1, ← h2] at this
  exact this.within

/-- **Rotation over extended histories**: a refresh that answers with a new token, in ANY state, removes exactly the presented
    token from the storage and adds exactly one fresh token; every other step leaves the stored tokens alone or (a code
    exchange) adds one.  (`FlowObs.stepX_change`, restated for the token that was presented.) -/
theorem c07_wire_rotation (now : Int) (s : Flow.St) (op : Flow.OpX) {r1 : RefreshReq} {c : OPClient} {cur tok : String}
    (hout : (Flow.stepX now s op).2 = .base (.issued (.refresh r1 c cur) (some tok))) :
    tok = "rt" ++ toString s.nextRT ∧
    (Flow.stepX now s op).1.store.refresh = s.store.refresh.filter (·.token != cur) ++ [{ r1 with token := tok }] ∧
    ∃ r0, s.store.refresh.find? (·.token == cur) = some r0 ∧ sub r1.scopes r0.scopes ∧ r1.clientID = r0.clientID ∧
      r1.subject = r0.subject ∧ r1.audience = r0.audience ∧ r1.authTime = r0.authTime := by
  rcases stepX_change now s op with ⟨_, _, hno⟩ | ⟨_, _, _, hno⟩ | ⟨r0, r1', c', cur', hout', hf, h1, _, hrest⟩
  · exact absurd ⟨r1, c, cur, tok, hout⟩ hno
  · exact absurd ⟨r1, c, cur, tok, hout⟩ hno
  · rw [hout'] at hout
    cases hout
    exact ⟨rfl, h1, r0, hf, hrest⟩


/-- the origins along `demoWire`: three tokens, all descending from the grant of the one code exchange; the last one narrowed -/
example : ((origins 0 demoState [] (demoWire .legacy)).map fun e => (e.1, e.2.token, e.2.subject, e.2.scopes)) =
    [("rt1", "rt1", "user1", ["openid", "email", "offline_access"]), ("rt2", "rt1", "user1", ["openid", "email", "offline_access"]),
     ("rt3", "rt1", "user1", ["openid", "email", "offline_access"])] ∧
    ((Flow.runX 0 demoState (demoWire .legacy)).1.store.refresh.map fun r => (r.token, r.subject, r.scopes)) = [("rt3", "user1", ["openid"])] := by
  decide +kernel

end C07

/-! ## The clause "a request that fails only because of its scope is answered invalid_scope", over extended histories -/

namespace FlowObs
open Go Gen Hand Flow WireSpec

/-- side conditions of a token request on the wire under which the widening clause can be demanded of it (the wire-level reading
    of `OpOK`): the Basic header, if any, decodes; a `client_assertion` is sent iff the assertion type is the JWT one; an
    assertion is not judged at a rounding-boundary instant -/
def WireOK (now : Int) (p : Provider) (w : WireReq) : Prop :=
  ∃ f, creds w.oracles { w := w } = .ok f ∧ haOf f = (f.ClientAssertionType == Const.ClientAssertionTypeJWTAssertion) ∧
    (f.ClientAssertionType = Const.ClientAssertionTypeJWTAssertion → Decisive now p (w.tokenOf f.ClientAssertion))

def StepOKX (now : Int) (s : Flow.St) : Flow.OpX → Prop
  | .base op => OpOK now s.p op
  | .reregister c => AuthCapable s.p c
  | .token _ w _ => WireOK now s.p w

def RunOKX (now : Int) : Flow.St → List Flow.OpX → Prop
  | _, [] => True
  | s, op :: rest => StepOKX now s op ∧ RunOKX now (Flow.stepX now s op).1 rest

theorem clientsOK_stepX (now : Int) (s : Flow.St) (op : Flow.OpX) (h : ClientsOK s.p) : ClientsOK (Flow.stepX now s op).1.p := by
  by_cases hop : ∃ c, op = .reregister c
  · obtain ⟨c, rfl⟩ := hop
    intro c' hc'
    obtain ⟨x, hx, rfl⟩ := List.mem_map.1 (show c' ∈ s.p.store.clients.map (swapReg c) from hc')
    rw [swapReg_id]
    exact h x hx
  · exact h.trans (stepX_cfg now s op fun c e => hop ⟨c, e⟩)

/-- a refused token request under the side conditions: the widening clause does not fire -/
theorem goodX_token_err_ok {now : Int} {s : Flow.St} {o : ObsState} (h : Inv07 s o) (rt : Router) (w : WireReq) (df : Bool)
    {e : String} (hte : tokenEndpoint now rt s.p w = .err e) (hw : WireOK now s.p w) (hcl : ClientsOK s.p) :
    (stepObsX now (s, o) (.token rt w df)).2.2.2 = none := by
  obtain ⟨f, hc, hha, hdec⟩ := hw
  have hstep : Flow.stepX now s (.token rt w df) = (s, .base (.error e)) := by simp only [Flow.stepX, hte]
  rw [stepObsX_eq hstep]
  simp only [eventOfX, answerOf, mintedIn_self, bne_self_eq_false, Option.map_some, observeX]
  split
  · rename_i hall
    exfalso
    have hown := ownReading_mem hc
    have hρ := List.all_eq_true.1 hall _ hown
    simp only [Bool.and_eq_true] at hρ
    obtain ⟨hisR, hsome⟩ := hρ
    have hg : grantOf { w := w } = Const.GrantTypeRefreshToken := by simpa [isRefresh, ownReading] using hisR
    -- the typed refresh was refused with the same error
    have hre : refreshExchange now rt s.p (Hand.tokRefreshTokenRequest w.oracles f) (haOf f) = .error e := by
      have := tokenEndpoint_refresh now rt s.p w hg hc
      rw [hte] at this
      cases hx : refreshExchange now rt s.p (Hand.tokRefreshTokenRequest w.oracles f) (haOf f) with
      | ok i => rw [hx] at this; cases this
      | error e' => rw [hx] at this; simp only [lift, TokResp.err.injEq] at this; rw [this]
    have hop : OpOK now s.p (.refresh rt (Hand.tokRefreshTokenRequest w.oracles f) (haOf f)) := ⟨hha, hdec⟩
    obtain ⟨_, _, h3⟩ := good07_refresh_err h rt (Hand.tokRefreshTokenRequest w.oracles f) (haOf f) hre
    have hnone := h3 hop hcl
    rw [stepObs_eq (s' := s) (out := .error e) (by rw [step_refresh, hre])] at hnone
    simp only [eventOf, observe, bne_self_eq_false] at hnone
    -- the same judgement for the library's own reading
    have hcg := c07judge_congr o.m07 now (ownReading w.oracles (grantOf { w := w }) f).p
      (presentedRefresh (Hand.tokRefreshTokenRequest w.oracles f)) f.RefreshToken f.Scopes none (Flow.oauthCode e) false rfl rfl rfl
    have hj : judge07 o now { minted := none, err := Flow.oauthCode e, created := false } (ownReading w.oracles (grantOf { w := w }) f) = none := by
      unfold judge07
      simp only [resultOf, Option.map_none]
      have e1 : (ownReading w.oracles (grantOf { w := w }) f).rt = f.RefreshToken := rfl
      have e2 : (ownReading w.oracles (grantOf { w := w }) f).requested = f.Scopes := rfl
      rw [e1, e2, hcg]
      have : C07.judge o.m07 now (presentedRefresh (Hand.tokRefreshTokenRequest w.oracles f)) f.RefreshToken f.Scopes none (Flow.oauthCode e) false = none := hnone
      rw [this]
    rw [hj] at hsome
    cases hsome
  · rfl

/-- one step of an extended history under the side conditions: nothing to object at all -/
theorem goodX_step_ok (now : Int) {s : Flow.St} {o : ObsState} (h : Inv07 s o) (op : Flow.OpX) (hok : StepOKX now s op) (hcl : ClientsOK s.p) :
    (stepObsX now (s, o) op).2.2.2 = none := by
  cases op with
  | base op =>
    rw [stepObsX_base]
    exact (good07_step now h op).2.2 hok hcl
  | reregister c => exact (goodX_reregister (now := now) h c hok).2
  | token rt w df =>
    cases hte : tokenEndpoint now rt s.p w with
    | err e => exact goodX_token_err_ok h rt w df hte hok hcl
    | other hd => rw [goodX_token_other rt w df hte]
    | issue i =>
      cases i with
      | code a c k => exact (goodX_token_code h rt w df hte).2
      | refresh r c cur => exact (goodX_token_refresh h rt w df hte).2.1

theorem inv07_runX_ok (now : Int) {s : Flow.St} {o : ObsState} (h : Inv07 s o) (ops : List Flow.OpX)
    (hok : RunOKX now s ops) (hcl : ClientsOK s.p) :
    ∀ x ∈ (runObsX now (s, o) ops).2, x.2.2 = none := by
  induction ops generalizing s o with
  | nil => intro x hx; cases hx
  | cons op rest ih =>
    obtain ⟨hop, hrest⟩ := hok
    have hv := goodX_step_ok now h op hop hcl
    have hinv := (goodX_step now h op (fun c hc => by subst hc; exact hop)).1
    have hst := stepObsX_state now s o op
    have hcl' : ClientsOK (stepObsX now (s, o) op).1.1.p := by rw [hst]; exact clientsOK_stepX now s op hcl
    have hrest' : RunOKX now (stepObsX now (s, o) op).1.1 rest := by rw [hst]; exact hrest
    exact List.forall_mem_cons.2 ⟨hv, ih hinv hrest' hcl'⟩

end FlowObs

namespace C07
open FlowObs Flow

/-- **C07 over extended histories, every clause.**  ... and the monitor has nothing at all to object - including "a request that
    fails only because of its scope is answered invalid_scope", for requests of every shape and under registrations that change -
    when registered client ids are not empty and every operation, in the state it is applied to, meets its side condition: the
    operations of `c07_history` theirs (`OpOK`); a token request on the wire: its Basic header decodes, a client_assertion is
    sent iff the assertion type is the JWT one, no assertion is judged at a rounding-boundary instant (`WireOK`); a
    re-registration: the new registration can authenticate under the provider's configuration. -/
theorem c07_wire_history (now : Int) (s : Flow.St) (o : ObsState) (h0 : Init s o) (ops : List Flow.OpX)
    (hok : RunOKX now s ops) (hcl : ClientsOK s.p) :
    ∀ x ∈ (runObsX now (s, o) ops).2, x.2.2 = none :=
  inv07_runX_ok now h0.inv07 ops hok hcl


/-- the premises of `c07_wire_history` hold for `demoWire` (all side conditions, in the states the operations are applied to) -/
example : Init demoState (obsOf demoState) ∧ ClientsOK demoState.p ∧ RunOKX 0 demoState (demoWire .legacy) := by
  refine ⟨init_obsOf rfl rfl rfl, ?_, ?_⟩
  · intro c hc
    simp only [demoState, List.mem_cons, List.mem_nil_iff, or_false] at hc
    rcases hc with rfl | rfl <;> decide
  · refine ⟨trivial, trivial, trivial, ?_, ?_, ?_, ?_, ?_, ?_, ?_, ?_, trivial⟩
    all_goals first
      | exact ⟨_, rfl, by decide, fun h => absurd h (by decide)⟩
      | exact Or.inr (Or.inr (Or.inl rfl))
      | exact ⟨rfl, fun h => absurd h (by decide)⟩

end C07

namespace FlowObs
open Flow
def wStateNoPost : Flow.St := { demoState with p := { demoState.p with postSupported := false } }
def wOpsRereg : List Flow.OpX :=
  [.base demoAuthorize, .base (.login "ar1" "user1" 1000), .base (.callback "ar1" "c1"), wireExchange .legacy,
   .reregister { demoWeb with auth := "client_secret_post" },
   .token .legacy { body := [("grant_type", "refresh_token"), ("refresh_token", "rt1"), ("scope", "openid admin"),
                             ("client_id", "web"), ("client_secret", "s3cret")] } false]
end FlowObs

namespace C07
open FlowObs Flow

/-- the side condition of a re-registration is needed for the widening clause: a client that holds a refresh token is moved to
    client_secret_post although the provider has that method switched off; its widening refresh is answered invalid_client (it
    cannot authenticate at all), where the monitor - which sees a matching secret - asks for invalid_scope -/
theorem c07_wire_widening_needs_capable_registration :
    ((runObsX 0 (wStateNoPost, obsOf wStateNoPost) wOpsRereg).2.map fun x => (showOutX x.1, x.2.2)) =
      [("login:ar1", none), ("done", none), ("code:c1", none), ("tokens:user1:web:rt1", none), ("done", none),
       ("error:ErrInvalidClient", some "widening-not-answered-with-invalid_scope")] := by decide +kernel

end C07
