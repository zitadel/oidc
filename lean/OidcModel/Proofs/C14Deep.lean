/-
  C14 — sequences through one verifier object: composition of the history theorem of Proofs/C14Reuse.lean
  (`c14_verifier_reuse`: a reused verifier answers like a fresh one) with soundness (`c14_assertion_sound`) and completeness
  (`c14_proper_accepted_any`), both in Proofs/C14.lean: along every sequence of assertions handed to ONE verifier object, every
  single answer satisfies the executable monitor `C14.sequenceStepOK`, which judges it without looking at the history.
-/
import OidcModel.Proofs.C14Endpoints
import OidcModel.Proofs.C14Reuse
namespace C14
open Go Gen Hand

/-- SOUNDNESS ALONG A SEQUENCE: whatever a verifier object (storage-backed key set) was asked before, an assertion it accepts
    at position `i` is signed with a key the storage holds for the client THAT assertion names as issuer, targets the verifier's
    issuer, lies in its time window and passes its subject check -/
theorem c14_reused_verifier_sound {v : JWTProfileVerifier} {ops : List (Int × Token)} {i : Nat} {c : Claims}
    (hks : v.keySet.kind = .nilSet) (hi : i < ops.length) (h : (runVerifier v ops).1[i]? = some (.ok c)) :
    assertionOK v.Issuer v.MaxAgeIAT v.Offset v.CheckSubject.isNone v.Storage ops[i].2 ops[i].1 c = none := by
  rw [c14_reused_answer v ops i hi] at h
  exact c14_assertion_sound hks (by simpa using h)

/-- COMPLETENESS ALONG A SEQUENCE: whatever the object was asked before, an assertion properly made for its settings is accepted
    at position `i` (so a genuine client is never locked out by an earlier caller) -/
theorem c14_reused_verifier_complete {v : JWTProfileVerifier} {ops : List (Int × Token)} {i : Nat} {c : Claims} {alg : String}
    (hks : v.keySet.kind = .nilSet) (hcs : v.CheckSubject = none) (hi : i < ops.length)
    (h : properlyMade v.Issuer v.MaxAgeIAT v.Offset v.Storage ops[i].2 ops[i].1 = some (c, alg)) :
    (runVerifier v ops).1[i]? = some (.ok (c.SetSignatureAlgorithm alg)) := by
  rw [c14_reused_answer v ops i hi, c14_proper_accepted_any hks hcs h]

/-- THE MONITOR ALONG A SEQUENCE (the form the stream evaluates on the real object): for every verifier with the storage-backed
    key set and the default subject check, every sequence of calls and every position, the answer given there - accepted claims
    or a refusal - satisfies `C14.sequenceStepOK`, which has no history argument (`helperMade := false`: provenance is a fact
    about the input that the model does not have; helper-made assertions are the subject of Proofs/C14Helpers.lean) -/
theorem c14_sequence_monitor {v : JWTProfileVerifier} {ops : List (Int × Token)} {i : Nat}
    (hks : v.keySet.kind = .nilSet) (hcs : v.CheckSubject = none) (hi : i < ops.length) :
    ∃ a, (runVerifier v ops).1[i]? = some a ∧
      sequenceStepOK v.Issuer v.MaxAgeIAT v.Offset true v.Storage ops[i].2 false ops[i].1 ops[i].1 a.toOption = none := by
  refine ⟨_, c14_reused_answer v ops i hi, ?_⟩
  cases hr : VerifyJWTAssertion ops[i].1 ops[i].2 v with
  | ok c =>
    have hs := c14_assertion_sound hks hr
    simp only [hcs, Option.isNone_none] at hs
    simp [sequenceStepOK, Except.toOption, hs]
  | error e =>
    simp only [sequenceStepOK, Except.toOption]
    cases hp : properlyMade v.Issuer v.MaxAgeIAT v.Offset v.Storage ops[i].2 ops[i].1 with
    | none => simp
    | some ca =>
      obtain ⟨c, alg⟩ := ca
      rw [c14_proper_accepted_any hks hcs hp] at hr
      cases hr

/-! ### non-vacuity: the sequence "M, then A forged with M's key, then A genuine" through one object -/

namespace SeqDemo
def keyA : JWK := { KeyID := "a1", Use := "sig", kty := .rsa, keyNo := 1 }
def keyM : JWK := { KeyID := "m1", Use := "sig", kty := .rsa, keyNo := 2 }
def registry : List (String × JWK) := [("client-A", keyA), ("client-M", keyM)]
def claimsOf (id : String) : Claims := { iss := id, sub := id, aud := ["https://op.example"], iat := 1000, exp := 1300 }
def tokenOf (id : String) (bytes : Nat) (kid : String) (signer : Nat) : Token :=
  let p : Payload := { bytes := bytes, claims := some (claimsOf id) }
  let hdr : JHeader := { Algorithm := "RS256", KeyID := kid }
  { segs := 3, middle := some p,
    jws := some { Signatures := [{ Header := hdr, signer := some signer, signedBytes := bytes, signedHdr := hdr, signedAlg := "RS256" }], payload := p } }
def genuineM : Token := tokenOf "client-M" 1 "m1" 2
def forgedA : Token := tokenOf "client-A" 2 "m1" 2      -- names A, signed by M under M's key id
def genuineA : Token := tokenOf "client-A" 3 "a1" 1
def v : JWTProfileVerifier := { Issuer := "https://op.example", MaxAgeIAT := 3600 * Go.second, Offset := Go.second, Storage := registry }
def now : Int := 1010 * Go.second
def ops : List (Int × Token) := [(now, genuineM), (now, forgedA), (now, genuineA), (now, genuineM)]
end SeqDemo

/-- through ONE object: M accepted, the forgery refused, A's genuine assertion accepted, M again accepted; object unchanged -/
example : ((runVerifier SeqDemo.v SeqDemo.ops).1.map fun a => a.toOption.map (·.iss)) = [some "client-M", none, some "client-A", some "client-M"] := by decide +kernel
/-- the monitor would flag an acceptance of the forgery (what a verifier with a sticky key set answers) … -/
example : sequenceStepOK "https://op.example" (3600 * Go.second) Go.second true SeqDemo.registry SeqDemo.forgedA false SeqDemo.now SeqDemo.now
    (some (SeqDemo.claimsOf "client-A")) = some "signature:no-trusted-key" := by decide +kernel
/-- … and a refusal of A's genuine assertion -/
example : sequenceStepOK "https://op.example" (3600 * Go.second) Go.second true SeqDemo.registry SeqDemo.genuineA false SeqDemo.now SeqDemo.now
    none = some "proper-assertion-rejected" := by decide +kernel
example : (properlyMade "https://op.example" (3600 * Go.second) Go.second SeqDemo.registry SeqDemo.genuineA SeqDemo.now).isSome = true := by decide +kernel

end C14
