/-
  C14 — WHICH verifier judges an assertion: proofs over the regenerated `Provider.JWTProfileVerifier`, its constructor
  and the consumers of assertions (`GenC14`: ClientJWTAuth, AuthorizePrivateJWTKey, the jwt-bearer grant of both routers, the legacy
  server's resource-client authentication), with `IssuerFromContext(ctx)` read as the issuer the request is ADDRESSED TO.

  The verifier used for an assertion presented at issuer I expects audience I and carries the provider's fixed settings (one hour,
  one second, the storage's key registry, the default subject check).  Composed with `c14_assertion_sound` this gives soundness at
  every endpoint of both routers, for the default and for EVERY configured subject check, in the form of the executable monitor
  `C14.endpointSound` (what the stream checks on the real endpoints); then the accepting direction, and the bridge from the
  hand-written `Provider.JWTProfileVerifier` of Model/OP.lean (used by C04/C05/C07) to the regenerated getter.
-/
import OidcModel.Proofs.C14
import OidcModel.Generated.AssertionEndpoints
namespace C14
open Go Gen Hand

/-- CHARACTERISATION of the regenerated getter `Provider.JWTProfileVerifier` (with the regenerated constructor): the flat verifier
    of a request addressed to `reqIssuer` - that issuer as expected audience, one hour, one second, the storage's key registry,
    no key set of its own, the default subject check -/
theorem providerVerifier_flat (now : Int) (reqIssuer : String) (o : AsrtProvider) :
    (GenC14.ProviderJWTProfileVerifier now reqIssuer o).flat =
      { Issuer := reqIssuer, MaxAgeIAT := providerMaxAgeIAT, Offset := providerOffset, Storage := o.storage.keyRegistry,
        CheckSubject := some (SubjectIsIssuer now) } := by
  simp [GenC14.ProviderJWTProfileVerifier, GenC14.NewJWTProfileVerifier, GenC14.newJWTProfileVerifier, Hand.asrtNoOpts, GoX.foldList,
    AsrtVerifierGo.flat, providerMaxAgeIAT, providerOffset, AsrtProvider.Storage, Go.nil, Go.HasNil.nilv]

/-- the verifier a request addressed to `reqIssuer` is judged with expects exactly that audience - whatever the
    provider served before (the definition has no other input) - with the provider's fixed settings -/
theorem c14_audience_is_request_issuer (now : Int) (reqIssuer : String) (o : AsrtProvider) :
    (GenC14.ProviderJWTProfileVerifier now reqIssuer o).flat.Issuer = reqIssuer ∧
    (GenC14.ProviderJWTProfileVerifier now reqIssuer o).flat.MaxAgeIAT = providerMaxAgeIAT ∧
    (GenC14.ProviderJWTProfileVerifier now reqIssuer o).flat.Offset = providerOffset ∧
    (GenC14.ProviderJWTProfileVerifier now reqIssuer o).flat.Storage = o.storage.keyRegistry ∧
    (GenC14.ProviderJWTProfileVerifier now reqIssuer o).flat.keySet.kind = .nilSet ∧
    (GenC14.ProviderJWTProfileVerifier now reqIssuer o).flat.CheckSubject = some (SubjectIsIssuer now) := by
  rw [providerVerifier_flat]
  exact ⟨rfl, rfl, rfl, rfl, rfl, rfl⟩

/-- two requests addressed to different issuers are judged with different expected audiences: the verifier cannot be shared -/
theorem c14_verifier_per_request (now : Int) (a b : String) (o : AsrtProvider) (h : a ≠ b) :
    (GenC14.ProviderJWTProfileVerifier now a o).flat.Issuer ≠ (GenC14.ProviderJWTProfileVerifier now b o).flat.Issuer := by
  rw [(c14_audience_is_request_issuer now a o).1, (c14_audience_is_request_issuer now b o).1]; exact h

/-- the constructor applies its options in order, after the defaults (here: an option replaces the subject check) -/
example (now : Int) (st : AsrtStorage) (f : Claims → Go.R Unit) :
    (GenC14.NewJWTProfileVerifier now st "https://a.example" 5 7 [fun v => { v with CheckSubject := f }]).CheckSubject = f := rfl

/-- `op.SubjectCheck(f)` - the one option the library offers - replaces the subject check and nothing else: issuer, window,
    key storage and the (nil) key set of the verifier are those of the plain constructor -/
theorem c14_subject_check_option (now : Int) (st : AsrtStorage) (iss : String) (m o : Int) (f : Claims → Go.R Unit) :
    (GenC14.NewJWTProfileVerifier now st iss m o [GenC14.SubjectCheck now f]).flat =
      { (GenC14.NewJWTProfileVerifier now st iss m o []).flat with CheckSubject := some f } := rfl

/-- `op.NewJWTProfileVerifierKeySet(keySet, issuer, maxAge, offset)`: a verifier that checks every assertion against the
    caller's key set - whatever issuer it names - with the given issuer and window and the default subject check -/
theorem c14_keyset_verifier (now : Int) (ks : KeySet) (iss : String) (m o : Int) (hk : ks.kind ≠ .nilSet) :
    (GenC14.NewJWTProfileVerifierKeySet now ks iss m o []).flat.Issuer = iss ∧
    (GenC14.NewJWTProfileVerifierKeySet now ks iss m o []).flat.MaxAgeIAT = m ∧
    (GenC14.NewJWTProfileVerifierKeySet now ks iss m o []).flat.Offset = o ∧
    (GenC14.NewJWTProfileVerifierKeySet now ks iss m o []).flat.CheckSubject = some (SubjectIsIssuer now) ∧
    ∀ id, assertionKeys (GenC14.NewJWTProfileVerifierKeySet now ks iss m o []).flat id = ks := by
  refine ⟨rfl, rfl, rfl, rfl, fun id => ?_⟩
  show (if Go.isNil ks = true then _ else ks) = ks
  simp [Go.isNil, Nilable.isNil, hk]

/-- … so what such a verifier accepts is signed by a key of THAT key set (C02's acceptance statement), and nothing else decides -/
theorem c14_keyset_verifier_sound {now : Int} {ks : KeySet} {iss : String} {m o : Int} {t : Token} {c : Claims} (hk : ks.kind ≠ .nilSet)
    (h : VerifyJWTAssertion now t (GenC14.NewJWTProfileVerifierKeySet now ks iss m o []).flat = .ok c) :
    C02.acceptedOK [] ks t c = none := by
  obtain ⟨p, c0, hp, _, _, _, _, hsig⟩ := verifyJWTAssertion_ok.1 h
  rw [(c14_keyset_verifier now ks iss m o hk).2.2.2.2 c0.iss] at hsig
  exact (C02.parse_and_signature_sound hp hsig).1

/-! ### composition with `c14_assertion_sound` -/

theorem verify_at_getter (now : Int) (reqIssuer : String) (o : AsrtProvider) (t : Token) :
    VerifyJWTAssertion now t (GenC14.ProviderJWTProfileVerifier now reqIssuer o).flat =
      VerifyJWTAssertion now t
        { Issuer := reqIssuer, MaxAgeIAT := providerMaxAgeIAT, Offset := providerOffset, Storage := o.storage.keyRegistry } := by
  rw [providerVerifier_flat, verify_default_subject rfl]

/-- an assertion accepted by the verifier of a request addressed to `reqIssuer` is signed with a key the storage
    holds for the client named as issuer, has `reqIssuer` - the issuer of THIS request - in its audience, lies in the one-hour /
    one-second window and has sub = iss -/
theorem c14_endpoint_assertion_sound {now : Int} {reqIssuer : String} {o : AsrtProvider} {t : Token} {c : Claims}
    (h : VerifyJWTAssertion now t (GenC14.ProviderJWTProfileVerifier now reqIssuer o).flat = .ok c) :
    assertionOK reqIssuer providerMaxAgeIAT providerOffset true o.storage.keyRegistry t now c = none := by
  rw [verify_at_getter] at h
  -- the verifier is named: left to unification, matching the arguments of `assertionOK` is very slow
  exact c14_assertion_sound
    (v := { Issuer := reqIssuer, MaxAgeIAT := providerMaxAgeIAT, Offset := providerOffset, Storage := o.storage.keyRegistry }) rfl h

/-! ### WHICH verifier: interface dispatch, and every subject check

Every consumer obtains the verifier through an interface method (`exchanger.JWTProfileVerifier(ctx)`).  The dynamic type is
`*op.Provider` (its getter is regenerated above) or an OP that embeds it and implements the method itself - e.g. with
`op.SubjectCheck(f)`, the one option the constructor knows.  `verifierAt` is the verifier a request addressed to `reqIssuer` is
judged with in either case; `ProviderSettings … check` says that it carries the provider's settings for the addressed issuer with
the default subject check (`check = none`) or the custom one `f` (`check = some f`, ANY function). -/

/-- the verifier a request addressed to `reqIssuer` is judged with (flat reading of what the interface method hands out) -/
abbrev verifierAt (now : Int) (reqIssuer : String) (p : AsrtProvider) : JWTProfileVerifier :=
  (Hand.asrtJWTProfileVerifier (GenC14.ProviderJWTProfileVerifier now) reqIssuer p).flat

theorem verifierAt_stock {now : Int} {reqIssuer : String} {p : AsrtProvider} (h : p.customVerifier = none) :
    verifierAt now reqIssuer p = (GenC14.ProviderJWTProfileVerifier now reqIssuer p).flat := by
  simp [verifierAt, Hand.asrtJWTProfileVerifier, h]

/-- the verifier carries the provider's settings for the addressed issuer: expected audience = the issuer the request is addressed
    to, one hour, one second, the storage's key registry, no key set of its own; subject check: the default (`check = none`) or the
    configured one (`check = some f`) -/
structure ProviderSettings (now : Int) (v : JWTProfileVerifier) (reqIssuer : String) (reg : List (String × JWK))
    (check : Option (Claims → Go.R Unit)) : Prop where
  issuer : v.Issuer = reqIssuer
  maxAge : v.MaxAgeIAT = providerMaxAgeIAT
  offset : v.Offset = providerOffset
  storage : v.Storage = reg
  keySet : v.keySet.kind = .nilSet
  subject : v.CheckSubject = some (check.getD (SubjectIsIssuer now))

/-- `*op.Provider`'s own getter: the default subject check -/
theorem settings_getter (now : Int) (reqIssuer : String) (p : AsrtProvider) :
    ProviderSettings now (GenC14.ProviderJWTProfileVerifier now reqIssuer p).flat reqIssuer p.storage.keyRegistry none := by
  rw [providerVerifier_flat]
  exact ⟨rfl, rfl, rfl, rfl, rfl, rfl⟩

theorem settings_stock (now : Int) (reqIssuer : String) (p : AsrtProvider) (h : p.customVerifier = none) :
    ProviderSettings now (verifierAt now reqIssuer p) reqIssuer p.storage.keyRegistry none := by
  rw [verifierAt_stock h]; exact settings_getter now reqIssuer p

/-- an OP whose `JWTProfileVerifier(ctx)` is `NewJWTProfileVerifier(storage, IssuerFromContext(ctx), time.Hour, time.Second,
    SubjectCheck(f))` (regenerated constructor and option): the provider's settings with the subject check `f`, for EVERY `f` -/
theorem settings_subject_check (now : Int) (reqIssuer : String) (p : AsrtProvider) (f : Claims → Go.R Unit)
    (h : p.customVerifier = some fun iss => GenC14.NewJWTProfileVerifier now p.storage iss (3600 * Go.second) Go.second [GenC14.SubjectCheck now f]) :
    ProviderSettings now (verifierAt now reqIssuer p) reqIssuer p.storage.keyRegistry (some f) := by
  simp only [verifierAt, Hand.asrtJWTProfileVerifier, h]
  exact ⟨rfl, rfl, rfl, rfl, rfl, rfl⟩

/-- what the configured check admits, as the monitor sees it (`EndpointReq.subjectCheck`) -/
def admitsOf (check : Option (Claims → Go.R Unit)) : Option (Claims → Bool) := check.map fun f c => (f c).toOption.isSome

/-- C14, EVERY subject check: an assertion accepted by a verifier that carries the provider's settings for `reqIssuer` is the
    token's own claims, signed with a key the storage holds for the client named as ISSUER, addressed to `reqIssuer`, inside the
    window; its subject equals its issuer (default check) or is one the configured check admits -/
theorem endpoint_token_sound_any {now : Int} {reqIssuer : String} {reg : List (String × JWK)} {check : Option (Claims → Go.R Unit)}
    {v : JWTProfileVerifier} {t : Token} {c : Claims}
    (hs : ProviderSettings now v reqIssuer reg check) (h : VerifyJWTAssertion now t v = .ok c) :
    ∃ c0, t.middle.bind (·.claims) = some c0 ∧ c0.iss = c.iss ∧ c0.sub = c.sub ∧ c0.aud = c.aud ∧
      assertionOK reqIssuer providerMaxAgeIAT providerOffset check.isNone reg t now c0 = none ∧
      check.getD (SubjectIsIssuer now) c0 = .ok () := by
  obtain ⟨h1, h2, h3, h4, h5, h6⟩ := hs
  obtain ⟨p, c0, hp, _, _, _, hsub, hsig⟩ := verifyJWTAssertion_paths h5 h
  obtain ⟨_, s, _, _, _, _, _, hc⟩ := C01.checkSignature_ok hsig
  have hmid : t.middle.bind (·.claims) = some c0 := by
    obtain ⟨_, hm, hc0⟩ := C01.parseToken_ok hp
    simp [hm, hc0]
  have hsound : assertionOK v.Issuer v.MaxAgeIAT v.Offset check.isNone v.Storage t now c = none := by
    cases check with
    | none => rw [verify_default_subject h6] at h; exact c14_assertion_sound (v := { v with CheckSubject := none }) h5 h
    | some f => exact assertionOK_mono (Bool.false_le _) (c14_assertion_sound h5 h)
  rw [h1, h2, h3, h4] at hsound
  subst hc
  -- the signature algorithm recorded on the returned claims plays no role in `assertionOK`
  have hsound : assertionOK reqIssuer providerMaxAgeIAT providerOffset check.isNone reg t now c0 = none := by
    cases c0; exact hsound
  exact ⟨c0, hmid, rfl, rfl, rfl, hsound, by simpa [applySubjectCheck, h6] using hsub⟩

/-- THE MONITOR, once: an endpoint that honours an assertion which a verifier with the provider's settings accepts, goes on as the
    assertion's ISSUER, takes it for client authentication only of a client registered for private_key_jwt, and grants only scopes
    that were requested and are not refused, never violates `C14.endpointSound` -/
theorem monitor_of_accepted {now : Int} {reqIssuer : String} {reg : List (String × JWK)} {check : Option (Claims → Go.R Unit)}
    {v : JWTProfileVerifier} {t : Token} {c : Claims}
    (hs : ProviderSettings now v reqIssuer reg check) (hc : VerifyJWTAssertion now t v = .ok c)
    {clientAuth bearer : Bool} {method : Option String} {req refused : List String} {scopes : Option (List String)}
    (hauth : clientAuth = true → method = some Const.AuthMethodPrivateKeyJWT)
    (hsc : ∀ g, scopes = some g → ∀ x ∈ g, x ∈ req ∧ x ∉ refused) :
    endpointSound reg
      { reqIssuer := reqIssuer, assertion := t, bearerGrant := bearer, requestedScopes := req, refusedScopes := refused,
        clientAuth := clientAuth, registeredMethod := method, subjectCheck := admitsOf check }
      now { accepted := true, identity := some c.iss, scopes := scopes } = none := by
  obtain ⟨c0, hm, hi, _, _, hso, hadm⟩ := endpoint_token_sound_any hs hc
  have hadm' : (admitsOf check).any (fun admits => !admits c0) = false := by
    cases check with
    | none => rfl
    | some f => simp [admitsOf, show f c0 = .ok () from hadm, Except.toOption]
  have hnone : (admitsOf check).isNone = check.isNone := by cases check <;> rfl
  have hscopes : (bearer && scopes.any (fun g => g.any fun s => !req.contains s || refused.contains s)) = false := by
    cases scopes with
    | none => simp
    | some g =>
      simp only [Option.any_some, Bool.and_eq_false_imp, List.any_eq_false, Bool.or_eq_true, Bool.not_eq_true', not_or]
      intro _ x hx
      have := hsc g rfl x hx
      simp [this.1, this.2]
  have hmeth : (clientAuth && method != some Const.AuthMethodPrivateKeyJWT) = false := by
    cases clientAuth with
    | false => rfl
    | true => simp [hauth rfl]
  simp only [endpointSound, Bool.not_true, Bool.false_eq_true, if_false, hm, hnone, hso, hadm', Option.any_some, hi, bne_self_eq_false,
    hmeth, hscopes]
/-- the monitor on an endpoint that honours exactly what such a verifier accepts and goes on as the assertion's ISSUER -/
theorem endpoint_monitor_any {now : Int} {reqIssuer : String} {reg : List (String × JWK)} {check : Option (Claims → Go.R Unit)}
    {v : JWTProfileVerifier} {t : Token} {c : Claims}
    (hs : ProviderSettings now v reqIssuer reg check) (h : VerifyJWTAssertion now t v = .ok c) :
    endpointSound reg { reqIssuer := reqIssuer, assertion := t, subjectCheck := admitsOf check } now { accepted := true, identity := some c.iss } = none :=
  monitor_of_accepted hs h (clientAuth := false) (fun h => nomatch h) (scopes := none) (fun _ h => nomatch h)

/-- C14, in the form of the executable monitor: whatever issuer the request is addressed to, an endpoint that honours
    exactly the assertions this verifier accepts, and goes on as the assertion's issuer, never violates `C14.endpointSound` -/
theorem c14_endpoint_monitor {now : Int} {reqIssuer : String} {o : AsrtProvider} {t : Token} {c : Claims}
    (h : VerifyJWTAssertion now t (GenC14.ProviderJWTProfileVerifier now reqIssuer o).flat = .ok c) :
    endpointSound o.storage.keyRegistry { reqIssuer := reqIssuer, assertion := t } now { accepted := true, identity := some c.iss } = none := by
  simpa only [admitsOf, Option.map_none] using endpoint_monitor_any (settings_getter now reqIssuer o) h

/-- completeness: an assertion properly made for the issuer the request is ADDRESSED TO - by the key the storage
    hands out for its key id and issuer, admitted algorithm, conditions met with margin - is accepted by the verifier of that
    request, whatever issuers the provider serves besides -/
theorem c14_proper_assertion_accepted {now : Int} {reqIssuer : String} {o : AsrtProvider} {t : Token} {c : Claims} {alg : String}
    (h : properlyMade reqIssuer providerMaxAgeIAT providerOffset o.storage.keyRegistry t now = some (c, alg)) :
    VerifyJWTAssertion now t (GenC14.ProviderJWTProfileVerifier now reqIssuer o).flat = .ok (c.SetSignatureAlgorithm alg) := by
  rw [verify_at_getter]
  exact c14_proper_accepted_any rfl rfl h

/-! ### the consumers: one characterisation lemma per regenerated function (shape-independent, `go_leaf`); the theorems below go
    through these lemmas -/

theorem clientJWTAuth_ok {now : Int} {reqIssuer : String} {ca : AsrtAssertionParams} {p : AsrtProvider} {id : String} :
    GenC14.ClientJWTAuth now reqIssuer ca p = .ok id ↔
      ca.ClientAssertion ≠ "" ∧ ∃ c, VerifyJWTAssertion now (p.tokenOf ca.ClientAssertion) (verifierAt now reqIssuer p) = .ok c ∧ c.iss = id := by
  unfold GenC14.ClientJWTAuth Hand.asrtVerifyJWTAssertion
  go_leaf

/-- `checkPrivateKeyJWTClient`: the client exists and is registered for private_key_jwt -/
theorem checkPrivateKeyJWTClient_ok {now : Int} {id : String} {s : AsrtStorage} :
    GenC14.checkPrivateKeyJWTClient now id s = .ok () ↔ ∃ cl, s.GetClientByClientID id = .ok cl ∧ cl.auth = Const.AuthMethodPrivateKeyJWT := by
  unfold GenC14.checkPrivateKeyJWTClient OPClient.AuthMethod Go.ok
  go_leaf

theorem authorizePrivateJWTKey_ok {now : Int} {reqIssuer : String} {t : Token} {p : AsrtProvider} {cl : OPClient} :
    GenC14.AuthorizePrivateJWTKey now reqIssuer t p = .ok cl ↔
      ∃ c, VerifyJWTAssertion now t (verifierAt now reqIssuer p) = .ok c ∧
        p.storage.GetClientByClientID c.iss = .ok cl ∧ cl.auth = Const.AuthMethodPrivateKeyJWT := by
  unfold GenC14.AuthorizePrivateJWTKey Hand.asrtVerifyToken AsrtProvider.Storage OPClient.AuthMethod
  constructor
  · go_leaf
  · rintro ⟨c, h1, h2, h3⟩
    simp only [h1, h2, h3]
    go_leaf

/-- `ClientIDFromRequest` on a request whose decoded form carries an assertion -/
theorem clientIDFromRequest_assertion {now : Int} {reqIssuer : String} {r : AsrtHttpReq} {p : AsrtProvider} {data : AsrtForm}
    {id : String} {authd : Bool} (hd : p.decoder.decoded r.Form = .ok data) (ha : data.ClientAssertion ≠ "") :
    GenC14.ClientIDFromRequest now reqIssuer r p = .ok (id, authd) ↔
      r.ParseForm = .ok () ∧ authd = true ∧ GenC14.ClientJWTAuth now reqIssuer data.ClientAssertionParams p = .ok id ∧
      GenC14.checkPrivateKeyJWTClient now id p.storage = .ok () := by
  unfold GenC14.ClientIDFromRequest AsrtProvider.Decoder AsrtDecoder.Decode AsrtProvider.is_ClientJWTProfile AsrtProvider.Storage
  simp only [hd, ha, bne_iff_ne, ne_eq, not_false_eq_true, Bool.true_and, if_true]
  go_leaf

/-- `ParseTokenRevocationRequest` on a request whose decoded form names the jwt-bearer assertion type -/
theorem parseTokenRevocationRequest_assertion {now : Int} {reqIssuer : String} {r : AsrtHttpReq} {p : AsrtProvider} {data : AsrtForm}
    {tok hint id : String} (hd : p.decoder.decoded r.Form = .ok data) (ht : data.ClientAssertionType = Const.ClientAssertionTypeJWTAssertion) :
    GenC14.ParseTokenRevocationRequest now reqIssuer r p = .ok (tok, hint, id) ↔
      r.ParseForm = .ok () ∧ p.pkjwtSupported = true ∧ tok = data.Token ∧ hint = data.TokenTypeHint ∧
      ∃ c, VerifyJWTAssertion now (p.tokenOf data.ClientAssertion) (verifierAt now reqIssuer p) = .ok c ∧ c.iss = id ∧
        GenC14.checkPrivateKeyJWTClient now id p.storage = .ok () := by
  unfold GenC14.ParseTokenRevocationRequest AsrtProvider.Decoder AsrtDecoder.Decode AsrtProvider.is_RevokerJWTProfile AsrtProvider.Storage
    AsrtProvider.AuthMethodPrivateKeyJWTSupported Hand.asrtVerifyJWTAssertion
  simp only [hd, ht, beq_self_eq_true, if_true]
  constructor
  · go_leaf
  · rintro ⟨h1, h2, rfl, rfl, c, h3, rfl, h4⟩
    simp only [h1, h2, h3, h4]
    go_leaf

theorem jwtProfile_json {now : Int} {reqIssuer : String} {rq : Go.R AsrtGrantRequest} {p : AsrtProvider} {resp : AsrtTokenResponse} :
    GenC14.JWTProfile now reqIssuer rq p = .json resp ↔
      ∃ g c granted, rq = .ok g ∧
        VerifyJWTAssertion now (p.tokenOf g.Assertion) (verifierAt now reqIssuer p) = .ok c ∧
        p.storage.scopePolicy c.iss g.Scope = .ok granted ∧ resp = { subject := c.sub, audience := c.aud, scopes := granted } := by
  unfold GenC14.JWTProfile Hand.asrtParseGrantRequest Hand.asrtVerifyJWTAssertion Hand.asrtCreateJWTTokenResponse AsrtProvider.Storage
    AsrtStorage.ValidateJWTProfileScopes
  constructor
  · go_leaf
  · rintro ⟨g, c, granted, rfl, h1, h2, rfl⟩
    simp only [h1, h2]

theorem legacyJWTProfile_ok {now : Int} {reqIssuer : String} {s : AsrtLegacyServer} {r : AsrtRequest AsrtGrantRequest} {resp : AsrtTokenResponse} :
    GenC14.LegacyJWTProfile now reqIssuer s r = .ok resp ↔
      ∃ c granted,
        VerifyJWTAssertion now (s.provider.tokenOf r.Data.Assertion) (verifierAt now reqIssuer s.provider) = .ok c ∧
        s.provider.storage.scopePolicy c.iss r.Data.Scope = .ok granted ∧ resp = { subject := c.sub, audience := c.aud, scopes := granted } := by
  unfold GenC14.LegacyJWTProfile Hand.asrtVerifyJWTAssertion Hand.asrtCreateJWTTokenResponse AsrtProvider.Storage
    AsrtStorage.ValidateJWTProfileScopes AsrtProvider.is_JWTAuthorizationGrantExchanger Hand.NewResponse
  constructor
  · go_leaf
  · rintro ⟨c, granted, h1, h2, rfl⟩
    simp only [h1, h2]
    go_leaf

theorem legacyAuthenticateResourceClient_assertion {now : Int} {reqIssuer : String} {s : AsrtLegacyServer} {cc : AsrtClientCredentials} {id : String}
    (ha : cc.ClientAssertion ≠ "") :
    GenC14.LegacyAuthenticateResourceClient now reqIssuer s cc = .ok id ↔
      GenC14.ClientJWTAuth now reqIssuer { ClientAssertion := cc.ClientAssertion } s.provider = .ok id ∧
      GenC14.checkPrivateKeyJWTClient now id s.provider.storage = .ok () := by
  unfold GenC14.LegacyAuthenticateResourceClient AsrtProvider.is_ClientJWTProfile AsrtProvider.Storage
  simp only [ha, bne_iff_ne, ne_eq, not_false_eq_true, if_true]
  go_leaf

/-- the accepting direction at a consumer: on an assertion properly made for the addressed issuer, `ClientJWTAuth` of the stock
    provider answers its issuer -/
theorem c14_proper_assertion_authenticates {now : Int} {reqIssuer : String} {ca : AsrtAssertionParams} {p : AsrtProvider} {c : Claims} {alg : String}
    (hstock : p.customVerifier = none) (ha : ca.ClientAssertion ≠ "")
    (h : properlyMade reqIssuer providerMaxAgeIAT providerOffset p.storage.keyRegistry (p.tokenOf ca.ClientAssertion) now = some (c, alg)) :
    GenC14.ClientJWTAuth now reqIssuer ca p = .ok c.iss :=
  clientJWTAuth_ok.2 ⟨ha, c.SetSignatureAlgorithm alg, by rw [verifierAt_stock hstock]; exact c14_proper_assertion_accepted h, rfl⟩

theorem getClient_id {s : AsrtStorage} {id : String} {c : OPClient} (h : s.GetClientByClientID id = .ok c) : c.id = id := by
  unfold AsrtStorage.GetClientByClientID Store.GetClientByClientID at h
  split at h
  · rename_i c' hf
    simp at h; subst h
    simpa using List.find?_some hf
  · simp at h

/-! #### the authenticated identity is the ISSUER - for EVERY verifier the interface method may hand out (any issuer, window, key
     source, subject check): these four statements have no hypothesis about the verifier -/

/-- `ClientJWTAuth` answers the ISSUER of the assertion the verifier accepted - never its subject -/
theorem c14_client_jwt_auth_identity {now : Int} {reqIssuer : String} {ca : AsrtAssertionParams} {p : AsrtProvider} {id : String}
    (h : GenC14.ClientJWTAuth now reqIssuer ca p = .ok id) :
    ∃ c, VerifyJWTAssertion now (p.tokenOf ca.ClientAssertion) (verifierAt now reqIssuer p) = .ok c ∧ id = c.iss := by
  obtain ⟨_, c, hc, hi⟩ := clientJWTAuth_ok.1 h
  exact ⟨c, hc, hi.symm⟩

/-- C14, private_key_jwt at the token endpoint (code / refresh grants of both routers, `LegacyServer.VerifyClient`):
    whatever verifier - hence whatever SUBJECT CHECK - is configured, the client `AuthorizePrivateJWTKey` authenticates is the
    registration stored under the assertion's ISSUER (`cl.id = c.iss`), registered for private_key_jwt; and when the verifier takes
    its keys from the storage (no key set of its own), the assertion is signed with a key that storage holds for exactly that
    client and meets the verifier's audience / time conditions -/
theorem c14_private_key_client_any_check {now : Int} {reqIssuer : String} {t : Token} {p : AsrtProvider} {cl : OPClient}
    (h : GenC14.AuthorizePrivateJWTKey now reqIssuer t p = .ok cl) :
    ∃ c, VerifyJWTAssertion now t (verifierAt now reqIssuer p) = .ok c ∧ cl.id = c.iss ∧
      p.storage.GetClientByClientID c.iss = .ok cl ∧ cl.auth = Const.AuthMethodPrivateKeyJWT ∧
      ((verifierAt now reqIssuer p).keySet.kind = .nilSet →
        assertionOK (verifierAt now reqIssuer p).Issuer (verifierAt now reqIssuer p).MaxAgeIAT (verifierAt now reqIssuer p).Offset false
          (verifierAt now reqIssuer p).Storage t now c = none) := by
  obtain ⟨c, hc, hcl, hauth⟩ := authorizePrivateJWTKey_ok.1 h
  exact ⟨c, hc, getClient_id hcl, hcl, hauth, fun hks => assertionOK_mono (Bool.false_le _) (c14_assertion_sound hks hc)⟩

/-- C14, Provider router (introspection, device authorization, device grant): the client `ClientIDFromRequest` reports for
    a request with an assertion is the assertion's ISSUER, for every verifier -/
theorem c14_client_id_from_request_identity {now : Int} {reqIssuer : String} {r : AsrtHttpReq} {p : AsrtProvider} {data : AsrtForm}
    {id : String} {authd : Bool} (hd : p.decoder.decoded r.Form = .ok data) (ha : data.ClientAssertion ≠ "")
    (h : GenC14.ClientIDFromRequest now reqIssuer r p = .ok (id, authd)) :
    ∃ c, VerifyJWTAssertion now (p.tokenOf data.ClientAssertion) (verifierAt now reqIssuer p) = .ok c ∧ id = c.iss := by
  obtain ⟨_, _, hj, _⟩ := (clientIDFromRequest_assertion hd ha).1 h
  exact c14_client_jwt_auth_identity hj

/-- … and at revocation -/
theorem c14_revocation_identity {now : Int} {reqIssuer : String} {r : AsrtHttpReq} {p : AsrtProvider} {data : AsrtForm}
    {tok hint id : String} (hd : p.decoder.decoded r.Form = .ok data) (ht : data.ClientAssertionType = Const.ClientAssertionTypeJWTAssertion)
    (h : GenC14.ParseTokenRevocationRequest now reqIssuer r p = .ok (tok, hint, id)) :
    ∃ c, VerifyJWTAssertion now (p.tokenOf data.ClientAssertion) (verifierAt now reqIssuer p) = .ok c ∧ id = c.iss := by
  obtain ⟨_, _, _, _, c, hc, hi, _⟩ := (parseTokenRevocationRequest_assertion hd ht).1 h
  exact ⟨c, hc, hi.symm⟩

/-! #### the monitor at the endpoints: the provider's settings with the default OR any configured subject check -/

/-- client authentication by assertion (introspection, device grant, device authorization; the legacy server's resource
    endpoints): the authenticated identity is the issuer of an assertion that is sound FOR THE ADDRESSED ISSUER -/
theorem c14_client_jwt_auth_sound {now : Int} {reqIssuer : String} {ca : AsrtAssertionParams} {p : AsrtProvider} {id : String}
    {check : Option (Claims → Go.R Unit)} (hs : ProviderSettings now (verifierAt now reqIssuer p) reqIssuer p.storage.keyRegistry check)
    (h : GenC14.ClientJWTAuth now reqIssuer ca p = .ok id) :
    endpointSound p.storage.keyRegistry { reqIssuer := reqIssuer, assertion := p.tokenOf ca.ClientAssertion, subjectCheck := admitsOf check } now
      { accepted := true, identity := some id } = none := by
  obtain ⟨_, c, hc, hi⟩ := clientJWTAuth_ok.1 h
  rw [← hi]; exact endpoint_monitor_any hs hc

/-- an assertion that is sound for the addressed issuer and whose issuer is registered for private_key_jwt: the monitor in full -/
theorem clientAuth_monitor {now : Int} {reqIssuer : String} {reg : List (String × JWK)} {check : Option (Claims → Go.R Unit)}
    {v : JWTProfileVerifier} {t : Token} {c : Claims} {cl : OPClient}
    (hs : ProviderSettings now v reqIssuer reg check) (hc : VerifyJWTAssertion now t v = .ok c)
    (hauth : cl.auth = Const.AuthMethodPrivateKeyJWT) :
    endpointSound reg { reqIssuer := reqIssuer, assertion := t, clientAuth := true, registeredMethod := some cl.auth, subjectCheck := admitsOf check } now
      { accepted := true, identity := some c.iss } = none :=
  monitor_of_accepted hs hc (fun _ => congrArg some hauth) (scopes := none) (fun _ h => nomatch h)

/-- private_key_jwt at the token endpoint (both routers; on the legacy server also revocation and device authorization): the
    authenticated client is the registration stored under the assertion's issuer, it is registered for private_key_jwt, and the
    assertion is sound for the addressed issuer - with the default subject check and with EVERY configured one -/
theorem c14_private_key_jwt_at_issuer {now : Int} {reqIssuer : String} {t : Token} {p : AsrtProvider} {cl : OPClient}
    {check : Option (Claims → Go.R Unit)} (hs : ProviderSettings now (verifierAt now reqIssuer p) reqIssuer p.storage.keyRegistry check)
    (h : GenC14.AuthorizePrivateJWTKey now reqIssuer t p = .ok cl) :
    cl.auth = Const.AuthMethodPrivateKeyJWT ∧ p.storage.GetClientByClientID cl.id = .ok cl ∧
    endpointSound p.storage.keyRegistry
      { reqIssuer := reqIssuer, assertion := t, clientAuth := true, registeredMethod := some cl.auth, subjectCheck := admitsOf check } now
      { accepted := true, identity := some cl.id } = none := by
  obtain ⟨c, hc, hcl, hauth⟩ := authorizePrivateJWTKey_ok.1 h
  have hid := getClient_id hcl
  refine ⟨hauth, by rw [hid]; exact hcl, ?_⟩
  rw [hid]; exact clientAuth_monitor hs hc hauth

/-- C14 (full strength, Provider router: introspection, device authorization, device grant): when the request carries an
    assertion, `ClientIDFromRequest` reports a client only as AUTHENTICATED, only if it is registered for private_key_jwt, as
    exactly the assertion's issuer, on an assertion that is sound for the issuer the request is addressed to -/
theorem c14_client_id_from_request_sound {now : Int} {reqIssuer : String} {r : AsrtHttpReq} {p : AsrtProvider} {data : AsrtForm}
    {id : String} {authd : Bool} {check : Option (Claims → Go.R Unit)}
    (hs : ProviderSettings now (verifierAt now reqIssuer p) reqIssuer p.storage.keyRegistry check)
    (hd : p.decoder.decoded r.Form = .ok data) (ha : data.ClientAssertion ≠ "")
    (h : GenC14.ClientIDFromRequest now reqIssuer r p = .ok (id, authd)) :
    authd = true ∧ ∃ cl, p.storage.GetClientByClientID id = .ok cl ∧ cl.auth = Const.AuthMethodPrivateKeyJWT ∧
      endpointSound p.storage.keyRegistry
        { reqIssuer := reqIssuer, assertion := p.tokenOf data.ClientAssertion, clientAuth := true, registeredMethod := some cl.auth,
          subjectCheck := admitsOf check }
        now { accepted := true, identity := some id } = none := by
  obtain ⟨_, hau, hj, hck⟩ := (clientIDFromRequest_assertion hd ha).1 h
  obtain ⟨cl, hcl, hauth⟩ := checkPrivateKeyJWTClient_ok.1 hck
  obtain ⟨_, c, hc, hi⟩ := clientJWTAuth_ok.1 hj
  refine ⟨hau, cl, hcl, hauth, ?_⟩
  rw [← hi]; exact clientAuth_monitor hs hc hauth

/-- C14 (full strength, Provider router: revocation): the assertion branch of `ParseTokenRevocationRequest` -/
theorem c14_revocation_request_sound {now : Int} {reqIssuer : String} {r : AsrtHttpReq} {p : AsrtProvider} {data : AsrtForm}
    {tok hint id : String} {check : Option (Claims → Go.R Unit)}
    (hs : ProviderSettings now (verifierAt now reqIssuer p) reqIssuer p.storage.keyRegistry check)
    (hd : p.decoder.decoded r.Form = .ok data) (ht : data.ClientAssertionType = Const.ClientAssertionTypeJWTAssertion)
    (h : GenC14.ParseTokenRevocationRequest now reqIssuer r p = .ok (tok, hint, id)) :
    p.pkjwtSupported = true ∧ ∃ cl, p.storage.GetClientByClientID id = .ok cl ∧ cl.auth = Const.AuthMethodPrivateKeyJWT ∧
      endpointSound p.storage.keyRegistry
        { reqIssuer := reqIssuer, assertion := p.tokenOf data.ClientAssertion, clientAuth := true, registeredMethod := some cl.auth,
          subjectCheck := admitsOf check }
        now { accepted := true, identity := some id } = none := by
  obtain ⟨_, hp, _, _, c, hc, hi, hck⟩ := (parseTokenRevocationRequest_assertion hd ht).1 h
  obtain ⟨cl, hcl, hauth⟩ := checkPrivateKeyJWTClient_ok.1 hck
  refine ⟨hp, cl, hcl, hauth, ?_⟩
  rw [← hi]; exact clientAuth_monitor hs hc hauth

/-- the storage's scope policy refuses `refused` and invents nothing -/
def PolicyRefuses (s : AsrtStorage) (refused : List String) : Prop :=
  ∀ id req granted, s.scopePolicy id req = .ok granted → ∀ x ∈ granted, x ∈ req ∧ x ∉ refused

/-- the jwt-bearer grant under ANY subject check: the identity the grant acts for - the id the storage's scope policy is
    asked about - is the assertion's ISSUER; the token is for the subject the configured check admitted -/
theorem bearer_monitor_any {now : Int} {reqIssuer : String} {reg : List (String × JWK)} {check : Option (Claims → Go.R Unit)}
    {v : JWTProfileVerifier} {s : AsrtStorage} {t : Token} {c : Claims} {req refused granted : List String}
    (hs : ProviderSettings now v reqIssuer reg check) (hc : VerifyJWTAssertion now t v = .ok c)
    (hpol : PolicyRefuses s refused) (hg : s.scopePolicy c.iss req = .ok granted) :
    endpointSound reg
      { reqIssuer := reqIssuer, assertion := t, bearerGrant := true, requestedScopes := req, refusedScopes := refused, subjectCheck := admitsOf check }
      now { accepted := true, identity := some c.iss, scopes := some granted } = none :=
  monitor_of_accepted hs hc (clientAuth := false) (fun h => nomatch h) (fun _ h => Option.some.inj h ▸ hpol _ _ _ hg)

/-- default subject check: the subject the token is for IS the issuer -/
theorem bearer_monitor {now : Int} {reqIssuer : String} {reg : List (String × JWK)} {v : JWTProfileVerifier} {s : AsrtStorage} {t : Token} {c : Claims}
    {req refused granted : List String}
    (hs : ProviderSettings now v reqIssuer reg none) (hc : VerifyJWTAssertion now t v = .ok c)
    (hpol : PolicyRefuses s refused) (hg : s.scopePolicy c.iss req = .ok granted) :
    endpointSound reg { reqIssuer := reqIssuer, assertion := t, bearerGrant := true, requestedScopes := req, refusedScopes := refused }
      now { accepted := true, identity := some c.sub, scopes := some granted } = none := by
  obtain ⟨c0, _, hi, hsu, _, _, hadm⟩ := endpoint_token_sound_any hs hc
  rw [← hsu, ← (subjectIsIssuer_ok (now := now)).1 hadm, hi]
  simpa [admitsOf] using bearer_monitor_any hs hc hpol hg

/-- the jwt-bearer grant of the Provider router: a token is granted only on an assertion that is sound for the addressed issuer,
    to its subject (= its issuer), with the scopes the storage's policy admits for THAT issuer -/
theorem c14_bearer_grant_sound {now : Int} {reqIssuer : String} {rq : Go.R AsrtGrantRequest} {p : AsrtProvider} {resp : AsrtTokenResponse}
    {refused : List String} (hstock : p.customVerifier = none) (hpol : PolicyRefuses p.storage refused)
    (h : GenC14.JWTProfile now reqIssuer rq p = .json resp) :
    ∃ g, rq = .ok g ∧
      endpointSound p.storage.keyRegistry
        { reqIssuer := reqIssuer, assertion := p.tokenOf g.Assertion, bearerGrant := true, requestedScopes := g.Scope, refusedScopes := refused }
        now { accepted := true, identity := some resp.subject, scopes := some resp.scopes } = none := by
  obtain ⟨g, c, granted, hrq, hc, hgr, hresp⟩ := jwtProfile_json.1 h
  subst hresp
  exact ⟨g, hrq, bearer_monitor (settings_stock now reqIssuer p hstock) hc hpol hgr⟩

/-- … and under EVERY configured subject check: the scopes are the ISSUER's, the token is for the admitted subject -/
theorem c14_bearer_grant_any_check {now : Int} {reqIssuer : String} {rq : Go.R AsrtGrantRequest} {p : AsrtProvider} {resp : AsrtTokenResponse}
    {refused : List String} {check : Option (Claims → Go.R Unit)}
    (hs : ProviderSettings now (verifierAt now reqIssuer p) reqIssuer p.storage.keyRegistry check) (hpol : PolicyRefuses p.storage refused)
    (h : GenC14.JWTProfile now reqIssuer rq p = .json resp) :
    ∃ g c, rq = .ok g ∧ VerifyJWTAssertion now (p.tokenOf g.Assertion) (verifierAt now reqIssuer p) = .ok c ∧ resp.subject = c.sub ∧
      endpointSound p.storage.keyRegistry
        { reqIssuer := reqIssuer, assertion := p.tokenOf g.Assertion, bearerGrant := true, requestedScopes := g.Scope, refusedScopes := refused,
          subjectCheck := admitsOf check }
        now { accepted := true, identity := some c.iss, scopes := some resp.scopes } = none := by
  obtain ⟨g, c, granted, hrq, hc, hgr, hresp⟩ := jwtProfile_json.1 h
  subst hresp
  exact ⟨g, c, hrq, hc, rfl, bearer_monitor_any hs hc hpol hgr⟩

/-- the same for the legacy server -/
theorem c14_legacy_bearer_grant_sound {now : Int} {reqIssuer : String} {s : AsrtLegacyServer} {r : AsrtRequest AsrtGrantRequest}
    {resp : AsrtTokenResponse} {refused : List String} (hstock : s.provider.customVerifier = none) (hpol : PolicyRefuses s.provider.storage refused)
    (h : GenC14.LegacyJWTProfile now reqIssuer s r = .ok resp) :
    endpointSound s.provider.storage.keyRegistry
      { reqIssuer := reqIssuer, assertion := s.provider.tokenOf r.Data.Assertion, bearerGrant := true, requestedScopes := r.Data.Scope, refusedScopes := refused }
      now { accepted := true, identity := some resp.subject, scopes := some resp.scopes } = none := by
  obtain ⟨c, granted, hc, hgr, hresp⟩ := legacyJWTProfile_ok.1 h
  subst hresp
  exact bearer_monitor (settings_stock now reqIssuer s.provider hstock) hc hpol hgr

theorem c14_legacy_bearer_grant_any_check {now : Int} {reqIssuer : String} {s : AsrtLegacyServer} {r : AsrtRequest AsrtGrantRequest}
    {resp : AsrtTokenResponse} {refused : List String} {check : Option (Claims → Go.R Unit)}
    (hs : ProviderSettings now (verifierAt now reqIssuer s.provider) reqIssuer s.provider.storage.keyRegistry check)
    (hpol : PolicyRefuses s.provider.storage refused) (h : GenC14.LegacyJWTProfile now reqIssuer s r = .ok resp) :
    ∃ c, VerifyJWTAssertion now (s.provider.tokenOf r.Data.Assertion) (verifierAt now reqIssuer s.provider) = .ok c ∧ resp.subject = c.sub ∧
      endpointSound s.provider.storage.keyRegistry
        { reqIssuer := reqIssuer, assertion := s.provider.tokenOf r.Data.Assertion, bearerGrant := true, requestedScopes := r.Data.Scope,
          refusedScopes := refused, subjectCheck := admitsOf check }
        now { accepted := true, identity := some c.iss, scopes := some resp.scopes } = none := by
  obtain ⟨c, granted, hc, hgr, hresp⟩ := legacyJWTProfile_ok.1 h
  subst hresp
  exact ⟨c, hc, rfl, bearer_monitor_any hs hc hpol hgr⟩

/-- C14 (full strength, legacy server: introspection): with an assertion, the caller is authenticated through `ClientJWTAuth`
    and must be registered for private_key_jwt -/
theorem c14_legacy_resource_client_sound {now : Int} {reqIssuer : String} {s : AsrtLegacyServer} {cc : AsrtClientCredentials} {id : String}
    {check : Option (Claims → Go.R Unit)}
    (hs : ProviderSettings now (verifierAt now reqIssuer s.provider) reqIssuer s.provider.storage.keyRegistry check)
    (ha : cc.ClientAssertion ≠ "") (h : GenC14.LegacyAuthenticateResourceClient now reqIssuer s cc = .ok id) :
    ∃ cl, s.provider.storage.GetClientByClientID id = .ok cl ∧ cl.auth = Const.AuthMethodPrivateKeyJWT ∧
      endpointSound s.provider.storage.keyRegistry
        { reqIssuer := reqIssuer, assertion := s.provider.tokenOf cc.ClientAssertion, clientAuth := true, registeredMethod := some cl.auth,
          subjectCheck := admitsOf check }
        now { accepted := true, identity := some id } = none := by
  obtain ⟨hj, hck⟩ := (legacyAuthenticateResourceClient_assertion ha).1 h
  obtain ⟨cl, hcl, hauth⟩ := checkPrivateKeyJWTClient_ok.1 hck
  obtain ⟨_, c, hc, hi⟩ := clientJWTAuth_ok.1 hj
  refine ⟨cl, hcl, hauth, ?_⟩
  rw [← hi]; exact clientAuth_monitor hs hc hauth

/-- C14 in one statement for an OP whose verifier is built with
    `op.SubjectCheck(f)` - for EVERY `f`, also one that admits every subject - authenticates at the token endpoint exactly the client
    named as ISSUER, whose stored key verified the assertion; the executable monitor (with the configured check) holds -/
theorem c14_private_key_client_subject_check {now : Int} {reqIssuer : String} {t : Token} {p : AsrtProvider} {cl : OPClient} (f : Claims → Go.R Unit)
    (hcfg : p.customVerifier = some fun iss => GenC14.NewJWTProfileVerifier now p.storage iss (3600 * Go.second) Go.second [GenC14.SubjectCheck now f])
    (h : GenC14.AuthorizePrivateJWTKey now reqIssuer t p = .ok cl) :
    (∃ c0, t.middle.bind (·.claims) = some c0 ∧ cl.id = c0.iss ∧ f c0 = .ok ()) ∧
    endpointSound p.storage.keyRegistry
      { reqIssuer := reqIssuer, assertion := t, clientAuth := true, registeredMethod := some cl.auth, subjectCheck := admitsOf (some f) } now
      { accepted := true, identity := some cl.id } = none := by
  have hs := settings_subject_check now reqIssuer p f hcfg
  refine ⟨?_, (c14_private_key_jwt_at_issuer hs h).2.2⟩
  obtain ⟨c, hc, hcl, _⟩ := authorizePrivateJWTKey_ok.1 h
  obtain ⟨c0, hm, hi, _, _, _, hadm⟩ := endpoint_token_sound_any hs hc
  exact ⟨c0, hm, by rw [getClient_id hcl, hi], hadm⟩

/-! ### the hand-written getter of Model/OP.lean -/

/-- the provider of Model/OP.lean (token-endpoint model of C04 / C05 / C07) as the assertion consumers see it -/
def asrtOf (p : Provider) : AsrtProvider := { storage := { base := p.store }, pkjwtSupported := p.pkjwtSupported }

/-- the hand-written `Provider.JWTProfileVerifier` (one issuer per provider value, settings as fields) denotes the regenerated
    getter at the issuer the provider value stands for, when its settings are the provider's fixed ones -/
theorem c14_hand_model_bridge (now : Int) (t : Token) (p : Provider)
    (h1 : p.jwtMaxAgeIAT = providerMaxAgeIAT) (h2 : p.jwtOffset = providerOffset) :
    VerifyJWTAssertion now t p.JWTProfileVerifier =
      VerifyJWTAssertion now t (GenC14.ProviderJWTProfileVerifier now p.issuer (asrtOf p)).flat := by
  rw [verify_at_getter, Provider.JWTProfileVerifier, h1, h2]
  rfl

/-- … hence `AuthorizePrivateJWTKey` of the token-endpoint model accepts exactly what the regenerated one accepts at that issuer,
    with the same client (from the two characterisation lemmas) -/
theorem c14_hand_private_key_bridge (now : Int) (t : Token) (p : Provider) (cl : OPClient)
    (h1 : p.jwtMaxAgeIAT = providerMaxAgeIAT) (h2 : p.jwtOffset = providerOffset) :
    AuthorizePrivateJWTKey now t p = .ok cl ↔ GenC14.AuthorizePrivateJWTKey now p.issuer t (asrtOf p) = .ok cl := by
  rw [genAuthorizePrivateJWTKey_ok, authorizePrivateJWTKey_ok, c14_hand_model_bridge now t p h1 h2]
  rfl

/-! ### non-vacuity: a provider serving two issuers, one assertion addressed to `a.example` -/

namespace Demo
def key : JWK := { KeyID := "k1", Use := "sig", kty := .rsa, keyNo := 1 }
def claims : Claims := { iss := "client-A", sub := "client-A", aud := ["https://a.example"], iat := 1000, exp := 1300 }
def payload : Payload := { bytes := 7, claims := some claims }
def sig : JSig :=
  { Header := { Algorithm := "RS256", KeyID := "k1" }, signer := some 1, signedBytes := 7, signedHdr := { Algorithm := "RS256", KeyID := "k1" },
    signedAlg := "RS256" }
def token : Token := { segs := 3, middle := some payload, jws := some { Signatures := [sig], payload := payload } }
def prov : AsrtProvider :=
  { storage := { base := { clients := [{ id := "client-A", auth := Const.AuthMethodPrivateKeyJWT, keys := [key] }] } }, tokenOf := fun _ => token }
def now : Int := 1010 * Go.second
end Demo

/-- the demo assertion is properly made for `a.example` (hypothesis of the completeness theorem), not for `b.example` -/
example : properlyMade "https://a.example" providerMaxAgeIAT providerOffset Demo.prov.storage.keyRegistry Demo.token Demo.now = some (Demo.claims, "RS256") := by decide +kernel
example : properlyMade "https://b.example" providerMaxAgeIAT providerOffset Demo.prov.storage.keyRegistry Demo.token Demo.now = none := by decide +kernel

/-- accepted where it is addressed to … -/
example : (GenC14.ClientJWTAuth Demo.now "https://a.example" { ClientAssertion := "x" } Demo.prov).toOption = some "client-A" := by decide +kernel
/-- … refused at the other issuer of the same provider (the monitor would flag an acceptance there) -/
example : (GenC14.ClientJWTAuth Demo.now "https://b.example" { ClientAssertion := "x" } Demo.prov).toOption = none := by decide +kernel
example : endpointSound Demo.prov.storage.keyRegistry { reqIssuer := "https://b.example", assertion := Demo.token } Demo.now
    { accepted := true, identity := some "client-A" } = some "audience" := by decide +kernel
example : (GenC14.AuthorizePrivateJWTKey Demo.now "https://a.example" Demo.token Demo.prov).toOption.map (·.id) = some "client-A" := by decide +kernel
example : GenC14.JWTProfile Demo.now "https://a.example" (.ok { Assertion := "x", Scope := ["openid"] }) Demo.prov
    = .json { subject := "client-A", audience := ["https://a.example"], scopes := ["openid"] } := by decide +kernel

/-! ### non-vacuity: a verifier whose subject check admits EVERY subject; registered client `evil` signs
    {iss: evil, sub: victim} with its own key -/

namespace Demo
def evilKey : JWK := { KeyID := "e1", Use := "sig", kty := .rsa, keyNo := 2 }
def evilClaims : Claims := { iss := "evil", sub := "victim", aud := ["https://a.example"], iat := 1000, exp := 1300 }
def evilPayload : Payload := { bytes := 9, claims := some evilClaims }
def evilSig : JSig :=
  { Header := { Algorithm := "RS256", KeyID := "e1" }, signer := some 2, signedBytes := 9, signedHdr := { Algorithm := "RS256", KeyID := "e1" },
    signedAlg := "RS256" }
def evilToken : Token := { segs := 3, middle := some evilPayload, jws := some { Signatures := [evilSig], payload := evilPayload } }
def evilStorage : AsrtStorage :=
  { base := { clients := [{ id := "victim", auth := Const.AuthMethodPrivateKeyJWT, keys := [key] },
                           { id := "evil", auth := Const.AuthMethodPrivateKeyJWT, keys := [evilKey] }] } }
/-- an OP whose verifier is built with `op.SubjectCheck(func(*oidc.JWTTokenRequest) error { return nil })` -/
def lax : AsrtProvider :=
  { storage := evilStorage, tokenOf := fun _ => evilToken,
    customVerifier := some fun iss => GenC14.NewJWTProfileVerifier 0 evilStorage iss (3600 * Go.second) Go.second [GenC14.SubjectCheck 0 fun _ => .ok ()] }
/-- the stock provider with the same storage -/
def strict : AsrtProvider := { storage := evilStorage, tokenOf := fun _ => evilToken }
end Demo

/-- the lax verifier accepts the assertion; every consumer goes on as `evil` - the ISSUER, whose stored key verified it - not as `victim` -/
example : (GenC14.AuthorizePrivateJWTKey Demo.now "https://a.example" Demo.evilToken Demo.lax).toOption.map (·.id) = some "evil" := by decide +kernel
example : (GenC14.ClientJWTAuth Demo.now "https://a.example" { ClientAssertion := "x" } Demo.lax).toOption = some "evil" := by decide +kernel
example : (GenC14.ClientIDFromRequest Demo.now "https://a.example" { Form := { ClientAssertion := "x" } } Demo.lax).toOption = some ("evil", true) := by decide +kernel
/-- the jwt-bearer grant on the same verifier: a token for the admitted subject -/
example : GenC14.JWTProfile Demo.now "https://a.example" (.ok { Assertion := "x", Scope := ["openid"] }) Demo.lax
    = .json { subject := "victim", audience := ["https://a.example"], scopes := ["openid"] } := by decide +kernel
/-- the stock provider (default check) refuses it -/
example : (GenC14.ClientJWTAuth Demo.now "https://a.example" { ClientAssertion := "x" } Demo.strict).toOption = none := by decide +kernel
/-- the monitor: going on as the issuer is fine under the lax check, going on as the SUBJECT is the violation (what seeded C14-N does);
    under the default check the acceptance itself is one -/
example : endpointSound Demo.evilStorage.keyRegistry { reqIssuer := "https://a.example", assertion := Demo.evilToken, subjectCheck := some fun _ => true }
    Demo.now { accepted := true, identity := some "evil" } = none := by decide +kernel
example : endpointSound Demo.evilStorage.keyRegistry { reqIssuer := "https://a.example", assertion := Demo.evilToken, subjectCheck := some fun _ => true }
    Demo.now { accepted := true, identity := some "victim" } = some "identity-is-not-the-issuer" := by decide +kernel
example : endpointSound Demo.evilStorage.keyRegistry { reqIssuer := "https://a.example", assertion := Demo.evilToken }
    Demo.now { accepted := true, identity := some "evil" } = some "sub-is-iss" := by decide +kernel
example : endpointSound Demo.evilStorage.keyRegistry
    { reqIssuer := "https://a.example", assertion := Demo.evilToken, subjectCheck := some fun c => c.sub == c.iss }
    Demo.now { accepted := true, identity := some "evil" } = some "subject-refused-by-the-configured-check" := by decide +kernel

end C14
