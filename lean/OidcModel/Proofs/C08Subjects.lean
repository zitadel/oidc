/-
  C08: the content of an opaque access token is `<token id>:<subject>` (pkg/op/token.go CreateBearerToken) and THREE copies of
  the code that takes it apart exist: `getTokenIDAndSubject` (userinfo.go: userinfo and introspection of both routers),
  `getTokenIDAndSubjectForRevocation` (token_revocation.go: revocation of both routers) and `getTokenIDAndClaims` (token_exchange.go:
  subject and actor tokens).  "Revocation takes effect everywhere" needs the three to read every string alike.

  * `c08_parsers_agree` — the three REGENERATED readers return the same (token id, subject, ok) for EVERY presented string, under every
    oracle (whatever `Decrypt` / go-jose make of it) and every verifier.  Changing one of them (a `strings.Cut`, a split at the last
    colon, a relaxed part count) breaks this theorem.
  * `c08_parsers_opaque`, `opaqueParts_isSome_iff` — on a string that decrypts, all three accept iff the plaintext holds EXACTLY ONE ':';
    so the opaque token of a subject that contains a ':' (URN, DID, `idp:id`) is read by none of them (`c08_colon_subject_unreadable`)
    and honoured nowhere in any history (`c08_unreadable_history`).
  * `c08_jwt_other_issuer_*` — over EVERY storage (flat or partitioning): a JWT whose payload names another issuer than the one the
    request is addressed to is refused by all three readers.  They rest on the REGENERATED `Provider.AccessTokenVerifier`
    (`provider_verifier`): memoising the verifier takes them down.
  This is the module the C08 check builds (it imports C08Deep and, through it, C08).
-/
import OidcModel.Proofs.C08Deep

namespace Res
open Go Hand

theorem resSplitChars_ne_nil (c : Char) (l : List Char) : Hand.resSplitChars c l ≠ [] := by
  cases l with
  | nil => simp [Hand.resSplitChars]
  | cons x xs =>
    unfold Hand.resSplitChars
    split
    · simp
    · split <;> simp

/-- `strings.Split(s, sep)` yields one part more than there are separators -/
theorem resSplitChars_length (c : Char) (l : List Char) : (Hand.resSplitChars c l).length = l.count c + 1 := by
  induction l with
  | nil => simp [Hand.resSplitChars]
  | cons x xs ih =>
    unfold Hand.resSplitChars
    split
    · rename_i h; exact absurd h (resSplitChars_ne_nil c xs)
    · rename_i hd tl h
      rw [h] at ih
      by_cases hx : x = c
      · subst hx; simp at ih ⊢; omega
      · have hb : (x == c) = false := by simpa using hx
        simp [hb, List.count_cons] at ih ⊢
        omega

theorem resSplit_length (plain : String) : (Hand.resSplit plain ":").length = plain.toList.count ':' + 1 := by
  have h : (":" : String).toList = [':'] := rfl
  unfold Hand.resSplit
  rw [h]
  simp [resSplitChars_length]

/-- what ALL readers make of the plaintext of an opaque access token: the two sides of its only ':' -/
def opaqueParts (plain : String) : Option (String × String) :=
  match Hand.resSplit plain ":" with
  | [a, b] => some (a, b)
  | _ => none

/-- a plaintext is accepted iff it holds exactly one separator -/
theorem opaqueParts_isSome_iff (plain : String) : (opaqueParts plain).isSome = true ↔ plain.toList.count ':' = 1 := by
  have hl := resSplit_length plain
  have h2 : (opaqueParts plain).isSome = true ↔ Go.len (Hand.resSplit plain ":") = (2 : Int) := by
    rw [len_eq_two]; unfold opaqueParts; split <;> simp_all
  rw [h2]; simp only [Go.len, HasLen.len, hl]; omega

theorem opaqueParts_eq_none {plain : String} (h : plain.toList.count ':' ≠ 1) : opaqueParts plain = none :=
  Option.not_isSome_iff_eq_none.mp fun hs => h ((opaqueParts_isSome_iff plain).mp hs)

theorem resolve_opaque {now : Int} {p : ResProvider} {tok plain : String} (hd : p.decrypt tok = .ok plain) :
    resolve now p tok = opaqueParts plain := by
  unfold resolve opaqueParts
  rw [hd]
  rfl

/-- the three REGENERATED readers of a presented access-token string - userinfo / introspection, revocation, token exchange - return
    the same token id, the same subject and the same verdict for EVERY string, every oracle and every verifier -/
theorem c08_parsers_agree (now : Int) (p : ResProvider) (tok : String) :
    GenRes.getTokenIDAndSubjectForRevocation now p tok = .ok (GenRes.getTokenIDAndSubject now p tok) ∧
    ((GenRes.getTokenIDAndClaims now p tok).1, (GenRes.getTokenIDAndClaims now p tok).2.1, (GenRes.getTokenIDAndClaims now p tok).2.2.2)
      = GenRes.getTokenIDAndSubject now p tok := by
  rw [getTokenIDAndSubjectForRevocation_eq, getTokenIDAndSubject_eq, getTokenIDAndClaims_eq]
  exact ⟨rfl, rfl⟩

/-- on a string that decrypts, all three accept exactly the plaintexts with ONE ':' and extract its two sides -/
theorem c08_parsers_opaque (now : Int) (p : ResProvider) (tok plain : String) (hd : p.decrypt tok = .ok plain) :
    GenRes.getTokenIDAndSubject now p tok = resolved (opaqueParts plain) ∧
    GenRes.getTokenIDAndSubjectForRevocation now p tok = .ok (resolved (opaqueParts plain)) ∧
    ((GenRes.getTokenIDAndClaims now p tok).1, (GenRes.getTokenIDAndClaims now p tok).2.1, (GenRes.getTokenIDAndClaims now p tok).2.2.2)
      = resolved (opaqueParts plain) := by
  rw [getTokenIDAndSubjectForRevocation_eq, getTokenIDAndSubject_eq, getTokenIDAndClaims_eq, resolve_opaque hd]
  exact ⟨rfl, rfl, rfl⟩

/-- the opaque token `CreateBearerToken` makes for a subject (or token id) that contains the separator is read by NONE of the readers -/
theorem c08_colon_subject_unreadable (id sub : String) (h : ':' ∈ sub.toList ∨ ':' ∈ id.toList) : opaqueParts (id ++ ":" ++ sub) = none := by
  apply opaqueParts_eq_none
  have h1 : (":" : String).toList = [':'] := rfl
  simp only [String.toList_append, h1, List.count_append, List.count_cons_self, List.count_nil]
  rcases h with h | h
  · have := List.count_pos_iff.mpr h; omega
  · have := List.count_pos_iff.mpr h; omega

theorem resolve_state (atp : ResATProvider) (e : Env) (s s' : St) (tok : String) :
    resolve e.now (provider atp e s) tok = resolve e.now (provider atp e s') tok := rfl

/-- a string no reader accepts is honoured at no endpoint of either router -/
theorem c08_unreadable_refused_everywhere (atp : ResATProvider) (s : St) (op : Op) (e : Env) (tok : String)
    (hp : presentedAt op = some (e, tok)) (hr : resolve e.now (provider atp e s) tok = none) : (step atp s op).2 = none := by
  cases h : (step atp s op).2 with
  | none => rfl
  | some x =>
    obtain ⟨id, sub, hr', _⟩ := honoured_is_resolved atp s op x e tok hp h
    rw [hr] at hr'; cases hr'

/-! ### JWT access tokens are bound to their issuer by the LIBRARY, over every storage

  A multi-issuer provider (`op.IssuerFromHost`, `IssuerFromForwardedOrHost`) may sit on a storage that keeps ONE token table for all its
  issuers.  Opaque and refresh tokens carry no issuer: for them the storage is the only check.  A JWT access token names its issuer, and
  the regenerated `Provider.AccessTokenVerifier` builds the verifier of every request from the issuer of THAT request: -/

/-- the three REGENERATED readers refuse a JWT whose payload names another issuer than the one the request is addressed to - the storage
    is not even asked: the statement holds for every `s` (flat, partitioning, anything), every key set and every verifier option -/
theorem c08_jwt_other_issuer_unreadable (atp : ResATProvider) (e : Env) (s : St) (tok : String)
    (hd : ∀ pl, e.decrypt tok ≠ .ok pl)
    (hiss : ∀ pl c0, ParseToken e.now (e.tokenOf tok) = .ok (pl, c0) → c0.iss ≠ e.issuer) :
    resolve e.now (provider atp e s) tok = none ∧
    GenRes.getTokenIDAndSubject e.now (provider atp e s) tok = ("", "", false) ∧
    GenRes.getTokenIDAndSubjectForRevocation e.now (provider atp e s) tok = .ok ("", "", false) ∧
    (GenRes.getTokenIDAndClaims e.now (provider atp e s) tok).2.2.2 = false := by
  have hr : resolve e.now (provider atp e s) tok = none := by
    cases hr : resolve e.now (provider atp e s) tok with
    | none => rfl
    | some pr =>
      obtain ⟨id, sub⟩ := pr
      obtain ⟨pl, c0, c, hp, hi, _⟩ := jwt_resolve (p := provider atp e s) hd hr
      rw [provider_verifier] at hi
      exact absurd hi (hiss pl c0 hp)
  refine ⟨hr, ?_, ?_, ?_⟩
  · rw [getTokenIDAndSubject_eq, hr]; rfl
  · rw [getTokenIDAndSubjectForRevocation_eq, hr]; rfl
  · have := getTokenIDAndClaims_eq e.now (provider atp e s) tok
    rw [hr] at this
    simp only [resolved, Prod.mk.injEq] at this
    exact this.2.2

/-- C08 over EVERY storage: a JWT access token presented at an issuer other than the one its payload names is honoured at no endpoint
    (userinfo, introspection, token exchange) of either router, whatever the storage state - in particular when the storage is flat and
    finds the token's record under every issuer -/
theorem c08_jwt_other_issuer_refused (atp : ResATProvider) (s : St) (op : Op) (e : Env) (tok : String)
    (hp : presentedAt op = some (e, tok)) (hd : ∀ pl, e.decrypt tok ≠ .ok pl)
    (hiss : ∀ pl c0, ParseToken e.now (e.tokenOf tok) = .ok (pl, c0) → c0.iss ≠ e.issuer) : (step atp s op).2 = none :=
  c08_unreadable_refused_everywhere atp s op e tok hp (c08_jwt_other_issuer_unreadable atp e s tok hd hiss).1

/-- a statement about every operation of a history together with its outcome -/
def Aligned (P : Op → Option Ref → Prop) : List Op → List (Option Ref) → Prop
  | [], [] => True
  | op :: ops, o :: os => P op o ∧ Aligned P ops os
  | _, _ => False

/-- a string that no reader accepts at any of its presentations is honoured at no point of the history -/
theorem unresolved_history (atp : ResATProvider) (tok : String) (ops : List Op) (s : St)
    (hu : ∀ op, op ∈ ops → ∀ e, presentedAt op = some (e, tok) → ∀ s, resolve e.now (provider atp e s) tok = none) :
    Aligned (fun op o => (∃ e, presentedAt op = some (e, tok)) → o = none) ops (run atp s ops).2 := by
  induction ops generalizing s with
  | nil => simp [run, Aligned]
  | cons op rest ih =>
    simp only [run, Aligned]
    refine ⟨?_, ih (step atp s op).1 fun o ho => hu o (List.mem_cons_of_mem _ ho)⟩
    rintro ⟨e, hp⟩
    exact c08_unreadable_refused_everywhere atp s op e tok hp (hu op List.mem_cons_self e hp s)

/-- C08 over histories with separator-bearing subjects: a string whose plaintext - at every presentation - does not hold exactly one ':'
    (the opaque token of a subject with a colon, whatever is flipped in it) is honoured at NO point of ANY history, on either router,
    whatever else the history contains: in particular not after a revocation of that very string that was answered 200 -/
theorem c08_unreadable_history (atp : ResATProvider) (tok : String) (ops : List Op) (s : St)
    (hu : ∀ op, op ∈ ops → ∀ e, presentedAt op = some (e, tok) → ∃ plain, e.decrypt tok = .ok plain ∧ plain.toList.count ':' ≠ 1) :
    Aligned (fun op o => (∃ e, presentedAt op = some (e, tok)) → o = none) ops (run atp s ops).2 := by
  refine unresolved_history atp tok ops s fun op hop e hp s' => ?_
  obtain ⟨plain, hd, hc⟩ := hu op hop e hp
  rw [resolve_opaque (p := provider atp e s') hd, opaqueParts_eq_none hc]

/-- C08 over histories, for EVERY plaintext and subject: once the owning client has revoked an access-token string (no storage fault;
    the answer is 200 by `revoke_kills_at`), no later presentation of that string that is read as it was read at the revocation is
    honoured - at userinfo, introspection or token exchange, on either router, after any history -/
theorem c08_revoked_string_sticks (rt : Router) (atp : ResATProvider) (e : Env) (s : St) (cid hint tok id sub : String) (t : Tok)
    (hf : NoRevocationFault e)
    (hr : resolve e.now (provider atp e s) tok = some (id, sub)) (hl : s.lookup e.issuer id = some t) (hown : t.client = cid)
    (hnr : s.lookupR e.issuer tok = none) (ops : List Op) :
    (revoke rt atp e s (some cid) hint tok).2 = .ok ∧
    Aligned (fun op o => ∀ e', presentedAt op = some (e', tok) → resolve e'.now (provider atp e' s) tok = some (id, sub) → o = none)
      ops (run atp (revoke rt atp e s (some cid) hint tok).1 ops).2 := by
  obtain ⟨hok, hdead⟩ := revoke_kills_at rt atp e s cid hint tok id sub t hf hr hl hown hnr
  refine ⟨hok, ?_⟩
  have hknown : Known (revoke rt atp e s (some cid) hint tok).1 (.at id) :=
    (revoke_rewrites rt atp e s (some cid) hint tok).known (.at id) ⟨t, (lookup_some hl).1, (lookup_some hl).2.1⟩
  generalize (revoke rt atp e s (some cid) hint tok).1 = s1 at hdead hknown
  induction ops generalizing s1 with
  | nil => simp [run, Aligned]
  | cons op rest ih =>
    simp only [run, Aligned]
    obtain ⟨h1, h2⟩ := dead_step atp s1 op (.at id) hdead hknown
    refine ⟨?_, ih (step atp s1 op).1 h1 h2⟩
    intro e' hp hr'
    cases ho : (step atp s1 op).2 with
    | none => rfl
    | some x =>
      obtain ⟨id', sub', hr'', rfl⟩ := honoured_is_resolved atp s1 op x e' tok hp ho
      rw [resolve_state atp e' s1 s, hr'] at hr''
      simp only [Option.some.injEq, Prod.mk.injEq] at hr''
      obtain ⟨rfl, _⟩ := hr''
      exact absurd ho (dead_not_honoured atp s1 op (.at _) hdead)

/-- C08 over histories and EVERY storage (no hypothesis on `s`, in particular none on `s.partitioned`): a JWT access token is never
    honoured at an operation addressed to another issuer than the one its payload names, at any point of any history -/
theorem c08_jwt_other_issuer_history (atp : ResATProvider) (tok : String) (ops : List Op) (s : St)
    (hu : ∀ op, op ∈ ops → ∀ e, presentedAt op = some (e, tok) →
      (∀ pl, e.decrypt tok ≠ .ok pl) ∧ ∀ pl c0, ParseToken e.now (e.tokenOf tok) = .ok (pl, c0) → c0.iss ≠ e.issuer) :
    Aligned (fun op o => (∃ e, presentedAt op = some (e, tok)) → o = none) ops (run atp s ops).2 :=
  unresolved_history atp tok ops s fun op hop e hp s' =>
    (c08_jwt_other_issuer_unreadable atp e s' tok (hu op hop e hp).1 (hu op hop e hp).2).1

example : opaqueParts "at1:user1" = some ("at1", "user1") := by decide +kernel
example : opaqueParts "at1:urn:example:user:alice" = none := by decide +kernel
example : opaqueParts "at1user1" = none := by decide +kernel
-- the opaque token of a URN subject: refused at userinfo, introspection and exchange, its revocation answers 200 and changes nothing
def exUrnTok : Tok := { id := "at7", client := "web", subject := "urn:example:user:alice", audience := ["web"] }
def exUrnSt : St := { toks := [exUrnTok] }
def exUrnEnv : Env := { decrypt := fun t => if t == "opaque7" then .ok "at7:urn:example:user:alice" else .error "illegal base64 data" }
example : (run {} exUrnSt [.userinfo .provider exUrnEnv "opaque7", .introspect .legacy exUrnEnv (some "web") "opaque7", .exchange exUrnEnv false "opaque7",
    .revoke .provider exUrnEnv (some "web") "" "opaque7", .userinfo .legacy exUrnEnv "opaque7", .exchange exUrnEnv false "opaque7"]).2
    = [none, none, none, none, none, none] := by decide +kernel
example : (revoke .provider {} exUrnEnv exUrnSt (some "web") "access_token" "opaque7").2 = .ok ∧
    (revoke .provider {} exUrnEnv exUrnSt (some "web") "access_token" "opaque7").1.toks = exUrnSt.toks := by decide +kernel
example : (revoke .legacy {} exUrnEnv exUrnSt (some "evil") "" "opaque7").2 = .ok ∧
    (revoke .legacy {} exUrnEnv exUrnSt (some "evil") "" "opaque7").1.toks = exUrnSt.toks := by decide +kernel

-- a FLAT storage (one table, `partitioned := false`) under a multi-issuer provider: the opaque token of issuer A is found at B (the
-- storage's doing), the JWT of issuer A is refused at B by the library
def exFlatSt : St := { toks := [{ exTok with issuer := "https://a.example" }], rtoks := [{ exRT with issuer := "https://a.example" }], partitioned := false }
example : (run exATP exFlatSt [.userinfo .provider exOpB "opaque1", .userinfo .provider exEnvA "jwtA", .userinfo .provider exEnvB "jwtA",
    .introspect .legacy exEnvB (some "web") "jwtA", .exchange exEnvB false "jwtA"]).2
    = [some (.at "at1"), some (.at "at1"), none, none, none] := by decide +kernel

end Res
