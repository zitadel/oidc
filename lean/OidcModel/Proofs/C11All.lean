/-
  C11: everything the check builds and audits (checklib/props.d/C11.json `proof_module`).
    Proofs/C11Url.lean       net/url: escape / unescape / Values.Encode round trips on bytes
    Proofs/C11Html.lean      html/template: attribute escaper, URL normaliser, the tokenizer on the rendered page
    Proofs/C11Text.lean      the rendered page has no character data outside its tags
    Proofs/C11.lean          the property theorems (query, fragment, form_post; error text and state from the source)
    Proofs/C11Examples.lean  concrete instances
    Proofs/C11CutOff.lean    pages cut off at any byte are accepted as cut-off pages of their own response; the monitor at
                             EVERY position of EVERY history of form_post responses with faults
    Proofs/C11Par.lean       error responses in flight at the same time: every schedule, error objects created per call (regenerated facts)
    Proofs/C11ErrVal.lean    the regenerated statement lists of AuthRequestError / TryErrorRedirect read for the VALUE: only State /
                             SessionState are assigned (`c11_error_only_request_fields_written`; imports no translated function)
    Proofs/C11Len.lean       its composition with DefaultToServerError: the description / code handed to the encoder are
                             DefaultToServerError's, untouched, of whatever length
    Proofs/C11Modes.lean     every response mode string x response type in one statement
    Proofs/C11FormPost.lean  sequences of form_post responses with write faults: the regenerated buffer handling of
                             AuthResponseFormPost leaves nothing behind, every delivered body is a function of its own request
-/
import OidcModel.Proofs.C11
import OidcModel.Proofs.C11Examples
import OidcModel.Proofs.C11FormPost
import OidcModel.Proofs.C11CutOff
import OidcModel.Proofs.C11Modes
import OidcModel.Proofs.C11Par
import OidcModel.Proofs.C11ErrVal
import OidcModel.Proofs.C11Len
