/-
  C11, the statement lists of AuthRequestError / TryErrorRedirect read for the VALUE of the error (see Proofs/C11Len.lean for the
  composition with DefaultToServerError).  This file imports NO translated function: only the model of the statement lists
  (Model/C11ErrVal.lean) and the regenerated lists themselves (Generated/AuthErrorProg.lean), so `c11_error_only_request_fields_written`
  is checked - and fails by name - also when the functional translation of the two functions does not build.
-/
import OidcModel.Model.C11ErrVal
import OidcModel.Generated.AuthErrorProg

namespace C11
namespace ErrVal
open ErrPar (Op)

theorem setF_keeps (f : String) (v : EObj → EObj) (o : EObj) (h : (f = "State" || f = "SessionState") = true) :
    (setF f v o).ty = o.ty ∧ (setF f v o).desc = o.desc := by
  unfold setF
  by_cases h1 : f = "State"
  · simp [h1]
  · by_cases h2 : f = "SessionState"
    · simp [h2]
    · simp [h1, h2] at h

/-- **induction over the statement list**: as long as only request fields are written, whatever is handed to the encoder has
    the code and the description the object had at the start — for every list, every start object, all assigned values -/
theorem exec_keeps (v : Nat → EObj → EObj) (e0 : EObj) :
    ∀ (p : List Op) (n : Nat) (cur : EObj) (sent : Option EObj), p.all requestFieldOp = true →
      (cur.ty = e0.ty ∧ cur.desc = e0.desc) → (∀ s, sent = some s → s.ty = e0.ty ∧ s.desc = e0.desc) →
      ∀ s, exec v p n cur sent = some s → s.ty = e0.ty ∧ s.desc = e0.desc := by
  intro p
  induction p with
  | nil => intro n cur sent _ _ hs s h; exact hs s h
  | cons o r ih =>
    intro n cur sent hp hc hs s h
    simp only [List.all_cons, Bool.and_eq_true] at hp
    obtain ⟨ho, hr⟩ := hp
    cases o with
    | copy => exact ih (n + 1) cur sent hr hc hs s h
    | fresh | unsupported src => simp [requestFieldOp] at ho
    | set t f =>
      have hk := setF_keeps f (v n) cur (by simpa [requestFieldOp] using ho)
      exact ih (n + 1) (setF f (v n) cur) sent hr ⟨hk.1.trans hc.1, hk.2.trans hc.2⟩ hs s h
    | encode t =>
      refine ih (n + 1) cur (some cur) hr hc ?_ s h
      intro s' hs'; cases hs'; exact hc

/-- a list that hands the error to the encoder does answer -/
theorem exec_sends (v : Nat → EObj → EObj) :
    ∀ (p : List Op) (n : Nat) (cur : EObj) (sent : Option EObj),
      (p.any (fun o => match o with | .encode _ => true | _ => false) = true ∨ sent.isSome = true) →
      (exec v p n cur sent).isSome = true := by
  intro p
  induction p with
  | nil =>
    intro n cur sent h
    rcases h with h | h
    · simp at h
    · simpa [exec] using h
  | cons o r ih =>
    intro n cur sent h
    cases o with
    | copy | fresh | unsupported src | set t f => exact ih _ _ _ (by simpa using h)
    | encode t => exact ih (n + 1) cur (some cur) (Or.inr rfl)

/-- every list that writes request fields only: the encoder receives an error with the code and description of the start object -/
theorem exec_onlyRequestFields (v : Nat → EObj → EObj) (p : List Op) (h : onlyRequestFields p = true) (e0 : EObj) :
    ∃ s, exec v p 0 e0 none = some s ∧ s.ty = e0.ty ∧ s.desc = e0.desc := by
  simp only [onlyRequestFields, Bool.and_eq_true] at h
  have hs := exec_sends v p 0 e0 none (Or.inl h.2)
  cases hx : exec v p 0 e0 none with
  | none => simp [hx] at hs
  | some s => exact ⟨s, rfl, exec_keeps v e0 p 0 e0 none h.1 ⟨rfl, rfl⟩ (by intro s' hs'; cases hs') s hx⟩

end ErrVal

open ErrVal in
/-- **regenerated fact**: between `DefaultToServerError` and `AuthResponseURL` both functions assign `State` and `SessionState`
    and nothing else (no `Description`, no `ErrorType`, no mutator method, no statement factgen does not understand), and they do
    hand the error to the encoder.  FALSE for a variant that passes the description through a helper first
    (`e.Description = redirectDescription(e.Description)` is `.set _ "Description"` in the list). -/
theorem c11_error_only_request_fields_written :
    onlyRequestFields GenErrProg.authRequestErrorProgram = true ∧ onlyRequestFields GenErrProg.tryErrorRedirectProgram = true := by
  decide

end C11
