/-
  base64.RawURLEncoding (Model/Base64.lean): `decode_encode` (decoding an encoding gives the bytes back), `encode_length`,
  `mem_encode` (every character of an encoding is of the alphabet).  Used by Proofs/C12.lean (the AES sealing round trip) and Proofs/C16.lean (the shape of device codes).
-/
import OidcModel.Model.Base64
namespace B64

/-- all that is used of the table: 64 characters, none twice; the filler for an index out of range is one of them -/
theorem alphabet_table : alphabet.length = 64 ∧ alphabet.Nodup ∧ 'A' ∈ alphabet := by decide +kernel

/-- the decoder finds a sextet's character at the sextet's own position because no character occurs twice -/
theorem dec6_enc6 {n : Nat} (h : n < 64) : dec6 (enc6 n) = some n := by
  obtain ⟨hlen, hnd, _⟩ := alphabet_table
  have hl : n < alphabet.length := hlen.symm ▸ h
  have he : enc6 n = alphabet[n] := by rw [enc6, List.getD_eq_getElem?_getD, List.getElem?_eq_getElem hl, Option.getD_some]
  simp only [dec6, he, hnd.idxOf_getElem, h, if_true]

theorem enc6_mem (n : Nat) : enc6 n ∈ alphabet := by
  unfold enc6
  rw [List.getD_eq_getElem?_getD]
  cases h : alphabet[n]? with
  | none => exact alphabet_table.2.2
  | some c => exact List.mem_of_getElem? h

theorem encode_length : ∀ bs : List UInt8, (encode bs).length = (4 * bs.length + 2) / 3
  | [] | [_] | [_, _] => by simp [encode]
  | _ :: _ :: _ :: rest => by
    simp only [encode, List.length_cons, encode_length rest]
    omega

theorem mem_encode : ∀ bs : List UInt8, ∀ c ∈ encode bs, c ∈ alphabet
  | [] => by simp [encode]
  | [_] | [_, _] => by simp [encode, enc6_mem]
  | _ :: _ :: _ :: rest => by
    simp only [encode, List.forall_mem_cons, enc6_mem, true_and]
    exact mem_encode rest

/-! three bytes as four sextets and back; `x`, `y` stand for the bits the next byte contributes (0 at the end of the input) -/

theorem sextet0 (a : UInt8) : a.toNat / 4 < 64 := by have := a.toNat_lt; omega
theorem sextet1 (a x : Nat) (hx : x < 16) : a % 4 * 16 + x < 64 := by omega
theorem sextet2 (b y : Nat) (hy : y < 4) : b % 16 * 4 + y < 64 := by omega
theorem byte0 (a x : Nat) (hx : x < 16) : a / 4 * 4 + (a % 4 * 16 + x) / 16 = a := by omega
theorem byte1 (a b y : Nat) (hb : b < 256) (hy : y < 4) : (a % 4 * 16 + b / 16) % 16 * 16 + (b % 16 * 4 + y) / 4 = b := by omega
theorem byte2 (b c : Nat) (hc : c < 256) : (b % 16 * 4 + c / 64) % 4 * 64 + c % 64 = c := by omega

theorem ofNat_toNat (a : UInt8) (n : Nat) (h : n = a.toNat) : UInt8.ofNat n = a := by
  subst h; simp

theorem decode_encode : ∀ bs : List UInt8, decode (encode bs) = some bs
  | [] => rfl
  | [a] => by
    have h1 := sextet1 a.toNat 0 (by decide)
    have e0 := byte0 a.toNat 0 (by decide)
    rw [Nat.add_zero] at h1 e0
    simp only [encode, decode]
    rw [dec6_enc6 (sextet0 a), dec6_enc6 h1]
    simp only [Option.some.injEq, List.cons.injEq, and_true]
    exact ofNat_toNat a _ e0
  | [a, b] => by
    have hb := b.toNat_lt
    have h2 := sextet2 b.toNat 0 (by decide)
    have e1 := byte1 a.toNat b.toNat 0 hb (by decide)
    rw [Nat.add_zero] at h2 e1
    simp only [encode, decode]
    rw [dec6_enc6 (sextet0 a), dec6_enc6 (sextet1 _ _ (by omega)), dec6_enc6 h2]
    simp only [Option.some.injEq, List.cons.injEq, and_true]
    exact ⟨ofNat_toNat a _ (byte0 _ _ (by omega)), ofNat_toNat b _ e1⟩
  | a :: b :: c :: rest => by
    have hb := b.toNat_lt; have hc := c.toNat_lt
    simp only [encode, decode]
    rw [dec6_enc6 (sextet0 a), dec6_enc6 (sextet1 _ _ (by omega)), dec6_enc6 (sextet2 _ _ (by omega)),
      dec6_enc6 (Nat.mod_lt _ (by decide)), decode_encode rest]
    simp only [Option.some.injEq, List.cons.injEq, and_true]
    exact ⟨ofNat_toNat a _ (byte0 _ _ (by omega)), ofNat_toNat b _ (byte1 _ _ _ hb (by omega)), ofNat_toNat c _ (byte2 _ _ hc)⟩

end B64
