/-
  C18, composed with the byte-level library of C11 (the state round trip, on `GenWire.mergeQueryParams`, the byte-level
  translation of pkg/op/auth_request.go `mergeQueryParams` the logout code calls; Generated/AuthResponse.lean) and with the
  key-selection theorems of C02 (hints under every key-set shape); unusual registrations.
-/
import OidcModel.Proofs.C18History
import OidcModel.Proofs.C11Url
namespace C18
open Go Gen Hand

/-! ### the state, byte for byte (composed with Proofs/C11Url.lean) -/
section bytes
open C11 UA

/-- `url.Values{"state": {st}}` -/
def stateValues (st : AR.Bytes) : AR.Values := ⟨[(ascii "state", [st])]⟩

theorem stateValues_distinct (st : AR.Bytes) : DistinctKeys (stateValues st).entries := by
  simp [DistinctKeys, stateValues]

theorem stateValues_get (st : AR.Bytes) (k : AR.Bytes) :
    (stateValues st).get k = if k = ascii "state" then [st] else [] := by
  unfold AR.Values.get stateValues
  by_cases h : k = ascii "state"
  · subst h; simp
  · have : (ascii "state" == k) = false := by simpa using fun e => h e.symm
    simp [this, h]

/-- **the supplied state is appended unchanged — all targets, all states, on bytes.**  For EVERY parsed target (existing query,
    `;` separators and malformed escapes in it, a fragment, a bare `?`) and EVERY state: decoding the query of the Location yields
    under `state` the target's own `state` values followed by exactly the state that was sent, under every other name the target's
    own values; the settings no decoder reads are still there, the target's query text is a prefix byte for byte, the part in
    front of the query is untouched.  (A merge that decodes and re-encodes the target's own query drops `a=1;b=2` and fails this.) -/
theorem c18_state_roundtrip_bytes (now : Int) (u : AR.URL) (st : AR.Bytes) (hb : BaseOK u) (hq : ∀ b ∈ u.RawQuery, b ≠ 0x23) :
    let loc := GenWire.mergeQueryParams now u (stateValues st)
    valuesOf (ascii "state") (parseQuery (locationQuery loc)) = valuesOf (ascii "state") (parseQuery u.RawQuery) ++ [st] ∧
    (∀ k, k ≠ ascii "state" → valuesOf k (parseQuery (locationQuery loc)) = valuesOf k (parseQuery u.RawQuery)) ∧
    unread (locationQuery loc) = unread u.RawQuery ∧
    (∃ rest, locationQuery loc = u.RawQuery ++ rest) ∧
    locationBase loc = u.base := by
  intro loc
  refine ⟨?_, ?_, c11_query_unread_kept now u _ hb hq, c11_query_text_kept now u _ hb hq, c11_query_base now u _ hb hq⟩
  · have := c11_query_roundtrip now u (stateValues st) hb hq (stateValues_distinct st) (ascii "state")
    rw [stateValues_get] at this
    simpa using this
  · intro k hk
    have := c11_query_roundtrip now u (stateValues st) hb hq (stateValues_distinct st) k
    rw [stateValues_get] at this
    simpa [hk] using this

/-- the LAST `state` value a user agent (or the RP behind it) decodes is the one that was sent — also when the
    registered URI carries a `state` parameter of its own -/
theorem c18_state_last (now : Int) (u : AR.URL) (st : AR.Bytes) (hb : BaseOK u) (hq : ∀ b ∈ u.RawQuery, b ≠ 0x23) :
    (valuesOf (ascii "state") (parseQuery (locationQuery (GenWire.mergeQueryParams now u (stateValues st))))).getLast? = some st := by
  rw [(c18_state_roundtrip_bytes now u st hb hq).1]
  simp

/-- registered-URI shapes: plain, own query, own `state`, `;` separator, malformed escape, bare `?`, fragment, query + fragment -/
def shapeTargets : List AR.URL :=
  [ { base := ascii "https://rp.example/out" },
    { base := ascii "https://rp.example/out", RawQuery := ascii "tenant=a&x=1" },
    { base := ascii "https://rp.example/out", RawQuery := ascii "state=own" },
    { base := ascii "https://rp.example/lo", RawQuery := ascii "a=1;b=2" },
    { base := ascii "https://rp.example/lo", RawQuery := ascii "q=%zz&ok=1" },
    { base := ascii "https://rp.example/out", ForceQuery := true },
    { base := ascii "https://rp.example/out", Fragment := ascii "frag", RawFragment := ascii "frag" },
    { base := ascii "myapp://logout", RawQuery := ascii "k=v", Fragment := ascii "f", RawFragment := ascii "f" } ]

/-- a state with every byte class that matters: `& = ; # ? % +`, space, a non-ASCII byte -/
def shapeState : AR.Bytes := ascii "a&b=c;d#e?f%g+h i" ++ [0xC3, 0xA9]

/-- on every shape the sent state comes back as the last `state` value and the target's own settings are kept -/
theorem c18_state_shapes :
    shapeTargets.all (fun u =>
      let loc := GenWire.mergeQueryParams 0 u (stateValues shapeState)
      (valuesOf (ascii "state") (parseQuery (locationQuery loc))).getLast? == some shapeState &&
      unread (locationQuery loc) == unread u.RawQuery && locationBase loc == u.base) = true := by
  decide +kernel

end bytes

/-! ### hints under every key-set shape (composed with Proofs/C02.lean) -/

/-- a request whose hint has a defect in the sense of the statement is answered with an error, on both routers -/
theorem defective_hint_rejected (rt : Sess.Router) (cfg : Cfg) (opts : List Sess.KeyOpt) (hopts : HintOpts cfg opts)
    (termOK : String → String → Bool) (fromReq : Bool) (now : Int) (o : SessOracles) (r : EndSessionReq)
    (hh : r.IdTokenHint ≠ "") (hd : hintDefect cfg (o.tokenOf r.IdTokenHint) ≠ none) :
    ∃ st code, Sess.handle rt now o (.ok r) (providerOf now cfg opts termOK fromReq) = .error st code := by
  cases h : Sess.handle rt now o (.ok r) (providerOf now cfg opts termOK fromReq) with
  | error st code => exact ⟨st, code, rfl⟩
  | redirect loc =>
    obtain ⟨r', hr, hd', _⟩ := c18_hint_rules rt cfg opts hopts termOK fromReq h
    cases hr
    have hb : (r.IdTokenHint != "") = true := by simpa using hh
    simp only [reqOf, hb, if_true, Option.bind_some] at hd'
    exact absurd hd' hd

/-- both routers, every key set / allow-list / instant / storage: a hint that is NOT validly signed (C02) under the key
    set configured for hints is never followed by a redirect — the answer is an error -/
theorem c18_bad_signature_rejected (rt : Sess.Router) (cfg : Cfg) (opts : List Sess.KeyOpt) (hopts : HintOpts cfg opts)
    (termOK : String → String → Bool) (fromReq : Bool) (now : Int) (o : SessOracles) (r : EndSessionReq)
    (hh : r.IdTokenHint ≠ "")
    (hbad : ∀ c, claimsOf (o.tokenOf r.IdTokenHint) = some c →
      (C02.monitor cfg.algs cfg.hintKeySet (o.tokenOf r.IdTokenHint) (some c)).isSome = true) :
    ∃ st code, Sess.handle rt now o (.ok r) (providerOf now cfg opts termOK fromReq) = .error st code := by
  apply defective_hint_rejected rt cfg opts hopts termOK fromReq now o r hh
  unfold hintDefect
  cases hc : claimsOf (o.tokenOf r.IdTokenHint) with
  | none => simp
  | some c => simp [hbad c hc]

/-- … and so is a hint naming another issuer than the one the request is addressed to, however well it is signed -/
theorem c18_foreign_issuer_rejected (rt : Sess.Router) (cfg : Cfg) (opts : List Sess.KeyOpt) (hopts : HintOpts cfg opts)
    (termOK : String → String → Bool) (fromReq : Bool) (now : Int) (o : SessOracles) (r : EndSessionReq)
    (hh : r.IdTokenHint ≠ "")
    (hforeign : ∀ c, claimsOf (o.tokenOf r.IdTokenHint) = some c → c.iss ≠ cfg.issuer) :
    ∃ st code, Sess.handle rt now o (.ok r) (providerOf now cfg opts termOK fromReq) = .error st code := by
  apply defective_hint_rejected rt cfg opts hopts termOK fromReq now o r hh
  unfold hintDefect
  cases hc : claimsOf (o.tokenOf r.IdTokenHint) with
  | none => simp
  | some c =>
    simp only
    split
    · simp
    · simp [hforeign c hc]

/-- key selection never guesses: behind every redirect of a request WITH a hint stands exactly one signature by a key
    of the key set configured for hints that selection was entitled to pick (C02's key-id consistency, for every
    key-set shape: duplicate key ids, kid-less keys, kid-less tokens, a per-client registry) -/
theorem c18_accepted_hint_key (rt : Sess.Router) (cfg : Cfg) (opts : List Sess.KeyOpt) (hopts : HintOpts cfg opts)
    (termOK : String → String → Bool) (fromReq : Bool) {now : Int} {o : SessOracles} {r : EndSessionReq} {loc : String}
    (hh : r.IdTokenHint ≠ "")
    (h : Sess.handle rt now o (.ok r) (providerOf now cfg opts termOK fromReq) = .redirect loc) :
    C02.KeyConsistent cfg.hintKeySet (o.tokenOf r.IdTokenHint) := by
  obtain ⟨r', s, hr, hv, _, _⟩ := handle_redirect h
  simp only [Except.ok.injEq] at hr; subst hr
  have hc := c18_provider_configured now cfg opts hopts termOK fromReq
  obtain ⟨_, _, _, _, _, _, hI, _⟩ := validate_stages hv
  unfold refIdentify at hI
  have hb : (r.IdTokenHint != "") = true := by simpa using hh
  simp only [hb, if_true, Hand.viaToken] at hI
  cases hver : VerifyIDTokenHint now (o.tokenOf r.IdTokenHint) (providerOf now cfg opts termOK fromReq).hintVerifier with
  | error e => simp [hver] at hI
  | ok out =>
    have := C02.c02_kid_consistent_idTokenHint hver
    rw [hc.keys] at this
    exact this

/-- "an expired but otherwise valid hint is still accepted": at EVERY instant a request gets the answer it gets at any
    other instant — so the expired hint gets exactly the answer it got while it was fresh; both routers, every storage -/
theorem c18_expired_as_fresh (rt : Sess.Router) (now now' : Int) (o : SessOracles) (rq : Go.R EndSessionReq) (e : SessionEnder) :
    Sess.handle rt now o rq e = Sess.handle rt now' o rq e := by
  rw [handle_eq, handle_eq]
  cases rq with
  | error x => rfl
  | ok r => simp only [c18_time_independent now now']

/-- an EXACT registration is a string, never a pattern: whatever metacharacters (`* ? [ ] \`) it contains and whatever
    `path.Match` would answer for it, a URI is accepted through the exact list only if it IS a member of it; a client
    that did not opt in to globs gets nothing but the exact list -/
theorem c18_exact_is_literal (now : Int) (o : SessOracles) (uri : String) (c : OPClient) (hno : optedIn c = false) :
    ValidateEndSessionPostLogoutRedirectURI now o uri c = .ok () ↔ uri ∈ c.postLogoutURIs := by
  rw [validateURI_char]
  unfold refURI
  have hopt : c.is_HasRedirectGlobs = false := by simpa [optedIn, OPClient.is_HasRedirectGlobs] using hno
  by_cases hex : c.postLogoutURIs.contains uri = true
  · simp only [if_true, true_iff, hex]; simpa using hex
  · have : ¬ uri ∈ c.postLogoutURIs := by simpa using hex
    simp [hex, hopt, this]

/-- … and for a client that DID opt in, the exact list is still literal: the matcher is consulted for the client's
    post-logout GLOBS only, never for an exact entry -/
theorem c18_exact_not_pattern (now : Int) (o : SessOracles) (uri : String) (c : OPClient)
    (hnoglob : ∀ g ∈ plGlobs c, globMatches o.pathMatch g uri = false) :
    ValidateEndSessionPostLogoutRedirectURI now o uri c = .ok () → uri ∈ c.postLogoutURIs := by
  intro h
  have hreg := uri_sound h
  simp only [registered, Bool.or_eq_true, Bool.and_eq_true, List.any_eq_true] at hreg
  rcases hreg with hreg | ⟨_, g, hg, hm⟩
  · simpa using hreg
  · rw [hnoglob g hg] at hm; simp at hm

/-- an empty registration (no exact URI, no glob list content): every requested URI is refused -/
theorem c18_empty_registration (now : Int) (o : SessOracles) (uri : String) (c : OPClient)
    (h1 : c.postLogoutURIs = []) (h2 : plGlobs c = []) :
    ValidateEndSessionPostLogoutRedirectURI now o uri c ≠ .ok () := by
  intro h
  have hreg := uri_sound h
  simp [registered, h1, h2] at hreg

/-- comparison is case sensitive and exact: a URI that differs from every registered one (in case, a trailing slash,
    anything) is refused for a client without globs -/
theorem c18_case_sensitive (now : Int) (o : SessOracles) (uri : String) (c : OPClient) (hno : optedIn c = false)
    (hdiff : ∀ reg ∈ c.postLogoutURIs, reg ≠ uri) : ValidateEndSessionPostLogoutRedirectURI now o uri c ≠ .ok () := by
  intro h
  have := (c18_exact_is_literal now o uri c hno).mp h
  exact hdiff uri this rfl

/-- duplicate entries and the order of the exact list do not matter -/
theorem c18_duplicates_irrelevant (now : Int) (o : SessOracles) (uri : String) (c : OPClient) (l : List String)
    (hsame : ∀ x, x ∈ l ↔ x ∈ c.postLogoutURIs) :
    ValidateEndSessionPostLogoutRedirectURI now o uri { c with postLogoutURIs := l } = ValidateEndSessionPostLogoutRedirectURI now o uri c := by
  rw [validateURI_char, validateURI_char]
  unfold refURI
  have : l.contains uri = c.postLogoutURIs.contains uri := by
    rw [Bool.eq_iff_iff]; simp [hsame uri]
  simp only [this]
  rfl

section examples
def mClient : OPClient := { id := "m", postLogoutURIs := ["https://rp.example/logout?tenant=a", "https://rp.example/[ab]/*", "https://RP.example/Out", "https://rp.example/logout?tenant=a"] }
/-- a matcher that reads `?`, `[ab]`, `*` as `path.Match` does (for the three strings of the example) -/
def mOrc : SessOracles :=
  { pathMatch := fun g u => .ok ((g == "https://rp.example/logout?tenant=a" && u == "https://rp.example/logoutXtenant=a") ||
      (g == "https://rp.example/[ab]/*" && u == "https://rp.example/a/x") || g == u),
    urlParse := fun s => .ok { base := s }, tokenOf := fun _ => default }
example : ValidateEndSessionPostLogoutRedirectURI 0 mOrc "https://rp.example/logout?tenant=a" mClient = .ok () := by rfl
example : ValidateEndSessionPostLogoutRedirectURI 0 mOrc "https://rp.example/logoutXtenant=a" mClient = .error "ErrInvalidRequest" := by rfl
example : ValidateEndSessionPostLogoutRedirectURI 0 mOrc "https://rp.example/a/x" mClient = .error "ErrInvalidRequest" := by rfl
example : ValidateEndSessionPostLogoutRedirectURI 0 mOrc "https://rp.example/[ab]/*" mClient = .ok () := by rfl
example : ValidateEndSessionPostLogoutRedirectURI 0 mOrc "https://rp.example/out" mClient = .error "ErrInvalidRequest" := by rfl
example : ValidateEndSessionPostLogoutRedirectURI 0 mOrc "https://RP.example/Out" mClient = .ok () := by rfl
example : ValidateEndSessionPostLogoutRedirectURI 0 mOrc "https://rp.example/x" { id := "e" } = .error "ErrInvalidRequest" := by rfl
end examples

end C18
