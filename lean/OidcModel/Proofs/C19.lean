/-
  C19: the discovery document is truthful in EVERY configuration.

  All statements are about the REGENERATED functions (`Gen.*` of Generated/Discovery.lean and Generated/TokenEndpoint.lean, `GenServe.*`
  of the request path): if the Go source changes what it advertises, routes or accepts, these theorems are re-checked against the
  new definitions on the next run.  `c19_holds` is the property for one document in one configuration; the grant-type clause is
  finite (both routers × 2⁵ options × 2³ capabilities) and enumeration IS its proof (`exactCore_all`); `c19_document_per_request`,
  `c19_visit_holds`, `c19_sequence_holds` are the property for one request after another, with the issuer each request is entitled
  to (Spec) proved to be the one the regenerated strategy computes (`c19_request_issuer`).
-/
import OidcModel.Model.DiscoveryModel
import OidcModel.GoTac

namespace C19
open Go Gen Disco

/-- the hand-written `Const.*` values are the values of the pkg/oidc constants in the source -/
theorem const_table_ok : Gen.oidcConstTable =
    [("AuthMethodBasic", Const.AuthMethodBasic), ("AuthMethodNone", Const.AuthMethodNone), ("AuthMethodPost", Const.AuthMethodPost),
     ("AuthMethodPrivateKeyJWT", Const.AuthMethodPrivateKeyJWT), ("CodeChallengeMethodPlain", Const.CodeChallengeMethodPlain),
     ("CodeChallengeMethodS256", Const.CodeChallengeMethodS256), ("DiscoveryEndpoint", Const.DiscoveryEndpoint),
     ("GrantTypeBearer", Const.GrantTypeBearer), ("GrantTypeClientCredentials", Const.GrantTypeClientCredentials),
     ("GrantTypeCode", Const.GrantTypeCode), ("GrantTypeDeviceCode", Const.GrantTypeDeviceCode), ("GrantTypeImplicit", Const.GrantTypeImplicit),
     ("GrantTypeRefreshToken", Const.GrantTypeRefreshToken), ("GrantTypeTokenExchange", Const.GrantTypeTokenExchange)] := rfl

/-- the audited list of functions in pkg/op that can produce `unsupported_grant_type`. Besides the two dispatchers and the
    LegacyServer guards (all modelled), the remaining sites (`assertDeviceStorage`, `ValidateClientCredentialsRequest`,
    `CreateTokenExchangeRequest`, `LegacyServer.VerifyClient`) test the very storage capability whose presence is the
    condition for reaching them; `UnimplementedServer.*` is not used by either router. A new site breaks this theorem. -/
theorem unsupportedGrantSites_audited : Gen.unsupportedGrantSites =
    [("server.go", "UnimplementedServer.ClientCredentialsExchange"), ("server.go", "UnimplementedServer.CodeExchange"),
     ("server.go", "UnimplementedServer.DeviceToken"), ("server.go", "UnimplementedServer.JWTProfile"),
     ("server.go", "UnimplementedServer.RefreshToken"), ("server.go", "UnimplementedServer.TokenExchange"),
     ("server.go", "unimplementedGrantError"), ("server_http.go", "webServer.tokensHandler"),
     ("server_legacy.go", "LegacyServer.ClientCredentialsExchange"), ("server_legacy.go", "LegacyServer.DeviceToken"),
     ("server_legacy.go", "LegacyServer.JWTProfile"), ("server_legacy.go", "LegacyServer.RefreshToken"),
     ("server_legacy.go", "LegacyServer.TokenExchange"), ("server_legacy.go", "LegacyServer.VerifyClient"),
     ("storage.go", "assertDeviceStorage"), ("token_client_credentials.go", "ValidateClientCredentialsRequest"),
     ("token_exchange.go", "CreateTokenExchangeRequest"), ("token_request.go", "Exchange")] := rfl

/-- the document's issuer is the issuer the interceptor established for the request, which is what
    `IssuerFromContext` hands to every token constructor -/
theorem c19_issuer_eq (i : Input) : (discovery i).Issuer = i.issuer := by
  unfold discovery; cases i.cfg.router <;> rfl

/-- what `Endpoint.Absolute` yields: the monitor's three cases -/
theorem absolute_cases (e : Endpoint) (iss : String) :
    Endpoint_Absolute 0 e iss = if e.isNil then "" else if e.url != "" then e.url else issuerRelative iss e := by
  unfold Endpoint_Absolute absoluteEndpoint relativeEndpoint issuerRelative
  cases h : e.isNil <;> simp [Go.isNil, Nilable.isNil, h, HAdd.hAdd]

theorem fieldOK_of (c : Config) (o : Obs) (f : Field) (st : Nat)
    (hadv : f.advertised o.doc = Endpoint_Absolute 0 (f.configured c.endpoints) o.doc.Issuer)
    (hp : o.probe.find? (·.1 == f) = some (f, st))
    (hs : (f.configured c.endpoints).isNil = false → (f.configured c.endpoints).url = "" → served st = true) :
    fieldOK c o f = true := by
  unfold fieldOK
  simp only [hadv, absolute_cases, hp]
  cases hn : (f.configured c.endpoints).isNil <;> simp
  by_cases hu : (f.configured c.endpoints).url = "" <;> simp [hu]
  exact Or.inr (hs hn hu)

theorem probe_find (i : Input) (f : Field) : (modelObs i).probe.find? (·.1 == f) = some (f, routeStatus i f) := by
  cases f <;> rfl

theorem routeStatus_served (i : Input) (f : Field)
    (h : (routes i).contains (Endpoint_Relative 0 (f.configured i.cfg.endpoints)) = true) : served (routeStatus i f) = true := by
  unfold routeStatus; rw [if_pos h]; decide

theorem mem_endpointRoute_routes (s : WebServer) {e : Endpoint} (hn : e.isNil = false) :
    Endpoint_Relative 0 e ∈ webServer_endpointRoute_routes 0 s e := by
  simp [webServer_endpointRoute_routes, Go.notNil, Nilable.isNil, hn]

theorem configured_routed (i : Input) (hw : i.wellFormed) (f : Field)
    (hn : (f.configured i.cfg.endpoints).isNil = false) (hf : i.cfg.router = .legacy → f ≠ .checkSession) :
    (routes i).contains (Endpoint_Relative 0 (f.configured i.cfg.endpoints)) = true := by
  rw [List.contains_iff_mem]
  obtain ⟨⟨router, eps, flags, caps, insecure⟩, peps, iss⟩ := i
  cases router
  · obtain ⟨h1, hcs⟩ := hw rfl
    simp only at h1 hcs
    subst h1
    cases f
    case checkSession => rw [Field.configured, hcs] at hn; cases hn
    all_goals
      simp only [routes, CreateRouter_routes, Field.configured, Input.conf, Input.provider, Provider_asConfiguration,
        Provider_AuthorizationEndpoint, Provider_TokenEndpoint, Provider_IntrospectionEndpoint, Provider_UserinfoEndpoint,
        Provider_RevocationEndpoint, Provider_EndSessionEndpoint, Provider_KeysEndpoint, Provider_DeviceAuthorizationEndpoint,
        List.mem_append, List.mem_singleton, true_or, or_true]
  · cases f
    case checkSession => exact absurd rfl (hf rfl)
    all_goals
      simp only [Field.configured] at hn
      simp only [routes, webServer_createRouter_routes, Field.configured, List.mem_append, mem_endpointRoute_routes _ hn, true_or, or_true]

/-- every document member is what `Endpoint.Absolute` makes of the configured endpoint (second router: `check_session_iframe`
    is not part of the document) -/
theorem advertised_eq (i : Input) (hw : i.wellFormed) (f : Field) (hf : i.cfg.router = .legacy → f ≠ .checkSession) :
    f.advertised (modelObs i).doc = Endpoint_Absolute 0 (f.configured i.cfg.endpoints) (modelObs i).doc.Issuer := by
  obtain ⟨⟨router, eps, flags, caps, insecure⟩, peps, iss⟩ := i
  cases router
  · obtain ⟨h1, _⟩ := hw rfl
    simp only at h1
    subst h1
    cases f <;> rfl
  · cases f
    case checkSession => exact absurd rfl (hf rfl)
    all_goals rfl

theorem fields_ok (i : Input) (hw : i.wellFormed) (f : Field) : fieldOK i.cfg (modelObs i) f = true := by
  by_cases hf : i.cfg.router = .legacy ∧ f = .checkSession
  · obtain ⟨⟨router, eps, flags, caps, insecure⟩, peps, iss⟩ := i
    obtain ⟨hr, rfl⟩ := hf
    simp only at hr
    subst hr
    simp [fieldOK, Field.advertised, modelObs, discovery, createDiscoveryConfigV2]
  · have hf' : i.cfg.router = .legacy → f ≠ .checkSession := fun h1 h2 => hf ⟨h1, h2⟩
    exact fieldOK_of _ _ f _ (advertised_eq i hw f hf') (probe_find i f)
      (fun hn _ => routeStatus_served i f (configured_routed i hw f hn hf'))

/-- readable form: for every configuration and every document member, what is advertised is "" for a disabled endpoint,
    the configured absolute DiscURL verbatim, or the issuer-relative address of a route the handler registers -/
theorem c19_endpoints_routed (i : Input) (hw : i.wellFormed) (f : Field) (hf : i.cfg.router = .legacy → f ≠ .checkSession) :
    let e := f.configured i.cfg.endpoints
    let adv := f.advertised (discovery i)
    (e.isNil = true → adv = "") ∧
    (e.isNil = false → e.url ≠ "" → adv = e.url) ∧
    (e.isNil = false → e.url = "" → adv = issuerRelative i.issuer e ∧ Endpoint_Relative 0 e ∈ routes i) := by
  have h := advertised_eq i hw f hf
  have hd : (modelObs i).doc = discovery i := rfl
  rw [hd, c19_issuer_eq, absolute_cases] at h
  refine ⟨fun hn => by simp [h, hn], fun hn hu => by simp [h, hn, hu], fun hn hu => ⟨by simp [h, hn, hu], ?_⟩⟩
  have := configured_routed i hw f hn hf
  simpa [List.contains_iff_mem] using this

def bogusGrant : String := "urn:example:bogus-grant"

/-- advertised = accepted, as one boolean over the router, the options and the capabilities -/
def exactCore (router : Router) (flags : OpConfig) (caps : OpStorage) : Bool :=
  let adv := GrantTypes 0 (coreConf flags caps)
  let code := fun g => (tokenAnswer router flags caps g).code
  tokenGrants.all (fun g => adv.contains g == (code g != unsupportedGrantType)) &&
  adv.all (fun g => tokenGrants.contains g || g == Const.GrantTypeImplicit) &&
  code bogusGrant == unsupportedGrantType

/-- the configuration space is finite: both routers × 2⁵ options × 2³ capabilities, enumerated completely by the kernel -/
theorem exactCore_all : ∀ (router : Router) (a b c d e x y z : Bool), exactCore router ⟨a, b, c, d, e⟩ ⟨x, y, z⟩ = true := by
  intro r; cases r <;> decide +kernel

theorem grantsAgree_probed (adv : List String) (code : String → String) :
    grantsAgree adv (probedGrants.map fun g => (g, code g)) =
      (tokenGrants.all (fun g => adv.contains g == (code g != unsupportedGrantType)) &&
       adv.all (fun g => tokenGrants.contains g || g == Const.GrantTypeImplicit) &&
       code bogusGrant == unsupportedGrantType) := by
  simp [grantsAgree, probedGrants, tokenGrants, bogusGrant, List.all, List.find?, Const.GrantTypeCode, Const.GrantTypeRefreshToken,
    Const.GrantTypeClientCredentials, Const.GrantTypeBearer, Const.GrantTypeTokenExchange, Const.GrantTypeDeviceCode]

theorem doc_grants (i : Input) : (modelObs i).doc.GrantTypesSupported = GrantTypes 0 (coreConf i.cfg.flags i.cfg.caps) := by
  unfold modelObs discovery; cases i.cfg.router <;> rfl

theorem grants_ok (i : Input) : grantsOK (modelObs i) = true := by
  unfold grantsOK
  cases hn : i.cfg.endpoints.Token.isNil
  · have h : (modelObs i).grantAnswer =
        some (probedGrants.map fun g => (g, (tokenAnswer i.cfg.router i.cfg.flags i.cfg.caps g).code)) := by
      simp [modelObs, hn]
    rw [h]
    simp only []
    rw [doc_grants, grantsAgree_probed]
    obtain ⟨⟨router, eps, ⟨a, b, c, d, e⟩, ⟨x, y, z⟩, insecure⟩, peps, iss⟩ := i
    exact exactCore_all router a b c d e x y z
  · have h : (modelObs i).grantAnswer = none := by simp [modelObs, hn]
    rw [h]

/-- readable form: for every router, option and capability combination, a token-endpoint grant type is advertised iff the token
    endpoint does not answer it with unsupported_grant_type; everything else that is advertised is `implicit`; an unknown grant
    type is refused with unsupported_grant_type -/
theorem c19_grants_exact (router : Router) (flags : OpConfig) (caps : OpStorage) :
    (∀ g ∈ tokenGrants, (g ∈ GrantTypes 0 (coreConf flags caps) ↔ (tokenAnswer router flags caps g).code ≠ unsupportedGrantType)) ∧
    (∀ g ∈ GrantTypes 0 (coreConf flags caps), g ∈ tokenGrants ∨ g = Const.GrantTypeImplicit) ∧
    (tokenAnswer router flags caps bogusGrant).code = unsupportedGrantType := by
  obtain ⟨a, b, c, d, e⟩ := flags
  obtain ⟨x, y, z⟩ := caps
  have h := exactCore_all router a b c d e x y z
  simp only [exactCore, Bool.and_eq_true, List.all_eq_true, beq_iff_eq, Bool.or_eq_true, List.contains_iff_mem] at h
  obtain ⟨⟨h1, h2⟩, h3⟩ := h
  refine ⟨fun g hg => ?_, fun g hg => ?_, h3⟩
  · have := h1 g hg
    rw [Bool.eq_iff_iff] at this
    simpa only [List.contains_iff_mem, bne_iff_ne, ne_eq] using this
  · simpa using h2 g hg

theorem codeChallengeMethods_eq (flags : OpConfig) (caps : OpStorage) :
    CodeChallengeMethods 0 (coreConf flags caps) = if flags.CodeMethodS256 then [Const.CodeChallengeMethodS256] else [] := by
  cases h : flags.CodeMethodS256 <;>
    simp [CodeChallengeMethods, coreConf, Provider_asConfiguration, Provider_CodeMethodS256Supported, h, Go.append]

theorem pkceAnswer_S256 : pkceAnswer Const.CodeChallengeMethodS256 = "ok" := by decide +kernel

/-- every PKCE method any configuration advertises is honoured by the regenerated `VerifyCodeChallenge`:
    the right verifier passes, a wrong one is refused -/
theorem c19_pkce_honoured (flags : OpConfig) (caps : OpStorage) :
    ∀ m ∈ CodeChallengeMethods 0 (coreConf flags caps), pkceAnswer m = "ok" := by
  intro m hm
  rw [codeChallengeMethods_eq] at hm
  cases h : flags.CodeMethodS256 <;> simp [h] at hm
  subst hm
  exact pkceAnswer_S256

theorem pkce_ok (i : Input) : pkceOK (modelObs i) = true := by
  have h : (modelObs i).doc.CodeChallengeMethodsSupported = CodeChallengeMethods 0 (coreConf i.cfg.flags i.cfg.caps) := by
    unfold modelObs discovery; cases i.cfg.router <;> rfl
  have h2 : (modelObs i).pkce = (CodeChallengeMethods 0 (coreConf i.cfg.flags i.cfg.caps)).map
      (fun m => (m, if i.codeFlowPossible then pkceAnswer m else "na")) := by
    unfold modelObs; simp only []; rw [← h]; rfl
  unfold pkceOK
  rw [h, h2, codeChallengeMethods_eq]
  cases i.cfg.flags.CodeMethodS256 <;> cases i.codeFlowPossible <;> simp [pkceAnswer_S256]

/-- `request_parameter_supported` is advertised exactly when request objects are processed -/
theorem c19_request_object_honoured (i : Input) :
    (discovery i).RequestParameterSupported = true ↔ requestObjectAnswer i.conf = "honoured" := by
  have h : (discovery i).RequestParameterSupported = i.conf.RequestObjectSupported := by
    unfold discovery; cases i.cfg.router <;> rfl
  rw [h]; unfold requestObjectAnswer
  cases i.conf.RequestObjectSupported <;> simp

/-- **C19**: in every configuration — either router, every endpoint shape, every combination of options and storage
    capabilities, every issuer — the model's externally visible behaviour satisfies the monitor -/
theorem c19_holds (i : Input) (hw : i.wellFormed) : monitor i.cfg (modelObs i) = none := by
  have h1 : (modelObs i).status = 200 := rfl
  have h2 : (modelObs i).tokenIssuer = some i.issuer := rfl
  have h3 : (modelObs i).doc.Issuer = i.issuer := c19_issuer_eq i
  have h4 : Field.all.find? (fun f => !fieldOK i.cfg (modelObs i) f) = none := by
    simp [List.find?_eq_none, fields_ok i hw]
  have h5 : ((modelObs i).doc.RequestParameterSupported &&
      !((modelObs i).requestObject == "honoured" || (modelObs i).requestObject == "na")) = false := by
    have hd : (modelObs i).doc = discovery i := rfl
    have hr : (modelObs i).requestObject = if i.cfg.endpoints.Authorization.isNil then "na" else requestObjectAnswer i.conf := rfl
    have := c19_request_object_honoured i
    rw [hd, hr]
    cases hq : (discovery i).RequestParameterSupported
    · simp
    · cases i.cfg.endpoints.Authorization.isNil <;> simp [this.mp hq]
  unfold monitor
  simp [h1, h2, h3, h4, grants_ok i, pkce_ok i]
  simpa using h5

/-! ### issuer validation (DiscURL parser = oracle) -/

theorem validateIssuerPath_iff (u : DiscURL) : (ValidateIssuerPath 0 u = .ok ()) ↔ (u.Fragment = "" ∧ u.Query = []) := by
  unfold ValidateIssuerPath
  by_cases hf : u.Fragment = "" <;> cases hq : u.query <;> simp_all [Go.len, HasLen.len, Go.ok, DiscURL.Query]

theorem devLocalAllowed_eq (u : DiscURL) (insecure : Bool) : devLocalAllowed 0 u insecure = (insecure && u.Scheme == "http") := by
  cases insecure <;> rfl

/-- `ValidateIssuer` accepts exactly the issuers that are non-empty, parse, have a host, no fragment, no query and use
    https (or http under the insecure opt-in) — for every string and every behaviour of `net/url.Parse` -/
theorem validateIssuer_iff (parse : String → Go.R DiscURL) (issuer : String) (insecure : Bool) :
    (ValidateIssuer 0 parse issuer insecure = .ok ()) ↔ issuerAcceptable parse issuer insecure = true := by
  unfold ValidateIssuer issuerAcceptable
  go_leaf [validateIssuerPath_iff, devLocalAllowed_eq]

/-- `StaticIssuer(iss)(insecure)` succeeds exactly when `ValidateIssuer` does, and then names `iss` for every request -/
theorem staticIssuer_ok (parse : String → Go.R DiscURL) (iss : String) (insecure : Bool) (f : DiscReq → String)
    (h : GenServe.StaticIssuer 0 parse iss insecure = .ok f) :
    ValidateIssuer 0 parse iss insecure = .ok () ∧ ∀ r, f r = iss := by
  unfold GenServe.StaticIssuer at h
  split at h <;> cases h
  exact ⟨‹_›, fun _ => rfl⟩

theorem staticIssuer_isOk (parse : String → Go.R DiscURL) (iss : String) (insecure : Bool) :
    (GenServe.StaticIssuer 0 parse iss insecure).isOk = (ValidateIssuer 0 parse iss insecure).isOk := by
  unfold GenServe.StaticIssuer
  cases hv : ValidateIssuer 0 parse iss insecure <;> simp [Except.isOk, Except.toBool]

/-- the host `issuerFromForwardedOrHost` builds the issuer of a request from: what `hostFromForwarded` finds, else the Host line -/
def effectiveHost (parseFwd : String → List String → Go.R (List String)) (headers : List String) (r : DiscReq) : String :=
  if (GenServe.hostFromForwarded 0 parseFwd r headers).2 then (GenServe.hostFromForwarded 0 parseFwd r headers).1 else r.Host

/-- `issuerFromForwardedOrHost(path, c)(insecure)` succeeds exactly when the path parses and carries neither query nor fragment, and the
    function it returns is `dynamicIssuer(effective host of THIS request, path, insecure)` -/
theorem issuerFromForwardedOrHost_ok (parse : String → Go.R DiscURL) (parseFwd : String → List String → Go.R (List String))
    (path : String) (c : DiscIssuerConfig) (insecure : Bool) (f : DiscReq → String)
    (h : GenServe.issuerFromForwardedOrHost 0 parse parseFwd path c insecure = .ok f) :
    (∃ u, parse path = .ok u ∧ ValidateIssuerPath 0 u = .ok ()) ∧
    ∀ r, f r = dynamicIssuer 0 (effectiveHost parseFwd c.headers r) path insecure := by
  unfold GenServe.issuerFromForwardedOrHost at h
  split at h
  · cases h
  split at h <;> cases h
  refine ⟨⟨_, ‹_›, ‹_›⟩, fun r => ?_⟩
  unfold effectiveHost
  cases h2 : (GenServe.hostFromForwarded 0 parseFwd r c.headers).2 <;> simp [h2]

theorem issuerFromForwardedOrHost_isOk (parse : String → Go.R DiscURL) (parseFwd : String → List String → Go.R (List String))
    (path : String) (c : DiscIssuerConfig) (insecure : Bool) :
    (GenServe.issuerFromForwardedOrHost 0 parse parseFwd path c insecure).isOk =
      (match parse path with | .error _ => false | .ok u => (ValidateIssuerPath 0 u).isOk) := by
  unfold GenServe.issuerFromForwardedOrHost
  cases hp : parse path with
  | error e => rfl
  | ok u => cases hv : ValidateIssuerPath 0 u <;> simp [hv, Except.isOk, Except.toBool]

/-- no configured header: the Host line counts (`IssuerFromHost`) -/
theorem hostFromForwarded_nil (parseFwd : String → List String → Go.R (List String)) (r : DiscReq) :
    GenServe.hostFromForwarded 0 parseFwd r [] = ("", false) := rfl

theorem constructIssuer_isOk (parse : String → Go.R DiscURL) (s : IssuerStrategy) (insecure : Bool) :
    (constructIssuer parse s insecure).isOk = (issuerFn ⟨parse, fwdOracle⟩ s none insecure).isOk := by
  unfold constructIssuer
  cases issuerFn ⟨parse, fwdOracle⟩ s none insecure <;> rfl

/-- provider construction with a static issuer (the regenerated `StaticIssuer`) never lets an unacceptable issuer through -/
theorem c19_issuer_validation (parse : String → Go.R DiscURL) (issuer : String) (insecure : Bool) :
    monitorIssuer parse issuer insecure (constructIssuer parse (.static issuer) insecure).isOk = none := by
  rw [constructIssuer_isOk]
  simp only [monitorIssuer, issuerFn, staticIssuer_isOk]
  cases h : ValidateIssuer 0 parse issuer insecure with
  | error e => simp [Except.isOk, Except.toBool]
  | ok u => simp [Except.isOk, Except.toBool, (validateIssuer_iff parse issuer insecure).mp h]

/-- the rejections of the statement, one by one -/
theorem c19_issuer_rejections (parse : String → Go.R DiscURL) (issuer : String) (insecure : Bool) (u : DiscURL) (hp : parse issuer = .ok u) :
    ValidateIssuer 0 parse "" insecure ≠ .ok () ∧
    (u.Host = "" → ValidateIssuer 0 parse issuer insecure ≠ .ok ()) ∧
    (u.Fragment ≠ "" → ValidateIssuer 0 parse issuer insecure ≠ .ok ()) ∧
    (u.Query ≠ [] → ValidateIssuer 0 parse issuer insecure ≠ .ok ()) ∧
    (u.Scheme = "http" → insecure = false → ValidateIssuer 0 parse issuer insecure ≠ .ok ()) ∧
    (u.Scheme ≠ "https" → u.Scheme ≠ "http" → ValidateIssuer 0 parse issuer insecure ≠ .ok ()) := by
  refine ⟨?_, ?_, ?_, ?_, ?_, ?_⟩
  · intro h; have := (validateIssuer_iff parse "" insecure).mp h; simp [issuerAcceptable] at this
  all_goals (
    intros
    intro h
    have := (validateIssuer_iff parse issuer insecure).mp h
    simp_all [issuerAcceptable, DiscURL.Query])

theorem dynamicIssuer_scheme (host path : String) (insecure : Bool) :
    Go.hasPrefix (dynamicIssuer 0 host path insecure) (if insecure then "http://" else "https://") = true := by
  unfold dynamicIssuer
  cases insecure <;> simp only [Bool.false_eq_true, if_false, if_true] <;> split <;>
    simp [Go.hasPrefix, HAdd.hAdd, String.toList_append]

/-- issuer from request host / Forwarded header, over the REGENERATED `issuerFromForwardedOrHost` / `hostFromForwarded`: construction
    refuses a path with query or fragment, and the issuer produced for any request uses http only under the insecure opt-in —
    ∀ paths, hosts, forwarded hosts, parser behaviours -/
theorem c19_dynamic_issuer (parse : String → Go.R DiscURL) (path : String) (fromFwd : Bool) (insecure : Bool)
    (host : String) (fwd : Option String) :
    let s : IssuerStrategy := if fromFwd then .fromForwarded path else .fromHost path
    let acc := (constructIssuer parse s insecure).isOk
    monitorDynamicIssuer parse path insecure acc (if acc then requestIssuer parse s insecure host fwd else none) = none := by
  have key : ∀ c : DiscIssuerConfig,
      (let acc := (GenServe.issuerFromForwardedOrHost 0 parse fwdOracle path c insecure).isOk
       monitorDynamicIssuer parse path insecure acc
         (if acc then applyIssuer (GenServe.issuerFromForwardedOrHost 0 parse fwdOracle path c insecure) (requestOf host fwd) else none)) = none := by
    intro c
    cases hf : GenServe.issuerFromForwardedOrHost 0 parse fwdOracle path c insecure with
    | error e =>
      simp [monitorDynamicIssuer, Except.isOk, Except.toBool]
    | ok f =>
      obtain ⟨⟨u, hp, hv⟩, hfr⟩ := issuerFromForwardedOrHost_ok parse fwdOracle path c insecure f hf
      have h := (validateIssuerPath_iff u).mp hv
      have hpre := dynamicIssuer_scheme (effectiveHost fwdOracle c.headers (requestOf host fwd)) path insecure
      rw [← hfr] at hpre
      cases insecure <;> simp_all [monitorDynamicIssuer, applyIssuer, Except.isOk, Except.toBool, DiscURL.Query]
  cases fromFwd <;> simpa [constructIssuer_isOk, requestIssuer, issuerFn] using key _

/-! ### one request after another: the document is a function of THIS request only -/

theorem issuerFromContext_withIssuer (ctx : DiscCtx) (x : String) :
    GenServe.IssuerFromContext 0 (GenServe.ContextWithIssuer 0 ctx x) = x := by
  simp [GenServe.IssuerFromContext, GenServe.ContextWithIssuer, DiscCtx.WithValue, DiscCtx.Value, DiscCtxVal.asString]

/-- the second translation of the two document builders (with their context parameter) is the first one applied to
    `IssuerFromContext(ctx)` -/
theorem createDiscoveryConfig_ctx (ctx : DiscCtx) (c : Configuration) (st : OpStorage) :
    GenServe.CreateDiscoveryConfig 0 ctx c st = Gen.CreateDiscoveryConfig 0 (GenServe.IssuerFromContext 0 ctx) c := rfl

theorem createDiscoveryConfigV2_ctx (ctx : DiscCtx) (c : Configuration) (st : OpStorage) (eps : Endpoints) :
    GenServe.createDiscoveryConfigV2 0 ctx c st eps = Gen.createDiscoveryConfigV2 0 (GenServe.IssuerFromContext 0 ctx) c eps := rfl

theorem setIssuerCtx_eq (f : DiscReq → String) (w : DiscW) (r : DiscReq) (next : DiscHandler) :
    GenServe.setIssuerCtx 0 ⟨f⟩ w r next = next.ServeHTTP w (r.WithContext (GenServe.ContextWithIssuer 0 r.Context (f r))) := rfl

/-- **c19_document_per_request**: on both routers the response to a discovery request is exactly one document, and that document is
    `CreateDiscoveryConfig` / `createDiscoveryConfigV2` with `issuer := issuerFromRequest(THIS request)` and the provider's
    configuration — nothing else enters (the regenerated handlers are functions of the configuration, the writer and the request; a
    handler that remembers an earlier request has no translation) -/
theorem c19_document_per_request (i : Input) (f : DiscReq → String) (r : DiscReq) (hform : r.parseFormFails = false) :
    serve f (discoveryRoute i) r = [.json (discovery { i with issuer := f r })] := by
  unfold serve discoveryRoute discovery
  cases hr : i.cfg.router
  · simp [GenServe.IssuerInterceptor_Handler, GenServe.setIssuerCtx, GenServe.discoveryHandler, GenServe.opDiscover,
      Hand.discMarshalJSON, createDiscoveryConfig_ctx, DiscReq.WithContext, DiscReq.Context, issuerFromContext_withIssuer]
    rfl
  · simp [GenServe.IssuerInterceptor_Handler, GenServe.setIssuerCtx, GenServe.simpleHandler, GenServe.LegacyServer_Discovery,
      GenServe.Response_writeOut, Hand.discNewResponse, Hand.discMarshalJSON, createDiscoveryConfigV2_ctx, DiscReq.WithContext,
      DiscReq.Context, DiscReq.ParseForm, hform, issuerFromContext_withIssuer]
    rfl

/-- whatever was asked before: in ANY sequence of requests to one provider, every response is the document of its own request -/
theorem c19_no_state_between_requests (i : Input) (f : DiscReq → String) (rs : List DiscReq)
    (hform : ∀ r ∈ rs, r.parseFormFails = false) :
    rs.map (serve f (discoveryRoute i)) = rs.map (fun r => [.json (discovery { i with issuer := f r })]) :=
  List.map_congr_left (fun r hr => c19_document_per_request i f r (hform r hr))

/-- a request's document carries the issuer of that request, and requests with different issuers get different documents: the first
    request of a provider's life is not special -/
theorem c19_first_request_not_special (i : Input) (f : DiscReq → String) (first r : DiscReq)
    (h1 : first.parseFormFails = false) (h2 : r.parseFormFails = false) :
    (servedDoc (serve f (discoveryRoute i) r)).map (·.Issuer) = some (f r) ∧
    (f first ≠ f r → servedDoc (serve f (discoveryRoute i) r) ≠ servedDoc (serve f (discoveryRoute i) first)) := by
  rw [c19_document_per_request i f r h2, c19_document_per_request i f first h1]
  refine ⟨by simp [servedDoc, c19_issuer_eq], fun hne heq => hne ?_⟩
  simp only [servedDoc, Option.some.injEq] at heq
  have := congrArg DiscoveryConfiguration.Issuer heq
  simpa [c19_issuer_eq] using this.symm

/-! ### the issuer a request is entitled to (Spec) = the issuer the regenerated strategy computes -/

theorem len_pos_iff (s : String) : (decide ((Go.len s) > (0 : Int))) = (s != "") := by
  rw [Bool.eq_iff_iff]
  simp [Go.len, HasLen.len, Nat.pos_iff_ne_zero, String.utf8ByteSize_eq_zero_iff]

/-- `dynamicIssuer` is scheme://host + the path with the one leading slash it needs -/
theorem dynamicIssuer_eq (host path : String) (insecure : Bool) :
    dynamicIssuer 0 host path insecure = (if insecure then "http" else "https") ++ "://" ++ host ++ issuerPathSuffix path := by
  unfold dynamicIssuer issuerPathSuffix
  rw [len_pos_iff]
  by_cases h0 : path = ""
  · subst h0; cases insecure <;> simp [Go.hasPrefix, HAdd.hAdd]
  · cases hp : Go.hasPrefix path "/" <;> cases insecure <;> simp [h0, HAdd.hAdd, String.append_assoc]

/-- the forwarding headers of request `r` say what the sender of visit `v` put there (the oracle / request side of the tie;
    the driver checks it by computing `hostFromForwarded` on the observed headers with the library's answers) -/
def headersAgree (o : ServeOracles) (custom : Option (List String)) (v : Visit) (r : DiscReq) : Prop :=
  r.Host = v.host ∧
  ∀ p, v.strategy = .fromForwarded p →
    GenServe.hostFromForwarded 0 o.parseFwd r (v.strategy.issuerConfig custom).headers = fwdResult v.fwdHost

/-- for a provider that could be constructed, the issuer function it got names for every request exactly the issuer the
    specification entitles that request to -/
theorem c19_request_issuer (o : ServeOracles) (custom : Option (List String)) (insecure : Bool) (v : Visit) (r : DiscReq)
    (f : DiscReq → String) (hf : issuerFn o v.strategy custom insecure = .ok f) (hh : headersAgree o custom v r) :
    f r = issuerOfRequest insecure v := by
  obtain ⟨hhost, hfwd⟩ := hh
  cases hs : v.strategy <;> rw [hs] at hf <;> simp only [issuerFn] at hf
  case static iss =>
    rw [(staticIssuer_ok _ _ _ _ hf).2 r]
    simp [issuerOfRequest, hs]
  case fromHost path =>
    rw [(issuerFromForwardedOrHost_ok _ _ _ _ _ _ hf).2 r, dynamicIssuer_eq]
    simp [issuerOfRequest, hs, effectiveHost, IssuerStrategy.issuerConfig, hostFromForwarded_nil, hhost]
  case fromForwarded path =>
    have h2 := hfwd path hs
    rw [hs] at h2
    rw [(issuerFromForwardedOrHost_ok _ _ _ _ _ _ hf).2 r, dynamicIssuer_eq]
    cases hv : v.fwdHost <;> simp [issuerOfRequest, hs, effectiveHost, h2, hv, fwdResult, hhost]

/-- the address clause of a visit is the endpoint clause of the document monitor without the probe -/
theorem fieldAddressOK_of_fieldOK {c : Config} {o : Obs} {f : Field} (h : fieldOK c o f = true) : fieldAddressOK c o.doc f = true := by
  unfold fieldOK at h
  unfold fieldAddressOK
  simp only [] at h ⊢
  repeat' split
  all_goals simp_all

theorem fieldAddress_ok (i : Input) (hw : i.wellFormed) (f : Field) : fieldAddressOK i.cfg (discovery i) f = true :=
  fieldAddressOK_of_fieldOK (fields_ok i hw f)

theorem modelVisit_eq (i : Input) (f : DiscReq → String) (r : DiscReq) (kinds : List String) (hform : r.parseFormFails = false) :
    modelVisit i f r kinds =
      { status := 200, doc := discovery { i with issuer := f r }, tokenIssuers := kinds.map fun k => (k, f r) } := by
  unfold modelVisit
  rw [c19_document_per_request i f r hform]
  simp [servedDoc, issuerFromContext_withIssuer]

/-- **one visit**: for every configuration, every issuer strategy (with or without custom header names), every request — the
    document served to the request names the issuer that request is entitled to, which is the issuer of the tokens issued through
    it, and every advertised endpoint is the configured URL or relative to that issuer -/
theorem c19_visit_holds (i : Input) (hw : i.wellFormed) (o : ServeOracles) (custom : Option (List String)) (v : Visit) (r : DiscReq)
    (f : DiscReq → String) (kinds : List String)
    (hf : issuerFn o v.strategy custom i.cfg.insecure = .ok f) (hh : headersAgree o custom v r) (hform : r.parseFormFails = false) :
    monitorVisit i.cfg v (modelVisit i f r kinds) = none := by
  rw [modelVisit_eq i f r kinds hform]
  have hiss := c19_request_issuer o custom i.cfg.insecure v r f hf hh
  have hdoc : (discovery { i with issuer := f r }).Issuer = f r := c19_issuer_eq _
  have hfields : Field.all.find? (fun g => !fieldAddressOK i.cfg (discovery { i with issuer := f r }) g) = none := by
    simp [List.find?_eq_none, fieldAddress_ok { i with issuer := f r } hw]
  have htok : (kinds.map fun k => (k, f r)).find? (fun ki => ki.2 != f r) = none := by
    simp [List.find?_eq_none]
  unfold monitorVisit
  simp [hdoc, hiss.symm, hfields, htok]

/-- **every sequence**: whatever hosts ask, in whatever order, however often — no visit of the sequence fails -/
theorem c19_sequence_holds (i : Input) (hw : i.wellFormed) (o : ServeOracles) (custom : Option (List String)) (s : IssuerStrategy)
    (f : DiscReq → String) (kinds : List String) (hf : issuerFn o s custom i.cfg.insecure = .ok f)
    (visits : List (Visit × DiscReq))
    (hv : ∀ vr ∈ visits, vr.1.strategy = s ∧ headersAgree o custom vr.1 vr.2 ∧ vr.2.parseFormFails = false) :
    monitorSequence i.cfg (visits.map fun vr => (vr.1, modelVisit i f vr.2 kinds)) = none := by
  induction visits with
  | nil => rfl
  | cons vr rest ih =>
    obtain ⟨hs, hh, hform⟩ := hv vr (List.mem_cons_self)
    have h1 := c19_visit_holds i hw o custom vr.1 vr.2 f kinds (hs ▸ hf) hh hform
    have h2 := ih (fun x hx => hv x (List.mem_cons_of_mem _ hx))
    simp [monitorSequence, h1, h2]

/-! ### who serves the discovery route, and behind which middleware (regenerated facts, pinned) -/

/-- `Disco.discoveryRoute` / `Disco.serve` / `Disco.issuerFn` are hand-written compositions of regenerated functions. The
    expressions they stand for are read from the source on every run; if one of them changes this theorem fails and the
    composition has to be looked at again. -/
theorem serve_wiring_pinned :
    GenServe.wiring_CreateRouter = ("discoveryHandler(o, o.Storage())",
      ["cors.New(*opts).Handler", "cors.New(defaultCORSOptions).Handler", "intercept(o.IssuerFromRequest, interceptors...)"]) ∧
    GenServe.wiring_webServer_createRouter = ("simpleHandler(s, s.server.Discovery)", []) ∧
    GenServe.wiring_RegisterLegacyServer = ("", ["intercept(s.Provider().IssuerFromRequest)"]) ∧
    GenServe.src_intercept = "{ issuerInterceptor := NewIssuerInterceptor(i) return func(handler http.Handler) http.Handler { for i := len(interceptors) - 1; i >= 0; i-- { handler = interceptors[i](handler) } return issuerInterceptor.Handler(handler) } }" ∧
    GenServe.src_NewIssuerInterceptor = "{ return &IssuerInterceptor{ issuerFromRequest: issuerFromRequest, } }" ∧
    GenServe.src_Provider_IssuerFromRequest = "{ return o.issuer(r) }" := by
  -- `IssuerFromHost` / `IssuerFromForwardedOrHost` need no text pin: both are REGENERATED (Generated/ProviderC19.lean) and
  -- `C19.issuerFn_regenerated` / `issuerFromForwardedOrHost_opts` (Proofs/C19Construct.lean) prove that the hand-written
  -- `Disco.issuerFn` is what they build.
  exact ⟨rfl, rfl, rfl, rfl, rfl, rfl⟩

theorem discover_ok {nr : String → String → Option Unit → Go.R String} {hr : Int → Unit → String → Go.R DiscoveryConfiguration}
    {issuer : String} {c : Unit} {wk : List String} {d : DiscoveryConfiguration}
    (h : Discover 0 nr hr issuer c wk = .ok d) : d.Issuer = issuer ∧ ∃ req, hr 0 c req = .ok d := by
  unfold Discover at h
  repeat' (split at h <;> try (simp at h))
  all_goals (subst h; exact ⟨by simp_all, _, by assumption⟩)

/-- `client.Discover` hands a document back only if its issuer is the one asked for — for every transport behaviour -/
theorem discover_sound {nr : String → String → Option Unit → Go.R String} {hr : Int → Unit → String → Go.R DiscoveryConfiguration}
    {issuer : String} {c : Unit} {wk : List String} {d : DiscoveryConfiguration}
    (h : Discover 0 nr hr issuer c wk = .ok d) : d.Issuer = issuer := (discover_ok h).1

/-- whatever document the transport delivers, whatever well-known override is used: the monitor is satisfied -/
theorem c19_rp_rejects_foreign_issuer (nr : String → String → Option Unit → Go.R String) (asked : String) (wk : List String)
    (served : DiscoveryConfiguration) :
    monitorDiscover asked served.Issuer
      (match Discover 0 nr (fun _ _ _ => .ok served) asked () wk with | .ok d => some d.Issuer | .error _ => none) = none := by
  cases h : Discover 0 nr (fun _ _ _ => .ok served) asked () wk with
  | error e => rfl
  | ok d =>
    obtain ⟨h1, _, h2⟩ := discover_ok h
    cases h2
    simp [monitorDiscover, h1]

def exEndpoints : Endpoints :=
  { Authorization := { path := "authorize" }, Token := { path := "oauth/token" }, Introspection := { path := "oauth/introspect" },
    Userinfo := { path := "userinfo" }, Revocation := { path := "revoke" }, EndSession := { path := "end_session" },
    JwksURI := { path := "keys" }, DeviceAuthorization := { path := "/device_authorization" } }

def exInput : Input :=
  { cfg := { router := .provider, endpoints := exEndpoints, flags := { CodeMethodS256 := true, GrantTypeRefreshToken := true },
             caps := { is_TokenExchangeStorage := true } },
    providerEndpoints := exEndpoints, issuer := "https://op.example" }

/-- a concrete configuration is well-formed and satisfies the monitor … -/
example : monitor exInput.cfg (modelObs exInput) = none := c19_holds exInput fun _ => ⟨rfl, rfl⟩
example : (modelObs exInput).doc.TokenEndpoint = "https://op.example/oauth/token" := by decide +kernel
example : Const.GrantTypeRefreshToken ∈ (modelObs exInput).doc.GrantTypesSupported ∧
    Const.GrantTypeClientCredentials ∉ (modelObs exInput).doc.GrantTypesSupported := by decide +kernel
/-- … and the monitor is not vacuous: advertising a grant the token endpoint refuses, an unserved address, a stale
    address on the second router, or a foreign issuer are all flagged -/
example : monitor exInput.cfg { modelObs exInput with doc := { (modelObs exInput).doc with
    GrantTypesSupported := (modelObs exInput).doc.GrantTypesSupported ++ [Const.GrantTypeClientCredentials] } } = some "grant-types" := by decide +kernel
example : monitor exInput.cfg { modelObs exInput with probe := [(.token, 404)] } = some "endpoint:authorization_endpoint" := by decide +kernel
example : monitor { exInput.cfg with router := .legacy, endpoints := { exEndpoints with DeviceAuthorization := .nilPtr } }
    (modelObs exInput) = some "endpoint:device_authorization_endpoint" := by decide +kernel
example : monitor exInput.cfg { modelObs exInput with tokenIssuer := some "https://other.example" } = some "issuer-differs-from-token-issuer" := by decide +kernel

def exParse : String → Go.R DiscURL
  | "https://op.example" => .ok { Scheme := "https", Host := "op.example" }
  | "http://op.example" => .ok { Scheme := "http", Host := "op.example" }
  | "https://op.example?x=1" => .ok { Scheme := "https", Host := "op.example", query := ["x"] }
  | "https:///path" => .ok { Scheme := "https" }
  | _ => .error "parse"

example : ValidateIssuer 0 exParse "https://op.example" false = .ok () := by rfl
example : ValidateIssuer 0 exParse "http://op.example" true = .ok () := by rfl
example : ValidateIssuer 0 exParse "http://op.example" false = .error "ErrInvalidIssuerHTTPS" := by rfl
example : ValidateIssuer 0 exParse "https://op.example?x=1" false = .error "ErrInvalidIssuerPath" := by rfl
example : ValidateIssuer 0 exParse "https:///path" false = .error "ErrInvalidIssuerMissingHost" := by rfl
example : ValidateIssuer 0 exParse "" true = .error "ErrInvalidIssuerNoIssuer" := by rfl
example : monitorIssuer exParse "http://op.example" false true = some "bad-issuer-accepted" := by decide +kernel
example : Discover 0 (fun _ u _ => .ok u) (fun _ _ _ => .ok { Issuer := "https://op.example" }) "https://op.example" () [] =
    .ok { Issuer := "https://op.example" } := by rfl
example : Discover 0 (fun _ u _ => .ok u) (fun _ _ _ => .ok { Issuer := "https://evil.example" }) "https://op.example" () [] =
    .error "ErrIssuerInvalid" := by rfl
example : monitorDiscover "https://op.example" "https://evil.example" (some "https://evil.example") = some "foreign-issuer-accepted" := by decide +kernel

def exOracles : ServeOracles :=
  { urlParse := fun s => if s == "/oidc" || s == "" || s == "realm" then .ok {} else if s == "/x?y=1" then .ok { query := ["y"] } else .error "parse",
    parseFwd := fun _ vs => match vs with
      | ["for=192.0.2.1;host=\"pub.example\";proto=https"] => .ok ["pub.example"]
      | ["for=192.0.2.1"] => .ok []
      | [] => .ok []
      | _ => .error "malformed" }

def exReqA : DiscReq := { Host := "a.example" }
def exReqB : DiscReq := { Host := "b.example:8443" }
def exReqFwd : DiscReq := { Host := "internal.local", headers := [("Forwarded", ["for=192.0.2.1;host=\"pub.example\";proto=https"])] }
def exReqBadFwd : DiscReq := { Host := "internal.local", headers := [("Forwarded", ["for=;;"])] }

/-- the regenerated strategies on concrete requests: host, forwarded host, fallback on a malformed header, custom header names,
    refused path -/
example : applyIssuer (issuerFn exOracles (.fromHost "/oidc") none false) exReqA = some "https://a.example/oidc" := by decide +kernel
example : applyIssuer (issuerFn exOracles (.fromHost "realm") none true) exReqB = some "http://b.example:8443/realm" := by decide +kernel
example : applyIssuer (issuerFn exOracles (.fromForwarded "") none false) exReqFwd = some "https://pub.example" := by decide +kernel
example : applyIssuer (issuerFn exOracles (.fromForwarded "") none false) exReqBadFwd = some "https://internal.local" := by decide +kernel
example : applyIssuer (issuerFn exOracles (.fromForwarded "") (some ["X-Forwarded"]) false) exReqFwd = some "https://internal.local" := by decide +kernel
example : applyIssuer (issuerFn exOracles (.fromHost "") none false) exReqFwd = some "https://internal.local" := by decide +kernel
example : (issuerFn exOracles (.fromHost "/x?y=1") none false).isOk = false := by decide +kernel

def exVisitA : Visit := { strategy := .fromHost "/oidc", host := "a.example" }
def exVisitB : Visit := { strategy := .fromHost "/oidc", host := "b.example:8443" }
def exHostFn : DiscReq → String := fun r => "https://" ++ r.Host ++ "/oidc"

/-- the hypotheses of `c19_visit_holds` are satisfiable, and its conclusion can be computed on a concrete sequence a, b, a … -/
example : headersAgree exOracles none exVisitA exReqA := ⟨rfl, fun p h => by simp [exVisitA] at h⟩
example : applyIssuer (issuerFn exOracles (.fromHost "/oidc") none false) exReqB = some (exHostFn exReqB) := by decide +kernel
example : monitorSequence exInput.cfg
    [(exVisitA, modelVisit exInput exHostFn exReqA ["id", "at"]), (exVisitB, modelVisit exInput exHostFn exReqB ["id"]),
     (exVisitA, modelVisit exInput exHostFn exReqA [])] = none := by decide +kernel
example : (modelVisit exInput exHostFn exReqB ["id"]).doc.TokenEndpoint = "https://b.example:8443/oidc/oauth/token" := by decide +kernel
/-- … and the monitor is not vacuous: a provider that keeps serving the document it built for the FIRST host (host a) is flagged at
    the first visit of another host, with the position of that visit in the sequence; so are a token of another issuer and an
    endpoint that is relative to another host's issuer -/
example : monitorSequence exInput.cfg
    [(exVisitA, modelVisit exInput exHostFn exReqA ["id"]), (exVisitB, { modelVisit exInput exHostFn exReqA [] with tokenIssuers := [("id", exHostFn exReqB)] })]
    = some (1, "document-issuer-not-of-this-request") := by decide +kernel
example : monitorVisit exInput.cfg exVisitB { modelVisit exInput exHostFn exReqB [] with tokenIssuers := [("id", exHostFn exReqB), ("at", exHostFn exReqA)] }
    = some "issuer-differs-from-token-issuer:at" := by decide +kernel
example : monitorVisit exInput.cfg exVisitB { modelVisit exInput exHostFn exReqB [] with
    doc := { (modelVisit exInput exHostFn exReqB []).doc with UserinfoEndpoint := (modelVisit exInput exHostFn exReqA []).doc.UserinfoEndpoint } }
    = some "endpoint:userinfo_endpoint" := by decide +kernel
/-- a Server-router request whose form cannot be parsed gets an error, not a document (the hypothesis of `c19_document_per_request`) -/
example : serve exHostFn (discoveryRoute { exInput with cfg := { exInput.cfg with router := .legacy } }) { exReqA with parseFormFails := true }
    = [.error "ErrInvalidRequest"] := by decide +kernel

end C19
