/-
  C03, layer 1: ONE characterisation lemma per translated function of the authorization endpoint (Generated/Authorize.lean,
  Generated/AuthorizeShell.lean): `Gen.f args = <hand-readable spec>` or `Gen.f args = .ok x ↔ <what it means>`.  The scripts do not
  depend on the shape of the Go text: `go_char`, or, for an equation against a spec function, `go_spec` (both GoTac.lean): the case analysis of the
  SPEC with the regenerated body evaluated by `simp_all` along the conditions of each case.  These are the proofs in which a
  regenerated definition is unfolded; Proofs/C03.lean (layer 2) uses the lemmas and the spec functions below.
-/
import OidcModel.Spec.C03
import OidcModel.Model.AuthzFlow
import OidcModel.GoTac

namespace C03
open Go Gen Hand Authz

-- the simp sets below name every getter the Go text may read a field through, on whichever path it does so
set_option linter.unusedSimpArgs false

theorem containsResponseType_eq (now : Int) (ts : List String) (t : String) : ContainsResponseType now ts t = ts.contains t := by
  go_char ContainsResponseType

theorem isConfidentialType_eq (now : Int) (c : OPClient) : IsConfidentialType now c = confidential c := by
  go_char IsConfidentialType confidential OPClient.ApplicationType

theorem equalURI_eq (now : Int) (a b : URL) : equalURI now a b = (a.Path == b.Path && a.RawQuery == b.RawQuery) := by
  go_char equalURI

def loopSpec (o : UriOracle) (u : String) : URL × Bool :=
  match o.urlParse u with
  | .error _ => (Go.nil, false)
  | .ok p =>
    if p.Scheme == "http" || p.Scheme == "https" then (p, p.Hostname == "localhost" || (o.parseIP p.Hostname).IsLoopback)
    else (Go.nil, false)

theorem loopback_eq (now : Int) (o : UriOracle) (u : String) : HTTPLoopbackOrLocalhost now o u = loopSpec o u := by
  unfold loopSpec
  go_char HTTPLoopbackOrLocalhost

def respFrag (rt mode : String) : Bool :=
  if mode == Const.ResponseModeQuery then false
  else if mode == Const.ResponseModeFragment then true
  else rt == Const.ResponseTypeIDToken || rt == Const.ResponseTypeIDTokenOnly

theorem authResponseURL_eq (now : Int) (o : UriOracle) (uri rt mode : String) (p : RespParams) (enc : Encoder) :
    AuthResponseURL now o uri rt mode p enc =
      match o.urlParse uri with
      | .error _ => .error "ErrServerError"
      | .ok pu => if enc.encodeFails then .error "ErrServerError" else .ok (.response pu.raw (respFrag rt mode) p) := by
  unfold respFrag
  go_spec [AuthResponseURL, URLEncodeParams, mergeQueryParams, setFragment] <;> grind

theorem authResponseURL_iff {now : Int} {o : UriOracle} {uri rt mode : String} {p : RespParams} {enc : Encoder} {u : OutURL} :
    AuthResponseURL now o uri rt mode p enc = .ok u ↔
      ∃ pu, o.urlParse uri = .ok pu ∧ enc.encodeFails = false ∧ u = .response pu.raw (respFrag rt mode) p := by
  rw [authResponseURL_eq]
  cases o.urlParse uri <;> cases enc.encodeFails <;> simp [eq_comm]

def E : String := "ErrInvalidRequestRedirectURI"

/-- one iteration of the glob loop: a malformed pattern leaves with the error, a match with success, otherwise on -/
def globStep (o : UriOracle) (uri g : String) : Option (Go.R Unit) :=
  match o.globMatch g uri with
  | .error _ => some (.error E)
  | .ok m => if m then some (.ok ()) else none

/-- `checkURIAgainstRedirects`: literal membership, else the first opted-in glob that matches (a malformed pattern ends the search) -/
def checkSpec (o : UriOracle) (c : OPClient) (uri : String) : Go.R Unit :=
  if c.redirectURIs.contains uri then .ok ()
  else
    match c.globs with
    | none => .error E
    | some gs =>
      match Go.forRange gs (globStep o uri) with
      | some r => r
      | none => .error E

/-- lets a characterisation lemma replace the regenerated loop body, whatever its shape, by a named step function -/
theorem forRange_congr {α β : Type} {l : List α} {f g : α → Option β} (h : ∀ x, f x = g x) : Go.forRange l f = Go.forRange l g := by
  rw [funext h]

theorem checkURI_eq (now : Int) (o : UriOracle) (c : OPClient) (uri : String) :
    checkURIAgainstRedirects now o c uri = checkSpec o c uri := by
  unfold checkURIAgainstRedirects checkSpec
  simp only []
  rw [forRange_congr (g := globStep o uri)]
  · cases hg : c.globs
    all_goals go_spec [OPClient.RedirectURIs, OPClient.RedirectURIGlobs, OPClient.is_HasRedirectGlobs, Go.contains, Go.ok, Go.forRange, E]
  · intro g
    unfold globStep
    go_spec [Go.ok, E]

def nativeSpec (now : Int) (o : UriOracle) (c : OPClient) (uri : String) : Go.R Unit :=
  match checkURIAgainstRedirects now o c uri with
  | .ok _ =>
    if c.devMode || (HTTPLoopbackOrLocalhost now o uri).2 || Go.hasPrefix uri "https://" || !Go.hasPrefix uri "http://" then .ok () else .error E
  | .error _ =>
    if !(HTTPLoopbackOrLocalhost now o uri).2 then .error E
    else
      match Go.forRange c.redirectURIs (fun reg =>
          if (HTTPLoopbackOrLocalhost now o reg).2 && equalURI now (HTTPLoopbackOrLocalhost now o uri).1 (HTTPLoopbackOrLocalhost now o reg).1
          then some (.ok ()) else none) with
      | some r => r
      | none => .error E

theorem native_eq (now : Int) (o : UriOracle) (c : OPClient) (uri : String) :
    validateAuthReqRedirectURINative now o c uri = nativeSpec now o c uri := by
  unfold nativeSpec E
  go_spec [validateAuthReqRedirectURINative, OPClient.RedirectURIs, OPClient.DevMode, Go.ok] <;> grind

def validateURISpec (now : Int) (o : UriOracle) (c : OPClient) (uri rt : String) : Go.R Unit :=
  if uri == "" then .error E
  else if isNative c then validateAuthReqRedirectURINative now o c uri
  else
    match checkURIAgainstRedirects now o c uri with
    | .error e => .error e
    | .ok _ =>
      if Go.hasPrefix uri "https://" then .ok ()
      else if Go.hasPrefix uri "http://" then
        (if c.devMode || (rt == Const.ResponseTypeCode && IsConfidentialType now c) then .ok () else .error E)
      else .error E

theorem validateRedirectURI_eq (now : Int) (o : UriOracle) (c : OPClient) (uri rt : String) :
    ValidateAuthReqRedirectURI now o c uri rt = validateURISpec now o c uri rt := by
  unfold validateURISpec E isNative
  go_spec [ValidateAuthReqRedirectURI, OPClient.ApplicationType, OPClient.DevMode, Go.ok] <;> grind

/-- `ValidateAuthRequestClient` succeeds only after the redirect URI was validated … (stated as an implication, not as an equation
    with a fixed order: the order of the guards that do NOT concern the redirect URI is free) -/
theorem validateClient_ok_char {now : Int} {o : UriOracle} {d : AuthDeps} {a : AuthRequestData} {c : OPClient} {sub : String} :
    ValidateAuthRequestClient now o d a c () = .ok sub → ValidateAuthReqRedirectURI now o c a.RedirectURI a.ResponseType = .ok () := by
  go_char ValidateAuthRequestClient

/-- … and every error it returns is either the error of the redirect-URI validation itself, or was raised after that validation
    succeeded: nothing is raised BEFORE the redirect URI has been checked -/
theorem validateClient_err_char {now : Int} {o : UriOracle} {d : AuthDeps} {a : AuthRequestData} {c : OPClient} {e : String} :
    ValidateAuthRequestClient now o d a c () = .error e →
      ValidateAuthReqRedirectURI now o c a.RedirectURI a.ResponseType = .error e ∨
      ValidateAuthReqRedirectURI now o c a.RedirectURI a.ResponseType = .ok () := by
  go_char ValidateAuthRequestClient

/-- the response mode the error paths hand to `AuthResponseURL` -/
def errMode (a : ErrReq) : String := if a.is_has_GetResponseMode then a.responseMode else ""

/-- `AuthRequestError`: a direct page, or a 302 to the URL `AuthResponseURL` builds on the request's own redirect URI -/
def errSpec (now : Int) (o : UriOracle) (a : ErrReq) (err : String) (enc : Encoder) : List Write :=
  if a.nilp then [.page 400]
  else if a.redirectURI == "" || (DefaultToServerError now err err).redirectDisabled then [.page 400]
  else
    match AuthResponseURL now o a.redirectURI a.responseType (errMode a) { kind := "error", err := (DefaultToServerError now err err).name } enc with
    | .error _ => [.page 400]
    | .ok u => [.redirect u]

theorem authRequestError_eq (now : Int) (o : UriOracle) (a : ErrReq) (err : String) (p : AzProvider) :
    AuthRequestError now o a err p = errSpec now o a err p.Encoder := by
  unfold errSpec errMode
  -- the two optional interfaces of the request value decide nothing the spec distinguishes
  cases hs : a.is_AuthRequestSessionState <;> cases hm : a.is_has_GetResponseMode
  all_goals go_spec [AuthRequestError, Hand.httpError, Hand.httpRedirect, ErrReq.GetRedirectURI, ErrReq.GetResponseType,
    ErrReq.GetResponseMode, ErrReq.GetState, ErrReq.GetSessionState, OidcError.IsRedirectDisabled, Go.isNil, Nilable.isNil]

/-- `TryErrorRedirect`: the same decision, as a value -/
def tryErrSpec (now : Int) (o : UriOracle) (a : ErrReq) (err : String) (enc : Encoder) : Go.R Redirect :=
  if a.nilp then .error (AsStatusError now (DefaultToServerError now err err) 400)
  else if a.redirectURI == "" || (DefaultToServerError now err err).redirectDisabled then .error (AsStatusError now (DefaultToServerError now err err) 400)
  else
    match AuthResponseURL now o a.redirectURI a.responseType (errMode a) { kind := "error", err := (DefaultToServerError now err err).name } enc with
    | .error e => .error (AsStatusError now e 400)
    | .ok u => .ok ⟨u⟩

theorem tryErrorRedirect_eq (now : Int) (o : UriOracle) (a : ErrReq) (err : String) (enc : Encoder) (lg : Unit) :
    TryErrorRedirect now o a err enc lg = tryErrSpec now o a err enc := by
  unfold tryErrSpec errMode
  cases hs : a.is_AuthRequestSessionState <;> cases hm : a.is_has_GetResponseMode
  all_goals go_spec [TryErrorRedirect, NewRedirect, ErrReq.GetRedirectURI, ErrReq.GetResponseType, ErrReq.GetResponseMode,
    ErrReq.GetState, ErrReq.GetSessionState, OidcError.IsRedirectDisabled, Go.isNil, Nilable.isNil]

def formPostSpec (tm : AzFormTemplate) (uri : String) (p : RespParams) (enc : Encoder) : Go.R (List Write) :=
  if enc.formPostFails then .error "ErrServerError"
  else
    match tm.Execute ⟨uri, p⟩ with
    | .error _ => .error "ErrServerError"
    | .ok page => .ok [.formPost page.action]

theorem formPost_eq (now : Int) (tm : AzFormTemplate) (uri : String) (p : RespParams) (enc : Encoder) :
    Hand.runFormPost (AuthResponseFormPost now tm) uri p enc = formPostSpec tm uri p enc := by
  unfold formPostSpec
  go_char Hand.runFormPost AuthResponseFormPost Encoder.Encode Hand.formPostParams Hand.resWriteHeader Hand.bufWriteTo Go.ok

def respSpec (now : Int) (o : UriOracle) (d : AuthDeps) (a : AzStored) (p : AzProvider) (ps : RespParams) : List Write :=
  if a.responseMode == Const.ResponseModeFormPost then
    match Hand.runFormPost (AuthResponseFormPost now d.FormTemplate) a.redirectURI ps p.Encoder with
    | .error e => AuthRequestError now o a e p
    | .ok ws => ws
  else
    match AuthResponseURL now o a.redirectURI a.responseType a.responseMode ps p.Encoder with
    | .error e => AuthRequestError now o a e p
    | .ok u => [.redirect u]

theorem authResponseCode_eq (now : Int) (o : UriOracle) (d : AuthDeps) (a : AzStored) (p : AzProvider) :
    AuthResponseCode now o d a p =
      match d.CreateAuthRequestCode a p.Storage p.Crypto with
      | .error e => AuthRequestError now o a e p
      | .ok _ => respSpec now o d a p { kind := "code" } := by
  unfold respSpec
  cases hs : a.is_AuthRequestSessionState
  all_goals go_spec [AuthResponseCode, Hand.codeResponse, Hand.httpRedirect, AzStored.GetRedirectURI, AzStored.GetResponseMode,
    AzStored.GetResponseType, AzStored.GetState, AzStored.GetSessionState]

theorem authResponseToken_eq (now : Int) (o : UriOracle) (d : AuthDeps) (a : AzStored) (p : AzProvider) (c : OPClient) :
    AuthResponseToken now o d a p c =
      match d.CreateTokenResponse a c p (a.responseType != Const.ResponseTypeIDTokenOnly) "" "" with
      | .error e => AuthRequestError now o a e p
      | .ok resp => respSpec now o d a p resp := by
  unfold respSpec
  cases hs : a.is_AuthRequestSessionState
  all_goals go_spec [AuthResponseToken, Hand.tokenResponse, Hand.httpRedirect, AzStored.GetRedirectURI, AzStored.GetResponseMode,
    AzStored.GetResponseType, AzStored.GetState, AzStored.GetSessionState]

theorem authResponse_eq (now : Int) (o : UriOracle) (d : AuthDeps) (a : AzStored) (p : AzProvider) :
    AuthResponse now o d a p =
      match p.Storage.GetClientByClientID a.clientID with
      | .error e => AuthRequestError now o a e p
      | .ok c => if a.responseType == Const.ResponseTypeCode then AuthResponseCode now o d a p else AuthResponseToken now o d a p c := by
  go_char AuthResponse AzStored.GetClientID AzStored.GetResponseType

theorem parseCallback_iff {now : Int} {r : AzHttpReq} {id : String} :
    ParseAuthorizeCallbackRequest now r = .ok id ↔ (∃ u, r.ParseForm = .ok u) ∧ id = r.Form.Get "id" ∧ id ≠ "" := by
  go_char ParseAuthorizeCallbackRequest

theorem authorizeCallback_eq (now : Int) (o : UriOracle) (d : AuthDeps) (r : AzHttpReq) (p : AzProvider) :
    AuthorizeCallback now o d r p =
      match ParseAuthorizeCallbackRequest now r with
      | .error e => AuthRequestError now o Go.nil e p
      | .ok id =>
        match p.Storage.AuthRequestByID id with
        | .error e => AuthRequestError now o Go.nil e p
        | .ok a => if a.done then AuthResponse now o d a p else AuthRequestError now o a "ErrInteractionRequired" p := by
  go_char AuthorizeCallback AzStored.Done

theorem redirectToLogin_eq (now : Int) (a : AzStored) (c : OPClient) : RedirectToLogin now a c = [.redirect (.login c.id a)] := by
  go_char RedirectToLogin Hand.httpRedirect OPClient.LoginURL

/-- the request after request-object processing (same condition on both routers) -/
def effective (requestObjects : Bool) (d : AuthDeps) (stg : AzStorage) (a : AuthRequestData) : AuthRequestData :=
  if a.RequestParam != "" && requestObjects then
    match d.ParseRequestObject a stg "" with
    | .ok a' => a'
    | .error _ => a
  else a

/-- the client lookup that ends `LegacyServer.VerifyAuthRequest` -/
def lookupSpec (now : Int) (s : AzLegacyServer) (a : AuthRequestData) : Go.R (ClientRequest AuthRequestData) :=
  if a.ClientID == "" then .error "ErrInvalidRequest"
  else
    match s.provider.Storage.GetClientByClientID a.ClientID with
    | .error e => .error (DefaultToServerError now e "unable to retrieve client by id").name
    | .ok c => .ok { Data := a, Client := c }

/-- `LegacyServer.VerifyAuthRequest`: request object (when present and supported), then the client lookup -/
def verifySpec (now : Int) (d : AuthDeps) (s : AzLegacyServer) (a : AuthRequestData) : Go.R (ClientRequest AuthRequestData) :=
  if a.RequestParam = "" then lookupSpec now s a
  else if s.provider.RequestObjectSupported then
    match d.ParseRequestObject a s.provider.Storage "" with
    | .error e => .error e
    | .ok a' => lookupSpec now s a'
  else .error "ErrRequestNotSupported"

theorem legacyVerify_eq (now : Int) (d : AuthDeps) (s : AzLegacyServer) (form : FormVals) (a : AuthRequestData) :
    LegacyVerifyAuthRequest now d s { Form := form, Data := a } = verifySpec now d s a := by
  unfold verifySpec lookupSpec
  go_spec [LegacyVerifyAuthRequest, Hand.mkClientRequest]

def legacyAuthorizeSpec (now : Int) (o : UriOracle) (d : AuthDeps) (s : AzLegacyServer) (cr : ClientRequest AuthRequestData) : Go.R Redirect :=
  match d.ValidateAuthReqIDTokenHint cr.Data.IDTokenHint s.provider.IDTokenHintVerifier with
  | .error e => .error e
  | .ok u =>
    match s.provider.Storage.CreateAuthRequest cr.Data u with
    | .error e => TryErrorRedirect now o cr.Data (DefaultToServerError now e "unable to save auth request").name s.provider.Encoder s.provider.Logger
    | .ok req => .ok ⟨.login cr.Client.id req⟩

theorem legacyAuthorize_eq (now : Int) (o : UriOracle) (d : AuthDeps) (s : AzLegacyServer) (cr : ClientRequest AuthRequestData) :
    LegacyAuthorize now o d s cr = legacyAuthorizeSpec now o d s cr := by
  unfold legacyAuthorizeSpec
  go_char LegacyAuthorize NewRedirect OPClient.LoginURL AzStored.GetID

/-- `webServer.authorize` returns a redirect only for a verified request whose redirect URI passed the validation, and then it is
    the redirect `LegacyServer.Authorize` built (implication: the order of the other guards is free) -/
theorem webAuthorize_ok_char {now : Int} {o : UriOracle} {d : AuthDeps} {s : AzWebServer} {r : Request AuthRequestData} {red : Redirect} :
    WebAuthorize now o d s r = .ok red →
      ∃ cr, LegacyVerifyAuthRequest now d s.server r = .ok cr ∧
        ValidateAuthReqRedirectURI now o cr.Client cr.Data.RedirectURI cr.Data.ResponseType = .ok () ∧
        LegacyAuthorize now o d s.server cr = .ok red := by
  go_char WebAuthorize

/-- what the handlers of both routers decode from the raw HTTP request -/
def decodedReq (r : AzHttpReq) (dec : AzDecoder) : Go.R AuthRequestData :=
  match r.ParseForm with
  | .error e => .error e
  | .ok _ => dec.Decode r.Form

theorem parseAuthorizeRequest_ok {now : Int} {r : AzHttpReq} {dec : AzDecoder} {a : AuthRequestData} :
    GenAz.ParseAuthorizeRequest now r dec = .ok a ↔ decodedReq r dec = .ok a := by
  unfold decodedReq
  go_char GenAz.ParseAuthorizeRequest

theorem decodeRequest_ok {now : Int} {r : AzHttpReq} {dec : AzDecoder} {a : AuthRequestData} :
    GenAz.decodeRequest now dec r false = .ok a ↔ decodedReq r dec = .ok a := by
  unfold decodedReq
  go_char GenAz.decodeRequest

theorem writeError_eq (now : Int) (e : OidcError) (code : Int) (lg : Unit) : GenAz.writeError now e code lg = [.page code] := by
  go_char GenAz.writeError Hand.marshalJSONWithStatus

/-- the status `WriteError` answers with -/
def errStatus (now : Int) (err : String) : Int :=
  if (Hand.azErrorsAs err {}).1 then (Hand.azErrorsAs err {}).2.statusCode
  else if (DefaultToServerError now err err).ErrorType == "server_error" then 500 else 400

theorem WriteError_eq (now : Int) (err : String) (lg : Unit) : GenAz.WriteError now err lg = [.page (errStatus now err)] := by
  unfold errStatus
  go_char GenAz.WriteError writeError_eq

theorem redirectWriteOut_eq (now : Int) (red : Redirect) : GenAz.RedirectWriteOut now red = [.redirect red.URL] := by
  go_char GenAz.RedirectWriteOut Hand.httpRedirect

theorem webAuthorizeHandler_eq (now : Int) (o : UriOracle) (d : AuthDeps) (s : AzWebServer) (r : AzHttpReq) :
    GenAz.WebAuthorizeHandler now o d s r =
      match GenAz.decodeRequest now s.decoder r false with
      | .error e => [.page (errStatus now e)]
      | .ok a =>
        match WebAuthorize now o d s { Form := r.Form, Data := a } with
        | .error e => [.page (errStatus now e)]
        | .ok red => [.redirect red.URL] := by
  go_char GenAz.WebAuthorizeHandler WriteError_eq redirectWriteOut_eq Hand.azNewRequest

theorem copyRequestObject_spec (now : Int) (a : AuthRequestData) (ro : AzRequestObject) :
    (GenAz.CopyRequestObjectToAuthRequest now a ro).RedirectURI = (if ro.RedirectURI != "" then ro.RedirectURI else a.RedirectURI) ∧
    (GenAz.CopyRequestObjectToAuthRequest now a ro).State = (if ro.State != "" then ro.State else a.State) ∧
    (GenAz.CopyRequestObjectToAuthRequest now a ro).ResponseMode = (if ro.ResponseMode != "" then ro.ResponseMode else a.ResponseMode) ∧
    (GenAz.CopyRequestObjectToAuthRequest now a ro).ClientID = a.ClientID ∧
    (GenAz.CopyRequestObjectToAuthRequest now a ro).ResponseType = a.ResponseType ∧
    (GenAz.CopyRequestObjectToAuthRequest now a ro).RequestParam = "" := by
  simp only [GenAz.CopyRequestObjectToAuthRequest, apply_ite AuthRequestData.RedirectURI, apply_ite AuthRequestData.State,
    apply_ite AuthRequestData.ResponseMode, apply_ite AuthRequestData.ClientID, apply_ite AuthRequestData.ResponseType,
    ite_self, and_self]

theorem parseRequestObject_ok {now : Int} {ro : AzRoOracle} {a a' : AuthRequestData} {stg : AzStorage} {iss : String}
    (h : GenAz.ParseRequestObject now ro a stg iss = .ok a') :
    ∃ payload claims claims', ro.ParseToken a.RequestParam = .ok (payload, claims) ∧
      (claims.ClientID = "" ∨ claims.ClientID = a.ClientID) ∧ (claims.ResponseType = "" ∨ claims.ResponseType = a.ResponseType) ∧
      claims.Issuer = claims.ClientID ∧ claims.Audience.contains iss = true ∧
      ro.CheckSignature a.RequestParam payload claims [] (stg, claims.Issuer) = .ok claims' ∧
      a' = GenAz.CopyRequestObjectToAuthRequest now a claims' := by
  simp only [GenAz.ParseRequestObject, Hand.azKeySet, Go.contains, Go.nil, HasNil.nilv] at h
  repeat' (split at h <;> try (simp at h; done))
  all_goals simp_all <;> grind

theorem authRequestError_nil_eq (now : Int) (o : UriOracle) (err : String) (p : AzProvider) :
    AuthRequestError now o (Go.nil : ErrReq) err p = [.page 400] := by
  rw [authRequestError_eq]
  simp [errSpec, Go.nil, HasNil.nilv]

/-- `op.Authorize`, for a provider that is not a custom `AuthorizeValidator` (the library's own Provider is not): parse, request
    object, missing-parameter checks, client lookup + `ValidateAuthRequestClient` (the validation closure), `request` parameter
    left over, store, login redirect - `Authz.providerAuthorize` is the hand-readable spec -/
theorem authorize_eq (now : Int) (o : UriOracle) (d : AuthDeps) (r : AzHttpReq) (p : AzProvider) (hv : p.is_AuthorizeValidator = false) :
    GenAz.Authorize now o d r p = providerAuthorize now o d p r := by
  -- the cases are those of the spec; on each of them the handler is evaluated along the path conditions.  The spec's one
  -- compound test is decided first: the negation of a conjunction is no rewrite rule, its conjuncts are.  The two
  -- missing-parameter answers are the same page (`authRequestError_nil_eq`), so their order does not matter
  unfold providerAuthorize providerAuthorizeCore
  cases hro : p.RequestObjectSupported
  all_goals
    simp only [Bool.and_false, Bool.and_true]
    go_spec [GenAz.Authorize, Go.isNil, Nilable.isNil, authRequestError_nil_eq]

end C03
