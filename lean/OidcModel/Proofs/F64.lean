/-
  What the range guards of `(*oidc.Time).UnmarshalJSON` ask of a float (Model/CodecGen.lean, `Cdc.F64`): comparison with an integer
  constant, negation of a constant, `x != x`, conversion to int64.  Stated about the atoms, whatever their order, polarity or nesting
  in the Go text; used by the decoder theorems of C01 (Proofs/C01Time.lean) and C12 (Proofs/C12.lean).
-/
import OidcModel.Model.CodecGen

namespace Cdc

theorem two63 : GoX.shl 1 63 = 9223372036854775808 := by decide

namespace F64

theorem bne_self (a : F64) : (a != a) = a.nan := by
  show (!(!a.nan && !a.nan && a.floor == a.floor && a.frac == a.frac)) = a.nan
  cases a.nan <;> simp

theorem neg_int (n : Int) : -({ floor := n } : F64) = { floor := -n } := rfl

theorem ge_int (a : F64) (n : Int) : decide (a ≥ ({ floor := n } : F64)) = (!a.nan && decide (n ≤ a.floor)) := by
  show decide (F64.le { floor := n } a = true) = _
  rw [Bool.eq_iff_iff]; cases h : a.nan <;> simp [F64.le, h] <;> omega

theorem lt_int (a : F64) (n : Int) : decide (a < ({ floor := n } : F64)) = (!a.nan && decide (a.floor < n)) := by
  show decide (F64.lt a { floor := n } = true) = _
  rw [Bool.eq_iff_iff]; cases h : a.nan <;> simp [F64.lt, h]

/-- the conversion `Time(x)` / `int64(x)` of a float, wherever it stands in the guard -/
theorem toInt64_mk (fl : Int) (fr nan : Bool) :
    F64.toInt64 { floor := fl, frac := fr, nan := nan } = if fl < 0 ∧ fr = true then fl + 1 else fl := rfl

end F64
end Cdc
