/-
  C19, "every advertised PKCE method and advertised request-object support is actually honoured by the endpoints", END TO END, over
  the REGENERATED `GenHon.CopyRequestObjectToAuthRequest`, `GenHon.ParseRequestObject` (pkg/op/auth_request.go) and
  `Gen.AuthorizeCodeChallenge`, `Gen.VerifyCodeChallenge` (pkg/op/token_request.go, pkg/oidc/code_challenge.go).
  The regenerated definitions are characterised in `copy_char`, `parseRequestObject_char`, `verifyCodeChallenge_char`,
  `authorizeCodeChallenge_char`; the property's statements rest on those.
  This is the module the C19 check builds (`checklib/props.d/C19.json`).
-/
import OidcModel.Model.HonourC19Model
import OidcModel.Proofs.C19Construct
import OidcModel.GoTac

-- `copy_char` lists spellings (`len(x) != 0`, `len(x) == 0`) the regenerated text does not use
set_option linter.unusedSimpArgs false

namespace C19
open Go

/-- hand-readable meaning of `CopyRequestObjectToAuthRequest` -/
def copySpec (a : HonAuthRequest) (ro : HonRequestObject) : HonAuthRequest :=
  { Scopes := if a.Scopes.contains "openid" && !ro.Scopes.isEmpty then ro.Scopes else a.Scopes,
    ResponseType := a.ResponseType,
    ClientID := a.ClientID,
    RedirectURI := if ro.RedirectURI != "" then ro.RedirectURI else a.RedirectURI,
    State := if ro.State != "" then ro.State else a.State,
    Nonce := if ro.Nonce != "" then ro.Nonce else a.Nonce,
    ResponseMode := if ro.ResponseMode != "" then ro.ResponseMode else a.ResponseMode,
    Display := if ro.Display != "" then ro.Display else a.Display,
    Prompt := if !ro.Prompt.isEmpty then ro.Prompt else a.Prompt,
    MaxAge := if ro.MaxAge.isSome then ro.MaxAge else a.MaxAge,
    UILocales := if !ro.UILocales.isEmpty then ro.UILocales else a.UILocales,
    IDTokenHint := if ro.IDTokenHint != "" then ro.IDTokenHint else a.IDTokenHint,
    LoginHint := if ro.LoginHint != "" then ro.LoginHint else a.LoginHint,
    ACRValues := if !ro.ACRValues.isEmpty then ro.ACRValues else a.ACRValues,
    CodeChallenge := if ro.CodeChallenge != "" then ro.CodeChallenge else a.CodeChallenge,
    CodeChallengeMethod := if ro.CodeChallengeMethod != "" then ro.CodeChallengeMethod else a.CodeChallengeMethod,
    RequestParam := "" }

theorem HonAuthRequest.ext_iff' {x y : HonAuthRequest} : x = y ↔
    x.Scopes = y.Scopes ∧ x.ResponseType = y.ResponseType ∧ x.ClientID = y.ClientID ∧ x.RedirectURI = y.RedirectURI ∧
    x.State = y.State ∧ x.Nonce = y.Nonce ∧ x.ResponseMode = y.ResponseMode ∧ x.Display = y.Display ∧
    x.Prompt = y.Prompt ∧ x.MaxAge = y.MaxAge ∧ x.UILocales = y.UILocales ∧ x.IDTokenHint = y.IDTokenHint ∧
    x.LoginHint = y.LoginHint ∧ x.ACRValues = y.ACRValues ∧ x.CodeChallenge = y.CodeChallenge ∧
    x.CodeChallengeMethod = y.CodeChallengeMethod ∧ x.RequestParam = y.RequestParam := by
  cases x; cases y; simp only [HonAuthRequest.mk.injEq]

theorem hon_len_pos (l : List String) : (decide (Go.len l > (0 : Int))) = !l.isEmpty := by
  cases l <;> simp [Go.len, HasLen.len]

theorem hon_len_ne (l : List String) : (Go.len l != (0 : Int)) = !l.isEmpty := by
  cases l <;> simp [Go.len, HasLen.len]
  omega

theorem hon_len_ne' (l : List String) : (Go.len l == (0 : Int)) = l.isEmpty := by
  cases l <;> simp [Go.len, HasLen.len]
  omega

theorem notNil_option {α : Type} (o : Option α) : Go.notNil o = o.isSome := by
  cases o <;> rfl

/-- field by field (no case split over the 2^14 combinations): every projection of the regenerated term is pushed through its
    `if`s, what is left per field (a differently spelled or inverted condition) is split and closed by `go_leaf`; independent of the
    order of the blocks, of `if/else` vs. early assignment, of `len(x) > 0` vs. `len(x) != 0`, and of extracted same-package helpers.
    All seventeen projections go through ONE `simp` call: the intermediate requests are shared between the fields, a call per field
    normalises each of them seventeen times. -/
theorem copy_char (now : Int) (a : HonAuthRequest) (ro : HonRequestObject) :
    GenHon.CopyRequestObjectToAuthRequest now a ro = copySpec a ro := by
  rw [HonAuthRequest.ext_iff']
  simp only [GenHon.CopyRequestObjectToAuthRequest, copySpec, hon_len_pos, hon_len_ne, hon_len_ne', notNil_option, Go.contains, Const.ScopeOpenID,
    apply_ite HonAuthRequest.Scopes, apply_ite HonAuthRequest.ResponseType, apply_ite HonAuthRequest.ClientID,
    apply_ite HonAuthRequest.RedirectURI, apply_ite HonAuthRequest.State, apply_ite HonAuthRequest.Nonce,
    apply_ite HonAuthRequest.ResponseMode, apply_ite HonAuthRequest.Display, apply_ite HonAuthRequest.Prompt,
    apply_ite HonAuthRequest.MaxAge, apply_ite HonAuthRequest.UILocales, apply_ite HonAuthRequest.IDTokenHint,
    apply_ite HonAuthRequest.LoginHint, apply_ite HonAuthRequest.ACRValues, apply_ite HonAuthRequest.CodeChallenge,
    apply_ite HonAuthRequest.CodeChallengeMethod, apply_ite HonAuthRequest.RequestParam, ite_self]
  and_intros
  all_goals go_leaf

/-- an accepted request object: what was checked, and that the request handed on is the copy of the VERIFIED claims -/
theorem parseRequestObject_char {now : Int} {ro : HonRoOracle} {a a' : HonAuthRequest} {stg : HonStorage} {iss : String}
    (h : GenHon.ParseRequestObject now ro a stg iss = .ok a') :
    ∃ payload claims claims', ro.ParseToken a.RequestParam = .ok (payload, claims) ∧
      (claims.ClientID = "" ∨ claims.ClientID = a.ClientID) ∧ (claims.ResponseType = "" ∨ claims.ResponseType = a.ResponseType) ∧
      claims.Issuer = claims.ClientID ∧ claims.Audience.contains iss = true ∧
      ro.CheckSignature a.RequestParam payload claims [] (stg, claims.Issuer) = .ok claims' ∧
      a' = copySpec a claims' := by
  simp only [← copy_char now]
  revert h
  go_char GenHon.ParseRequestObject Hand.honKeySet Go.contains Go.nil HasNil.nilv

/-- ... and a genuine object of the client, addressed to the issuer, IS accepted -/
theorem parseRequestObject_genuine (now : Int) (a : HonAuthRequest) (obj : HonRequestObject) (stg : HonStorage) (iss : String)
    (hc : obj.ClientID = a.ClientID) (hi : obj.Issuer = obj.ClientID) (hr : obj.ResponseType = "" ∨ obj.ResponseType = a.ResponseType)
    (ha : obj.Audience.contains iss = true) :
    GenHon.ParseRequestObject now (honGenuine obj) a stg iss = .ok (copySpec a obj) := by
  rw [← copy_char now]
  have ha' : iss ∈ obj.Audience := by simpa using ha
  rcases hr with hr | hr <;>
    simp [GenHon.ParseRequestObject, honGenuine, hc, hi, hr, ha', Go.contains, Hand.honKeySet]

/-- the image of a verifier under a stored method string: SHA-256 for `S256`, the verifier itself for EVERY other string -/
def honImage (now : Int) (method v : String) : String :=
  if method = Const.CodeChallengeMethodS256 then Hand.NewSHACodeChallenge now v else v

theorem verifyCodeChallenge_char {now : Int} {c : CodeChallenge} {v : String} :
    Gen.VerifyCodeChallenge now (some c) v = true ↔ honImage now c.Method v = c.Challenge := by
  unfold Gen.VerifyCodeChallenge honImage
  simp only [Go.isNil, Go.getOpt, Nilable.isNil, Option.isNone, Option.getD]
  go_leaf

theorem authorizeCodeChallenge_char {now : Int} {c : CodeChallenge} {v : String} :
    Gen.AuthorizeCodeChallenge now v (some c) = .ok () ↔ v ≠ "" ∧ honImage now c.Method v = c.Challenge := by
  rw [← verifyCodeChallenge_char]
  unfold Gen.AuthorizeCodeChallenge
  simp only [Go.ok]
  go_leaf

/-! the symbolic SHA-256 of the model (`"S256(" ++ v ++ ")"`): injective, never its own argument, never empty -/

theorem sha_inj {now : Int} {v v0 : String} (h : Hand.NewSHACodeChallenge now v = Hand.NewSHACodeChallenge now v0) : v = v0 := by
  unfold Hand.NewSHACodeChallenge at h
  have := congrArg String.toList h
  simp only [String.toList_append, List.append_cancel_left_eq, List.append_cancel_right_eq] at this
  exact String.toList_inj.mp this

theorem sha_length {now : Int} {v : String} : (Hand.NewSHACodeChallenge now v).length = v.length + 6 := by
  unfold Hand.NewSHACodeChallenge
  simp only [String.length_append]
  have h5 : "S256(".length = 5 := by decide
  have h1 : ")".length = 1 := by decide
  omega

theorem sha_ne_self {now : Int} {v : String} : Hand.NewSHACodeChallenge now v ≠ v :=
  fun h => by have := congrArg String.length h; rw [sha_length] at this; omega

theorem sha_ne_empty {now : Int} {v : String} : Hand.NewSHACodeChallenge now v ≠ "" :=
  fun h => by have := congrArg String.length h; rw [sha_length, String.length_empty] at this; omega

/-- the parameters of a request object, as the monitor reads them -/
def HonParams.ofRequestObject (o : HonRequestObject) : HonParams :=
  { scopes := o.Scopes, redirectURI := o.RedirectURI, state := o.State, nonce := o.Nonce, responseMode := o.ResponseMode, display := o.Display,
    prompt := o.Prompt, maxAge := o.MaxAge, uiLocales := o.UILocales, idTokenHint := o.IDTokenHint, loginHint := o.LoginHint,
    acrValues := o.ACRValues, codeChallenge := o.CodeChallenge, codeChallengeMethod := o.CodeChallengeMethod }

theorem strVal_ne_nil (s : String) : (strVal s != []) = (s != "") := by
  unfold strVal; by_cases h : s = ""
  · simp [h]
  · have : ([s] != ([] : List String)) = true := by rfl
    simp [h, this]

/-- per parameter: what the copy of an object carries -/
theorem copySpec_field (a : HonAuthRequest) (c : HonRequestObject) (f : HonField) :
    f.value (HonParams.ofAuthRequest (copySpec a c)) =
      if f.value (HonParams.ofRequestObject c) != [] && (f != .scope || a.Scopes.contains "openid")
      then f.value (HonParams.ofRequestObject c) else f.value (HonParams.ofAuthRequest a) := by
  cases f <;> simp only [HonField.value, HonParams.ofAuthRequest, HonParams.ofRequestObject, copySpec, strVal_ne_nil]
  case scope => by_cases h : c.Scopes = [] <;> by_cases h2 : a.Scopes.contains "openid" = true <;> simp [h, h2]
  case maxAge =>
    by_cases h : c.MaxAge = none
    · simp [h]
    · obtain ⟨n, hn⟩ := Option.ne_none_iff_exists'.mp h
      simp [hn]
  -- every other parameter: the condition of the copy is the condition of the statement
  all_goals split <;> simp_all

/-- **every parameter of an accepted request object is honoured**: whatever the oracle answers (`oidc.ParseToken`, `oidc.CheckSignature`),
    whenever `ParseRequestObject` accepts, there are verified claims such that for EVERY parameter f a request object may carry the
    effective request's f is the object's f when the object sets it (scope: when the query carries `openid`), else the query's;
    client_id and response_type stay the query's and the `request` parameter is consumed -/
theorem c19_object_parameter_honoured {now : Int} {ro : HonRoOracle} {a a' : HonAuthRequest} {stg : HonStorage} {iss : String}
    (h : GenHon.ParseRequestObject now ro a stg iss = .ok a') :
    ∃ payload claims claims', ro.ParseToken a.RequestParam = .ok (payload, claims) ∧
      ro.CheckSignature a.RequestParam payload claims [] (stg, claims.Issuer) = .ok claims' ∧
      (∀ f : HonField, f.value (HonParams.ofAuthRequest a') =
        if f.value (HonParams.ofRequestObject claims') != [] && (f != .scope || a.Scopes.contains "openid")
        then f.value (HonParams.ofRequestObject claims') else f.value (HonParams.ofAuthRequest a)) ∧
      a'.ClientID = a.ClientID ∧ a'.ResponseType = a.ResponseType ∧ a'.RequestParam = "" := by
  obtain ⟨payload, claims, claims', hp, _, _, _, _, hs, rfl⟩ := parseRequestObject_char h
  exact ⟨payload, claims, claims', hp, hs, fun f => copySpec_field a claims' f, rfl, rfl, rfl⟩

/-- the PKCE decision of the code exchange, for EVERY stored request and EVERY presented verifier: without a stored challenge only
    "no verifier"; with one, exactly the non-empty verifiers whose image under the stored method is the stored challenge -/
theorem c19_pkce_exact (a : HonAuthRequest) (v : String) :
    honTokenAccepts a v = true ↔
      (a.CodeChallenge = "" ∧ v = "") ∨ (a.CodeChallenge ≠ "" ∧ v ≠ "" ∧ honImage 0 a.CodeChallengeMethod v = a.CodeChallenge) := by
  unfold honTokenAccepts honStoredChallenge
  by_cases hc : a.CodeChallenge = ""
  · simp [hc]
  · simp only [beq_iff_eq, hc, if_false, false_and, false_or, ne_eq, not_false_eq_true, true_and]
    rw [← authorizeCodeChallenge_char (c := { Challenge := a.CodeChallenge, Method := a.CodeChallengeMethod })]
    cases h : Gen.AuthorizeCodeChallenge 0 v (some { Challenge := a.CodeChallenge, Method := a.CodeChallengeMethod }) <;> simp

/-- **advertised S256 + challenge inside the object ⇒ exactly the S256 pre-image is accepted** — whatever the query says about
    code_challenge / code_challenge_method, whatever else the object carries: the code of a request whose accepted object carries
    `code_challenge = S256(v0)` and `code_challenge_method = S256` is redeemed by verifier v iff v = v0; in particular neither by
    another verifier, nor by the challenge string itself, nor without verifier -/
theorem c19_s256_in_object_exact {now : Int} {ro : HonRoOracle} {a a' : HonAuthRequest} {stg : HonStorage} {iss : String} {v0 : String}
    (h : GenHon.ParseRequestObject now ro a stg iss = .ok a') (hv0 : v0 ≠ "")
    (hobj : ∀ payload claims claims', ro.ParseToken a.RequestParam = .ok (payload, claims) →
      ro.CheckSignature a.RequestParam payload claims [] (stg, claims.Issuer) = .ok claims' →
      claims'.CodeChallenge = Hand.NewSHACodeChallenge 0 v0 ∧ claims'.CodeChallengeMethod = Const.CodeChallengeMethodS256) :
    (∀ v, honTokenAccepts a' v = true ↔ v = v0) ∧
    honTokenAccepts a' (Hand.NewSHACodeChallenge 0 v0) = false ∧ honTokenAccepts a' "" = false := by
  obtain ⟨payload, claims, claims', hp, _, _, _, _, hs, rfl⟩ := parseRequestObject_char h
  obtain ⟨hch, hm⟩ := hobj payload claims claims' hp hs
  have hne : Hand.NewSHACodeChallenge 0 v0 ≠ "" := sha_ne_empty
  have hcc : (copySpec a claims').CodeChallenge = Hand.NewSHACodeChallenge 0 v0 := by simp [copySpec, hch, hne]
  have hcm : (copySpec a claims').CodeChallengeMethod = Const.CodeChallengeMethodS256 := by
    simp [copySpec, hm, Const.CodeChallengeMethodS256]
  have key : ∀ v, honTokenAccepts (copySpec a claims') v = true ↔ v = v0 := by
    intro v
    rw [c19_pkce_exact, hcc, hcm]
    simp only [hne, false_and, false_or, ne_eq, not_false_eq_true, true_and, honImage, if_true]
    constructor
    · rintro ⟨_, hh⟩; exact sha_inj hh
    · rintro rfl; exact ⟨hv0, rfl⟩
  exact ⟨key, Bool.eq_false_iff.mpr fun hx => sha_ne_self ((key _).mp hx),
    Bool.eq_false_iff.mpr fun hx => hv0 ((key _).mp hx).symm⟩

end C19
