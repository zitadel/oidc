/-
  C10 — the fail-closed statement for arbitrary FAULT SCHEDULES (any program whose analysis is clean: `WF`).
  Everything here follows from `fn_good` (Proofs/C10Flow.lean): every failure of an execution is followed by a closed suffix.
-/
import OidcModel.Model.C10Sched
import OidcModel.Proofs.C10Flow

namespace C10.Flow

theorem nthCall_get (tr : List Ev) (j i : Nat) (e : Ev) (h : nthCall tr j = some (i, e)) : tr[i]? = some e ∧ e.isCall = true := by
  fun_induction nthCall tr j generalizing i e
  case case1 => cases h
  case case2 | case4 => cases h; exact ⟨rfl, rfl⟩
  all_goals
    rename_i ih
    obtain ⟨⟨i', e'⟩, hp, he⟩ := Option.map_eq_some_iff.mp h
    cases he
    exact ⟨by simpa using (ih _ _ hp).1, (ih _ _ hp).2⟩

theorem nthCall_of_outcome (tr : List Ev) (j : Nat) (k : EKind) (h : (callOutcomes tr)[j]? = some (some k)) :
    ∃ i g s, nthCall tr j = some (i, .sfail g s k) := by
  fun_induction nthCall tr j
  case case1 => cases h
  case case2 g s k' t => cases h; exact ⟨0, g, s, rfl⟩
  case case4 => cases h
  all_goals
    rename_i ih
    obtain ⟨i, g, s, hi⟩ := ih h
    exact ⟨i + 1, g, s, by rw [hi]; rfl⟩

/-- every execution follows the schedule it realises: quantifying over schedules loses no execution -/
theorem follows_schedOf (tr : List Ev) : Follows (schedOf tr) tr := by
  intro j o h
  simp [schedOf, h]

/-- FAULT SCHEDULES.  For a program whose analysis is clean, any function F of it, any schedule σ and any execution of F that
    follows σ: whenever the schedule fails the j-th call the execution makes (whatever else it fails before or after, with
    whatever kinds), that call's failure is closed - absorbed at an audited site, or the same call site is called again later,
    or no success step and no further failing call follows and the function ends in the error class. -/
theorem sched_fail_closed {P : List Fn} {A : Audit} (hW : WF P A) {f : Nat} {F : Fn} (hF : P[f]? = some F)
    {ρ : Env} {tr : List Ev} {x : CV} (hrun : Run P A f F.sk ρ tr x) (σ : Sched) (hσ : Follows σ tr)
    (j : Nat) (k : EKind) (hj : j < (callOutcomes tr).length) (hk : σ j = some k) :
    ∃ i g s, nthCall tr j = some (i, .sfail g s k) ∧ closedFor F.kind x (.sfail g s k) (tr.drop (i + 1)) = true := by
  have ho := hσ j _ (List.getElem?_eq_getElem hj)
  rw [hk] at ho
  obtain ⟨i, g, s, hn⟩ := nthCall_of_outcome tr j k (by rw [List.getElem?_eq_getElem hj, ho])
  exact ⟨i, g, s, hn, goodW_get tr i _ (fn_good hW hF hrun) (nthCall_get tr j i _ hn).1 rfl⟩

theorem hasAbs_drop_false {t : List Ev} (h : hasAbs t = false) (n : Nat) : hasAbs (t.drop n) = false :=
  Bool.eq_false_iff.mpr fun hd => Bool.eq_false_iff.mp h (any_of_drop hd)

/-- the last call at a call site that is called at all -/
theorem last_call_at (g s : Nat) : ∀ (t : List Ev), retriedAt g s t = true →
    ∃ i e, t[i]? = some e ∧ e.isCallAt g s = true ∧ retriedAt g s (t.drop (i + 1)) = false := by
  intro t
  induction t with
  | nil => intro h; simp [retriedAt] at h
  | cons a t ih =>
    intro h
    cases ht : retriedAt g s t with
    | true =>
      obtain ⟨i, e, h1, h2, h3⟩ := ih ht
      exact ⟨i + 1, e, by simpa using h1, h2, by simpa using h3⟩
    | false =>
      have ha : (a.isCallAt g s || retriedAt g s t) = true := h
      rw [ht, Bool.or_false] at ha
      exact ⟨0, a, rfl, ha, by simpa using ht⟩

theorem isCallAt_fail {g s : Nat} {e : Ev} (h1 : e.isCallAt g s = true) (h2 : e.isFail = true) : ∃ k, e = .sfail g s k := by
  cases e <;> try cases h2
  simp only [Ev.isCallAt, Bool.and_eq_true, beq_iff_eq] at h1
  exact ⟨_, by rw [h1.1, h1.2]⟩

/-- REPEATED FAULTS.  If EVERY call an execution makes at some call site fails - a call that is made once and fails, or all k
    attempts of a retried call, with whatever kinds - and no failure is absorbed at an audited site, then after the LAST of these
    calls no success step and no failing call follows and the function ends in the error class.  (The seeded retry defects
    C10-E / C10-M are exactly "the last attempt is not examined".) -/
theorem all_attempts_fail_closed {κ : FKind} {x : CV} {tr : List Ev} (hg : Good κ x tr) (g s : Nat)
    (hcalled : retriedAt g s tr = true) (hall : allFailAt g s tr = true) (hna : hasAbs tr = false) :
    ∃ i k, tr[i]? = some (.sfail g s k) ∧ retriedAt g s (tr.drop (i + 1)) = false ∧
      noSucc (tr.drop (i + 1)) = true ∧ noFail (tr.drop (i + 1)) = true ∧ exitOK κ x (tr.drop (i + 1)) = true := by
  obtain ⟨i, e, hi, hc, hlast⟩ := last_call_at g s tr hcalled
  have hf : e.isFail = true := by simpa [hc] using List.all_eq_true.mp hall e (List.mem_of_getElem? hi)
  obtain ⟨k, rfl⟩ := isCallAt_fail hc hf
  rcases closedFor_sfail.mp (goodW_get tr i _ hg hi rfl) with h | h | h
  · rw [hasAbs_drop_false hna] at h; cases h
  · rw [hlast] at h; cases h
  · exact ⟨i, k, hi, hlast, h⟩

/-- FAULTS AT TWO INDICES.  A second failing call is only ever reached when the first failure was absorbed at an audited site or
    its call is attempted again: failures do not accumulate, the handler stops at the first failure it does not retry. -/
theorem later_fault_needs_retry {κ : FKind} {x : CV} {tr : List Ev} (hg : Good κ x tr) {i j g s g' s' : Nat} {k k' : EKind}
    (hi : tr[i]? = some (.sfail g s k)) (hj : tr[j]? = some (.sfail g' s' k')) (hij : i < j) :
    hasAbs (tr.drop (i + 1)) = true ∨ retriedAt g s (tr.drop (i + 1)) = true := by
  rcases closedFor_sfail.mp (goodW_get tr i _ hg hi rfl) with h | h | ⟨_, hnf, _⟩
  · exact .inl h
  · exact .inr h
  · have hmem : Ev.sfail g' s' k' ∈ tr.drop (i + 1) :=
      List.mem_of_getElem? (i := j - (i + 1)) (by rw [List.getElem?_drop, show i + 1 + (j - (i + 1)) = j by omega]; exact hj)
    cases List.all_eq_true.mp hnf _ hmem

end C10.Flow
