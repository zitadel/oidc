/-
  C18 at the level of HISTORIES: a sequence of end_session requests (with / without hint, with client_id, with state, on
  either router, addressed to varying issuers, at varying instants) against ONE provider and ONE storage whose set of
  live sessions persists between the requests, with storage faults at `TerminateSession` / `TerminateSessionFromRequest`
  and at the client lookup (`GetClientByClientID`) injected per request.

  Only layer 1 (Proofs/C18Char.lean) and the theorems of Proofs/C18.lean are used; no regenerated definition is unfolded.
-/
import OidcModel.Proofs.C18
namespace C18
open Go Gen Hand

/-- the same provider on a storage that fails the client lookup where `f` says so -/
def withLookup (e : SessionEnder) (f : String → Bool) : SessionEnder := { e with store := { e.store with lookupOK := f } }

theorem configured_withLookup {cfg : Cfg} {e : SessionEnder} (f : String → Bool) (hc : Configured cfg e) :
    Configured cfg (withLookup e f) := ⟨hc.clients, hc.dflt, hc.issuer, hc.keys, hc.algs⟩

/-- one end_session request of a history -/
structure Ev where
  rt : Sess.Router
  now : Int
  issuer : String                -- the issuer this request is addressed to (per-host issuers: varies within a history)
  rq : Go.R EndSessionReq
  termFault : Bool := false      -- the storage fails at TerminateSession / TerminateSessionFromRequest while this request is served
  lookupFault : Bool := false    -- the storage fails at GetClientByClientID while this request is served

/-- what stays fixed during a history -/
structure World where
  cfg : Cfg                      -- registrations, default URI, own keys, hint key set, allow-list (`issuer` is per request)
  opts : List Sess.KeyOpt        -- the key-set options the provider was constructed with
  fromReq : Bool                 -- the storage implements CanTerminateSessionFromRequest
  o : SessOracles

namespace World

def cfgAt (w : World) (ev : Ev) : Cfg := { w.cfg with issuer := ev.issuer }

/-- the provider while it serves `ev`, on a storage that terminates where `termOK` says so -/
def provider (w : World) (ev : Ev) (termOK : String → String → Bool) : SessionEnder :=
  withLookup (providerOf ev.now (w.cfgAt ev) w.opts termOK w.fromReq) (fun _ => !ev.lookupFault)

theorem provider_configured (w : World) (hopts : HintOpts w.cfg w.opts) (ev : Ev) (termOK : String → String → Bool) :
    Configured (w.cfgAt ev) (w.provider ev termOK) :=
  configured_withLookup _ (c18_provider_configured ev.now (w.cfgAt ev) w.opts hopts termOK w.fromReq)

/-- the session the storage is asked to terminate while `ev` is served (none: it is not asked at all) -/
def asked (w : World) (ev : Ev) : Option (String × String) :=
  match ev.rq with
  | .ok r =>
    (match ValidateEndSessionRequest ev.now w.o r (w.provider ev (fun _ _ => true)) with
     | .ok s => some (s.UserID, s.ClientID)
     | .error _ => none)
  | .error _ => none

def answer (w : World) (ev : Ev) : SessCanon :=
  Sess.handle ev.rt ev.now w.o ev.rq (w.provider ev (fun _ _ => !ev.termFault))

end World

/-- validation never consults the storage's willingness to terminate -/
theorem validate_termOK_indep (w : World) (ev : Ev) (r : EndSessionReq) (t1 t2 : String → String → Bool) :
    ValidateEndSessionRequest ev.now w.o r (w.provider ev t1) = ValidateEndSessionRequest ev.now w.o r (w.provider ev t2) := by
  rw [validate_eq_ref, validate_eq_ref]
  rfl

/-- the storage is asked for exactly one session, the one `ValidateEndSessionRequest` names: a storage that refuses
    every OTHER termination gives the same answer -/
theorem handle_asks_only (w : World) (ev : Ev) (termOK : String → String → Bool) :
    Sess.handle ev.rt ev.now w.o ev.rq (w.provider ev termOK) =
      Sess.handle ev.rt ev.now w.o ev.rq (w.provider ev (fun u c => termOK u c && w.asked ev == some (u, c))) := by
  rw [handle_eq, handle_eq]
  cases hrq : ev.rq with
  | error x => rfl
  | ok r =>
    simp only
    rw [validate_termOK_indep w ev r termOK (fun _ _ => true),
      validate_termOK_indep w ev r (fun u c => termOK u c && w.asked ev == some (u, c)) (fun _ _ => true)]
    cases hv : ValidateEndSessionRequest ev.now w.o r (w.provider ev (fun _ _ => true)) with
    | error err => rfl
    | ok s =>
      have ha : w.asked ev = some (s.UserID, s.ClientID) := by simp only [World.asked, hrq, hv]
      have : (w.provider ev (fun u c => termOK u c && w.asked ev == some (u, c))).store.termOK s.UserID s.ClientID
          = (w.provider ev termOK).store.termOK s.UserID s.ClientID := by
        show (termOK s.UserID s.ClientID && w.asked ev == some (s.UserID, s.ClientID)) = termOK s.UserID s.ClientID
        rw [ha]; simp
      simp only [this]

/-- the identity the statement speaks of: (subject of the proven hint or "", proven client or "") -/
def identityOf (cfg : Cfg) (rq : Req) : String × String :=
  (((proven cfg rq).map (·.sub)).getD "", provenClientID rq (proven cfg rq))

/-- the storage: live sessions and the journal of terminations, both persisting between requests -/
structure HSt where
  active : List (String × String)
  journal : List (String × String)

namespace World

/-- one request: the storage terminates the session it was asked for iff no fault was injected, i.e. iff the user is redirected -/
def step (w : World) (st : HSt) (ev : Ev) : HSt :=
  match w.answer ev, w.asked ev with
  | .redirect _, some uc => { active := st.active.filter (· != uc), journal := st.journal ++ [uc] }
  | _, _ => st

def run (w : World) (st : HSt) (evs : List Ev) : HSt := evs.foldl w.step st

/-- the request the monitor judges, with what the storage reported -/
def monReqEv (w : World) (ev : Ev) : Req :=
  { monReq w.o ev.rq with termRefused := ev.termFault, lookupRefused := ev.lookupFault }

/-- SPEC-level: the session a request is entitled to terminate — named only when the user was redirected -/
def terminatedBy (w : World) (ev : Ev) : Option (String × String) :=
  match w.answer ev with
  | .redirect _ => some (identityOf (w.cfgAt ev) (monReq w.o ev.rq))
  | .error _ _ => none

end World

theorem monitor_redirect_flags (cfg : Cfg) (o : Orc) (rq : Req) (a b : Bool) (loc : String) (dec : Go.R SessURL) (t : List (String × String)) :
    monitor cfg o { rq with termRefused := a, lookupRefused := b } (.redirect loc dec t) = monitor cfg o rq (.redirect loc dec t) := rfl

theorem answer_redirect (w : World) (hopts : HintOpts w.cfg w.opts) (ev : Ev) {loc : String} (h : w.answer ev = .redirect loc) :
    ev.termFault = false ∧
    w.asked ev = some (identityOf (w.cfgAt ev) (monReq w.o ev.rq)) ∧
    (ev.lookupFault = true → (identityOf (w.cfgAt ev) (monReq w.o ev.rq)).2 = "") ∧
    ∃ dec, ((monReq w.o ev.rq).state ≠ "" → Rendered loc dec) ∧
      monitor (w.cfgAt ev) (orcOf w.o) (w.monReqEv ev) (.redirect loc dec [identityOf (w.cfgAt ev) (monReq w.o ev.rq)]) = none := by
  have hc := w.provider_configured hopts ev (fun _ _ => !ev.termFault)
  obtain ⟨r, s, hrq, hv, ht, hloc⟩ := handle_redirect h
  have htf : ev.termFault = false := by
    have : (!ev.termFault) = true := ht
    simpa using this
  obtain ⟨_, _, hu, hcid, _⟩ := validate_facts hc hv
  have hid : (s.UserID, s.ClientID) = identityOf (w.cfgAt ev) (monReq w.o ev.rq) := by
    simp only [identityOf, hrq, monReq, ← hu, ← hcid]
  have hask : w.asked ev = some (s.UserID, s.ClientID) := by
    simp only [World.asked, hrq]
    rw [validate_termOK_indep w ev r (fun _ _ => true) (fun _ _ => !ev.termFault), hv]
  refine ⟨htf, by rw [hask, hid], ?_, ?_⟩
  · -- a lookup fault: the request can only have gone through without a client
    intro hlf
    rw [← hid]
    show s.ClientID = ""
    obtain ⟨uid, cid, cl, scid, target, loc, _, hT, _, rfl⟩ := validate_stages hv
    show scid = ""
    by_cases hc0 : cid = ""
    · subst hc0
      simp only [refTarget, bne_self_eq_false, Bool.false_eq_true, if_false, Except.ok.injEq, Prod.mk.injEq] at hT
      exact hT.1.symm
    · have hb : (cid != "") = true := by simpa using hc0
      have hg : (w.provider ev (fun _ _ => !ev.termFault)).store.GetClientByClientID cid = .error "storage: lookup failed" := by
        show (if (!ev.lookupFault) = true then _ else _) = _
        simp [hlf]
      simp [refTarget, hb, hg] at hT
  · obtain ⟨dec', hr', hm'⟩ := validate_monitor hc hv
    refine ⟨dec', ?_, ?_⟩
    · intro hs; rw [hloc]; exact hr' (by simpa [hrq, monReq, reqOf] using hs)
    · rw [World.monReqEv, monitor_redirect_flags, ← hid, hrq, hloc]
      exact hm'

/-- ONE request of a history: a redirect ⇒ no fault hit and the storage terminated exactly the session of the hint's subject
    and the proven client; anything else ⇒ the storage is as it was -/
theorem c18_step (w : World) (hopts : HintOpts w.cfg w.opts) (st : HSt) (ev : Ev) :
    (∀ loc, w.answer ev = .redirect loc →
        ev.termFault = false ∧
        (w.step st ev).journal = st.journal ++ [identityOf (w.cfgAt ev) (monReq w.o ev.rq)] ∧
        (w.step st ev).active = st.active.filter (· != identityOf (w.cfgAt ev) (monReq w.o ev.rq))) ∧
    (∀ code msg, w.answer ev = .error code msg → w.step st ev = st) := by
  constructor
  · intro loc h
    obtain ⟨htf, hask, _, _⟩ := answer_redirect w hopts ev h
    refine ⟨htf, ?_, ?_⟩ <;> simp only [World.step, h, hask]
  · intro code msg h
    simp only [World.step, h]

/-- the journal after ANY history: the proven identities of exactly the redirected requests, in order -/
theorem c18_history_journal (w : World) (hopts : HintOpts w.cfg w.opts) (evs : List Ev) (st : HSt) :
    (w.run st evs).journal = st.journal ++ evs.filterMap w.terminatedBy ∧
    (w.run st evs).active = (evs.filterMap w.terminatedBy).foldl (fun a uc => a.filter (· != uc)) st.active := by
  induction evs generalizing st with
  | nil => simp [World.run]
  | cons ev rest ih =>
    have hs := c18_step w hopts st ev
    simp only [World.run, List.foldl_cons] at ih ⊢
    obtain ⟨ih1, ih2⟩ := ih (w.step st ev)
    rw [ih1, ih2]
    cases ha : w.answer ev with
    | redirect loc =>
      obtain ⟨_, hj, hact⟩ := hs.1 loc ha
      have ht : w.terminatedBy ev = some (identityOf (w.cfgAt ev) (monReq w.o ev.rq)) := by simp only [World.terminatedBy, ha]
      simp only [List.filterMap_cons, ht, hj, hact, List.foldl_cons, List.append_assoc, List.singleton_append, and_self]
    | error code msg =>
      have ht : w.terminatedBy ev = none := by simp only [World.terminatedBy, ha]
      rw [hs.2 code msg ha]
      simp only [List.filterMap_cons, ht, and_self]

theorem foldl_filter_mem {α : Type} [BEq α] [LawfulBEq α] (l : List α) (a : List α) (x : α) :
    x ∈ l.foldl (fun a uc => a.filter (· != uc)) a ↔ x ∈ a ∧ x ∉ l := by
  induction l generalizing a with
  | nil => simp
  | cons y ys ih =>
    simp only [List.foldl_cons, ih, List.mem_filter, List.mem_cons, not_or, bne_iff_ne, ne_eq]
    constructor
    · rintro ⟨⟨h1, h2⟩, h3⟩; exact ⟨h1, h2, h3⟩
    · rintro ⟨h1, h2, h3⟩; exact ⟨⟨h1, h2⟩, h3⟩

/-- no collateral logout, for every history: a session alive before and gone after is the session of the subject and
    client that some redirected request of the history PROVED (by a validly signed hint / by client_id) -/
theorem c18_history_no_collateral (w : World) (hopts : HintOpts w.cfg w.opts) (evs : List Ev) (st : HSt) (uc : String × String)
    (h0 : uc ∈ st.active) (h1 : uc ∉ (w.run st evs).active) :
    ∃ ev ∈ evs, ∃ loc, w.answer ev = .redirect loc ∧ uc = identityOf (w.cfgAt ev) (monReq w.o ev.rq) := by
  rw [(c18_history_journal w hopts evs st).2, foldl_filter_mem] at h1
  have : uc ∈ evs.filterMap w.terminatedBy := by
    apply Classical.byContradiction
    intro hn; exact h1 ⟨h0, hn⟩
  obtain ⟨ev, hev, ht⟩ := List.mem_filterMap.mp this
  refine ⟨ev, hev, ?_⟩
  unfold World.terminatedBy at ht
  cases ha : w.answer ev with
  | redirect loc => rw [ha] at ht; simp only [Option.some.injEq] at ht; exact ⟨loc, rfl, ht.symm⟩
  | error c m => rw [ha] at ht; simp at ht

/-- … and sessions that stay are untouched: the live sessions only ever shrink -/
theorem c18_history_shrinks (w : World) (hopts : HintOpts w.cfg w.opts) (evs : List Ev) (st : HSt) (uc : String × String)
    (h : uc ∈ (w.run st evs).active) : uc ∈ st.active := by
  rw [(c18_history_journal w hopts evs st).2, foldl_filter_mem] at h
  exact h.1

/-- storage faults: a request during which the storage fails to terminate is answered with an error and changes
    nothing; so is one during which the client lookup fails, unless no client had to be looked up -/
theorem c18_history_faults (w : World) (hopts : HintOpts w.cfg w.opts) (st : HSt) (ev : Ev) :
    (ev.termFault = true → (∃ code msg, w.answer ev = .error code msg) ∧ w.step st ev = st) ∧
    (ev.lookupFault = true → (identityOf (w.cfgAt ev) (monReq w.o ev.rq)).2 ≠ "" →
        (∃ code msg, w.answer ev = .error code msg) ∧ w.step st ev = st) := by
  constructor
  · intro htf
    cases ha : w.answer ev with
    | redirect loc => have := (answer_redirect w hopts ev ha).1; rw [htf] at this; simp at this
    | error code msg => exact ⟨⟨code, msg, rfl⟩, (c18_step w hopts st ev).2 code msg ha⟩
  · intro hlf hne
    cases ha : w.answer ev with
    | redirect loc => exact absurd ((answer_redirect w hopts ev ha).2.2.1 hlf) hne
    | error code msg => exact ⟨⟨code, msg, rfl⟩, (c18_step w hopts st ev).2 code msg ha⟩

/-- what the storage journal shows for one request -/
def World.delta (w : World) (ev : Ev) : List (String × String) := (w.terminatedBy ev).toList

/-- EVERY request of EVERY history satisfies the monitor, judged on what the storage journal shows for it -/
theorem c18_history_monitor (w : World) (hopts : HintOpts w.cfg w.opts)
    (hcomp : ∀ ev : Ev, HintComplete (w.cfgAt ev) (w.provider ev (fun _ _ => !ev.termFault)).hintVerifier)
    (evs : List Ev) : ∀ ev ∈ evs,
      match w.answer ev with
      | .redirect loc => ∃ dec, ((monReq w.o ev.rq).state ≠ "" → Rendered loc dec) ∧
          monitor (w.cfgAt ev) (orcOf w.o) (w.monReqEv ev) (.redirect loc dec (w.delta ev)) = none
      | .error _ _ => monitor (w.cfgAt ev) (orcOf w.o) (w.monReqEv ev) (.rejected (w.delta ev)) = none := by
  intro ev _
  cases ha : w.answer ev with
  | redirect loc =>
    obtain ⟨_, _, _, dec, hr, hm⟩ := answer_redirect w hopts ev ha
    refine ⟨dec, hr, ?_⟩
    simp only [World.delta, World.terminatedBy, ha, Option.toList]
    exact hm
  | error code msg =>
    simp only [World.delta, World.terminatedBy, ha, Option.toList]
    by_cases hf : ev.termFault = true ∨ ev.lookupFault = true
    · rcases hf with hf | hf <;> simp [monitor, World.monReqEv, hf]
    · have htf : ev.termFault = false := by cases h : ev.termFault <;> simp_all
      have hlf : ev.lookupFault = false := by cases h : ev.lookupFault <;> simp_all
      have hc := w.provider_configured hopts ev (fun _ _ => !ev.termFault)
      have hm := c18_rejected_configured ev.rt hc (hcomp ev) (fun _ _ => by show (!ev.termFault) = true; simp [htf])
        (fun _ => by show (!ev.lookupFault) = true; simp [hlf]) ha
      have hma : mustAccept (w.cfgAt ev) (orcOf w.o) (w.monReqEv ev) = mustAccept (w.cfgAt ev) (orcOf w.o) (monReq w.o ev.rq) := rfl
      simp only [monitor, List.isEmpty_nil, Bool.not_true, Bool.false_eq_true, if_false] at hm ⊢
      rw [hma]
      split at hm
      · simp at hm
      · rename_i hcond
        have : mustAccept (w.cfgAt ev) (orcOf w.o) (monReq w.o ev.rq) = false := by
          cases hmq : mustAccept (w.cfgAt ev) (orcOf w.o) (monReq w.o ev.rq) with
          | false => rfl
          | true =>
            exfalso; apply hcond
            have ht : (monReq w.o ev.rq).termRefused = false := by cases ev.rq <;> rfl
            have hl : (monReq w.o ev.rq).lookupRefused = false := by cases ev.rq <;> rfl
            simp [hmq, ht, hl]
        simp [this]

/-! ### non-vacuity: a history on the example provider of Proofs/C18.lean -/
section examples
def hW : World := { cfg := xCfg, opts := [], fromReq := false, o := xOrc }
def hEv (r : EndSessionReq) : Ev := { rt := .provider, now := xNow, issuer := "https://op.example", rq := .ok r }

/-- expired hint of (user1, web); a wrong-key hint; client_id only; the same hint while the storage fails; the same hint
    while the lookup fails; the hint addressed to another issuer of a per-host deployment -/
def hHistory : List Ev :=
  [ hEv { IdTokenHint := "expired", PostLogoutRedirectURI := "https://rp.example/out", State := "s1" },
    hEv { IdTokenHint := "wrongkey" },
    { hEv { ClientID := "glob" } with rt := .legacy },
    { hEv { IdTokenHint := "expired" } with termFault := true },
    { hEv { IdTokenHint := "expired" } with lookupFault := true },
    { hEv { IdTokenHint := "expired" } with issuer := "https://tenant-b.example" } ]

example : hHistory.map hW.asked = [some ("user1", "web"), none, some ("", "glob"), some ("user1", "web"), none, none] := by decide +kernel
example : (hW.run { active := [("user1", "web"), ("user2", "web"), ("user1", "glob"), ("", "glob")], journal := [] } hHistory).journal
    = [("user1", "web"), ("", "glob")] := by decide +kernel
example : (hW.run { active := [("user1", "web"), ("user2", "web"), ("user1", "glob"), ("", "glob")], journal := [] } hHistory).active
    = [("user2", "web"), ("user1", "glob")] := by decide +kernel
end examples

end C18
