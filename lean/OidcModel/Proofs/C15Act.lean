/-
  C15 - THE `act` MEMBER OF AN EXCHANGE TOKEN IS THE STORAGE POLICY'S ANSWER, AND NOTHING ELSE.
  This is the module the C15 check builds (`checklib/props.d/C15.json`).

  Path in the Go source: request -> `CreateJWT` / `CreateIDToken` (pkg/op/token.go) -> `claims.Actor` (filled from the request ONLY if the
  request object implements the optional `TokenActorRequest`) -> `mergeAndMarshalClaims` (pkg/oidc/util.go: the registered claims,
  `act` among them, are decoded OVER the custom claims the storage hook supplied - "registered wins", C12).  So a `GetActor()` on the
  library's own `*tokenExchangeRequest` silently replaces the `act` the storage policy decided (a nested chain, a pairwise actor id,
  no act at all) by a flat `{sub: <raw actor subject>}` (seeded change C15-P).

  The method set of `*tokenExchangeRequest` is regenerated (Generated/TETypes.lean, extracted from the source on every run);
  `mergeAndMarshalClaims` is the regenerated one of C12 (`c12_registered_wins_gen`).
-/
import OidcModel.Proofs.C15
import OidcModel.Proofs.C12

namespace C15
open Codec

/-- the four interfaces of pkg/op the exchange code uses a `*tokenExchangeRequest` as -/
def exchangeRequestInterfaces : List String := ["IDTokenRequest", "RefreshTokenRequest", "TokenExchangeRequest", "TokenRequest"]

/-- THE REQUEST OBJECT HANDS THE CLAIMS NO ACTOR OF ITS OWN - a statement about the regenerated method-set facts: `*tokenExchangeRequest`
    has no `GetActor` method, does not satisfy `TokenActorRequest` (the assertion in `CreateJWT` / `CreateIDToken`), and EVERY interface of
    pkg/op it satisfies is one of the four the exchange code needs (it does satisfy `TokenExchangeRequest`) -/
theorem c15_request_hands_no_actor :
    "GetActor" ∉ GenTE.tokenExchangeRequest_methods ∧
    "TokenActorRequest" ∉ GenTE.tokenExchangeRequest_satisfies ∧
    (∀ i ∈ GenTE.tokenExchangeRequest_implements, i ∈ exchangeRequestInterfaces) ∧
    "TokenExchangeRequest" ∈ GenTE.tokenExchangeRequest_implements ∧
    (∀ m ∈ ["GetExchangeActor", "GetExchangeSubject", "GetSubject", "GetScopes", "GetAudience", "GetClientID"], m ∈ GenTE.tokenExchangeRequest_methods) := by
  decide +kernel

theorem exchangeJWTClaims_actor (now : Int) (iss : String) (r : TEReq) (exp : Int) (id : String) (c : OPClient) (st : TEStore) (pc : TEClaims) :
    (exchangeJWTClaims now iss r exp id c st pc).Actor = "" ∧ (exchangeJWTClaims now iss r exp id c st pc).Claims = pc := ⟨rfl, rfl⟩

theorem exchangeIDClaims_actor (now : Int) (iss : String) (r : TEReq) (lifetime : Int) (c : OPClient) (st : TEStore) (ui : TEUserInfo) :
    (exchangeIDClaims now iss r lifetime c st ui).Actor = "" ∧ (exchangeIDClaims now iss r lifetime c st ui).UserInfo = ui := by
  unfold exchangeIDClaims
  simp only []
  split <;> exact ⟨rfl, rfl⟩

/-- THE `act` OF A JWT ACCESS TOKEN OF AN EXCHANGE (regenerated `CreateJWT`; every storage with `TokenExchangeStorage`, every client, key,
    other capability): the token is the signature over claims `cl` that have NO registered actor (the request handed none) and whose
    custom claims - where `act` lives - are EXACTLY what `GetPrivateClaimsFromTokenExchangeRequest` answered for this request -/
theorem c15_exchange_jwt_act_is_storage_answer {now : Int} {iss : String} {r : TEReq} {exp : Int} {id : String} {c : OPClient} {st : TEStore} {tok : String}
    (hte : st.is_TokenExchangeStorage = true) (h : GenTE.CreateJWT now iss r.asTokenRequest exp id c st = .ok tok) :
    ∃ pc key cl, st.GetPrivateClaimsFromTokenExchangeRequest r.asTokenRequest = .ok pc ∧ st.SigningKey = .ok key ∧
      key.signAT cl = .ok tok ∧ cl.Actor = "" ∧ cl.Claims = pc ∧ cl.Subject = (exchangeJWTClaims now iss r exp id c st pc).Subject := by
  obtain ⟨pc, key, h1, h2, _, h4⟩ := c15_exchange_jwt_claims_source hte h
  exact ⟨pc, key, _, h1, h2, h4, rfl, rfl, rfl⟩

/-- THE `act` OF AN ID TOKEN OF AN EXCHANGE (regenerated `CreateIDToken`): no registered actor; the userinfo - where `act` lives - is
    EXACTLY what `SetUserinfoFromTokenExchangeRequest` made of the empty userinfo for this request -/
theorem c15_exchange_id_token_act_is_storage_answer {now : Int} {iss : String} {r : TEReq} {lifetime : Int} {c : OPClient} {st : TEStore} {tok : String}
    (hte : st.is_TokenExchangeStorage = true) (h : GenTE.CreateIDToken now iss r.asTokenRequest lifetime "" "" st c = .ok tok) :
    ∃ ui key cl, st.SetUserinfoFromTokenExchangeRequest {} r.asTokenRequest = .ok ui ∧ st.SigningKey = .ok key ∧
      key.signID cl = .ok tok ∧ cl.Actor = "" ∧ cl.UserInfo = ui := by
  obtain ⟨ui, key, h1, h2, _, h4⟩ := c15_exchange_id_token_userinfo_source hte h
  exact ⟨ui, key, _, h1, h2, h4, (exchangeIDClaims_actor ..).1, (exchangeIDClaims_actor ..).2⟩

/-! ### what the registered `Actor` field does on the wire: the REGENERATED `mergeAndMarshalClaims` (C12) -/

/-- what `encoding/json` makes of the typed part of `*oidc.AccessTokenClaims` / `*oidc.IDTokenClaims` as far as `act` goes
    (`Actor *ActorClaims json:"act,omitempty"`): a member `act` iff the pointer is set, then the flat `{sub: …}` of a request's `GetActor()`;
    no key twice -/
def ActEncoding (actor : String) (r : Codec.Obj) : Prop :=
  (keys r).Nodup ∧ (actor = "" → (keys r).contains "act" = false) ∧ (actor ≠ "" → lookup r "act" = some (actValue "flat" actor "" ""))

/-- NO REGISTERED ACTOR ⇒ THE TOKEN'S `act` IS THE CUSTOM CLAIMS' `act` (the storage's answer), nested members and all - or absent if the
    storage decided on none.  Over the regenerated `mergeAndMarshalClaims`, for every encoding of the registered claims without `act`. -/
theorem c15_wire_act_is_custom_when_request_hands_none (now : Int) (o : Cdc.Oracles) (reg : Cdc.Reg) (r custom : Codec.Obj)
    (hreg : reg.enc = .ok r) (he : ActEncoding "" r) (hc : (keys custom).Nodup) (henc : o.mapEncodable (C12.mergedMap r custom) = true) :
    ∃ m, (GenCodec.mergeAndMarshalClaims now o reg custom).2 = .ok [m] ∧ lookup m "act" = lookup custom "act" := by
  obtain ⟨m, hm, _, h2⟩ := C12.c12_registered_wins_gen now o reg r custom hreg he.1 hc henc
  exact ⟨m, hm, h2 "act" (he.2.1 rfl)⟩

/-- A REGISTERED ACTOR OVERRIDES WHATEVER THE STORAGE ANSWERED: were the request to hand the claims an actor (`TokenActorRequest`), the token
    would name the flat `{sub: actor}` - a chain, a pairwise id, "no act" decided by the policy are all lost (seeded change C15-P) -/
theorem c15_wire_act_registered_overrides (now : Int) (o : Cdc.Oracles) (reg : Cdc.Reg) (r custom : Codec.Obj) (actor : String) (ha : actor ≠ "")
    (hreg : reg.enc = .ok r) (he : ActEncoding actor r) (hc : (keys custom).Nodup) (henc : o.mapEncodable (C12.mergedMap r custom) = true) :
    ∃ m, (GenCodec.mergeAndMarshalClaims now o reg custom).2 = .ok [m] ∧ lookup m "act" = some (actValue "flat" actor "" "") := by
  obtain ⟨m, hm, h1, _⟩ := C12.c12_registered_wins_gen now o reg r custom hreg he.1 hc henc
  have hk : (keys r).contains "act" = true := by
    have := he.2.2 ha
    cases hkk : (keys r).contains "act" with
    | true => rfl
    | false => rw [C12.lookup_none_of_not_key r "act" hkk] at this; cases this
  exact ⟨m, hm, by rw [h1 "act" hk]; exact he.2.2 ha⟩

/-- END TO END (requested access_token / refresh_token, client with JWT access tokens): the access token of a successful
    `CreateTokenExchangeResponse` is the signature over claims with NO registered actor whose custom claims are exactly the exchange
    hook's answer for the (policy-rewritten) request `r` -/
theorem c15_issued_token_act_is_policy_answer {now : Int} {r : TEReq} {c : OPClient} {p : TEProvider} {resp : ExchangeResp}
    (hte : p.Storage.is_TokenExchangeStorage = true) (hj : p.Storage.ClientAccessTokenType c = TEConst.AccessTokenTypeJWT)
    (hreq : r.requestedTokenType = Const.AccessTokenType ∨ r.requestedTokenType = Const.RefreshTokenType)
    (h : GenTE.CreateTokenExchangeResponse now r c p = .ok resp) :
    ∃ pc key cl, p.Storage.GetPrivateClaimsFromTokenExchangeRequest r.asTokenRequest = .ok pc ∧ p.Storage.SigningKey = .ok key ∧
      key.signAT cl = .ok resp.AccessToken ∧ cl.Actor = "" ∧ cl.Claims = pc ∧ cl.Subject = r.subject := by
  obtain ⟨id, exp, _, h2⟩ := c15_issued_access_token_carries_policy_decision hte hreq h
  simp only [hj, if_true] at h2
  obtain ⟨pc, key, h3, h4, h5⟩ := h2
  exact ⟨pc, key, _, h3, h4, h5, rfl, rfl, rfl⟩

/-- END TO END (requested id_token): the same for the ID token and `SetUserinfoFromTokenExchangeRequest` -/
theorem c15_issued_id_token_act_is_policy_answer {now : Int} {r : TEReq} {c : OPClient} {p : TEProvider} {resp : ExchangeResp}
    (hte : p.Storage.is_TokenExchangeStorage = true) (hreq : r.requestedTokenType = Const.IDTokenType)
    (h : GenTE.CreateTokenExchangeResponse now r c p = .ok resp) :
    ∃ ui key cl, p.Storage.SetUserinfoFromTokenExchangeRequest {} r.asTokenRequest = .ok ui ∧ p.Storage.SigningKey = .ok key ∧
      key.signID cl = .ok resp.AccessToken ∧ cl.Actor = "" ∧ cl.UserInfo = ui := by
  obtain ⟨_, ui, key, h1, h2, h3⟩ := c15_issued_id_token_carries_policy_decision hte hreq h
  exact ⟨ui, key, _, h1, h2, h3, (exchangeIDClaims_actor ..).1, (exchangeIDClaims_actor ..).2⟩

/-- a storage whose policy decides a NESTED chain for delegation -/
def exStoreChain : TEStore :=
  { GetPrivateClaimsFromTokenExchangeRequest := fun a => .ok [("act", actValue "chain" a.req.exchangeActor a.req.exchangeSubject a.req.clientID)],
    SigningKey := .ok { signAT := fun cl => .ok ("jwt|" ++ cl.Actor ++ "|" ++ ((cl.Claims.find? (·.1 == "act")).map (·.2)).getD "") } }

example : (match GenTE.CreateJWT 0 "https://op" ({ exchangeSubject := "user1", subject := "user1", exchangeActor := "actor1", clientID := "px" } : TEReq).asTokenRequest 300 "at9" { id := "px" } exStoreChain with
    | .ok t => t == "jwt||{\"act\":{\"act\":{\"sub\":\"prior:user1\"},\"sub\":\"gw\"},\"sub\":\"actor1\"}" | .error _ => false) = true := by decide +kernel

/-- the policy table: five different decisions for the same actor -/
example : (["flat", "chain", "pairwise", "extra", "none"].map fun m => actValue m "actor1" "user1" "px") =
    ["{\"sub\":\"actor1\"}", "{\"act\":{\"act\":{\"sub\":\"prior:user1\"},\"sub\":\"gw\"},\"sub\":\"actor1\"}", "{\"sub\":\"pw:px:actor1\"}",
     "{\"amr\":[\"mfa\"],\"client_id\":\"px\",\"sub\":\"actor1\"}", ""] := by decide +kernel

/-- `ActEncoding` is satisfiable both ways; the merge on concrete objects: the chain survives without a registered actor, is lost with one -/
example : ActEncoding "" [("iss", "\"op\""), ("sub", "\"user1\"")] ∧ ActEncoding "actor1" [("iss", "\"op\""), ("act", "{\"sub\":\"actor1\"}")] := by
  constructor
  · exact ⟨by decide, fun _ => by decide, fun h => absurd rfl h⟩
  · exact ⟨by decide, fun h => absurd h (by decide), fun _ => by decide⟩
example : lookup (Codec.merge [("iss", "\"op\"")] [("act", "{\"act\":{\"sub\":\"gw\"},\"sub\":\"a\"}")]) "act" = some "{\"act\":{\"sub\":\"gw\"},\"sub\":\"a\"}" ∧
    lookup (Codec.merge [("iss", "\"op\""), ("act", "{\"sub\":\"a\"}")] [("act", "{\"act\":{\"sub\":\"gw\"},\"sub\":\"a\"}")]) "act" = some "{\"sub\":\"a\"}" := by decide +kernel

end C15
