/-
  C01 proofs: the REGENERATED `Gen.VerifyIDToken` / `Gen.VerifyTokens` satisfy the monitor of
  Spec/C01 for every token, configuration and instant.
-/
import OidcModel.Spec.C01
import OidcModel.Generated.RPVerifier
import OidcModel.GoTac

namespace C01
open Go Gen Hand

theorem tRound_second_bounds (t : Int) :
    tRound t second - t ≤ halfSecond ∧ t - tRound t second < halfSecond + 1 ∧ tRound t second % second = 0 := by
  unfold tRound second halfSecond zeroTime
  simp only []
  split
  · omega
  · split <;> omega

/-! ### one lemma per translated check: what `= .ok` means -/

theorem checkSubject_ok {now c} : CheckSubject now c = .ok () ↔ c.sub ≠ "" := by
  go_char CheckSubject Claims.GetSubject Go.ok

theorem checkIssuer_ok {now c i} : CheckIssuer now c i = .ok () ↔ c.iss = i := by
  go_char CheckIssuer Claims.GetIssuer Go.ok

theorem checkAudience_ok {now c cid} : CheckAudience now c cid = .ok () ↔ cid ∈ c.aud := by
  go_char CheckAudience Claims.GetAudience Go.ok Go.contains

theorem checkAuthorizedParty_ok {now c cid} :
    CheckAuthorizedParty now c cid = .ok () ↔ ((c.azp = "" ∨ c.azp = cid) ∧ (c.aud.length ≤ 1 ∨ c.azp ≠ "")) := by
  go_char CheckAuthorizedParty Claims.GetAudience Claims.GetAuthorizedParty Go.ok Go.len HasLen.len instHasLenList

theorem checkNonce_ok {now c n} : CheckNonce now c n = .ok () ↔ c.nonce = n := by
  go_char CheckNonce Claims.GetNonce Go.ok


theorem checkExpiration_ok {now c off} : CheckExpiration now c off = .ok () ↔ now + off < ns c.exp := by
  go_char CheckExpiration Claims.GetExpiration Go.ok tBefore tAfter tAdd

theorem checkACR_ok {now c acr} :
    CheckAuthorizationContextClassReference now c acr = .ok () ↔ (∀ f, acr = some f → f c.acr = .ok ()) := by
  unfold CheckAuthorizationContextClassReference Claims.GetAuthenticationContextClassReference Go.ok Go.notNil
    Nilable.isNil instNilableOption Go.callOpt
  cases acr with
  | none => simp
  | some f =>
    simp only [Option.isNone_some, Bool.not_false, if_true]
    split <;> simp_all

theorem checkIssuedAt_ok {now c maxIAT off} :
    CheckIssuedAt now c maxIAT off = .ok () ↔
      (ns c.iat ≠ zeroTime ∧ ns c.iat ≤ tRound (now + off) second ∧
        (maxIAT = 0 ∨ ns c.iat ≥ tRound (now - maxIAT) second)) := by
  unfold CheckIssuedAt
  go_unfold Claims.GetIssuedAt Go.ok tBefore tAfter tAdd tIsZero
  simp only [ns, Int.sub_eq_add_neg]
  go_leaf

theorem checkAuthTime_ok {now c maxAge} :
    CheckAuthTime now c maxAge = .ok () ↔
      (maxAge = 0 ∨ (ns c.authTime ≠ zeroTime ∧ ns c.authTime ≥ tRound (now - maxAge) second)) := by
  unfold CheckAuthTime
  go_unfold Claims.GetAuthTime Go.ok tBefore tAfter tAdd tIsZero
  simp only [ns, Int.sub_eq_add_neg]
  go_leaf

theorem checkSignature_ok {now t p c algs ks c'} (h : CheckSignature now t p c algs ks = .ok c') :
    ∃ j s, joseParseSigned t (toJoseSignatureAlgorithms algs) = .ok j ∧ j.Signatures = [s] ∧
      ∃ p', ks.VerifySignature j = .ok p' ∧ p'.bytes = p.bytes ∧ c' = c.SetSignatureAlgorithm s.Header.Algorithm := by
  unfold CheckSignature at h
  simp only [] at h
  repeat' (split at h <;> try (simp at h))
  rename_i _ j hj hlen0 hlen1 _ p' hv hb
  subst h
  refine ⟨j, Go.index j.Signatures 0, hj, ?_, p', hv, ?_, rfl⟩
  · simp only [Go.len, HasLen.len] at hlen0 hlen1
    match hj : j.Signatures with
    | [] => simp [hj] at hlen0
    | [s] => simp [Go.index]
    | _ :: _ :: _ => simp [hj] at hlen1; omega
  · simpa [Go.bytesEqual] using hb

theorem parseToken_ok {now t p c} (h : ParseToken now t = .ok (p, c)) :
    t.segs = 3 ∧ t.middle = some p ∧ p.claims = some c := by
  unfold ParseToken at h
  split at h; · simp at h
  split at h; · simp at h
  split at h; · simp at h
  simp at h; simp_all

theorem verifyIDToken_ok {now t v c'} (h : VerifyIDToken now t v = .ok c') :
    ∃ p c, ParseToken now t = .ok (p, c) ∧ CheckSubject now c = .ok () ∧ CheckIssuer now c v.Issuer = .ok ()
      ∧ CheckAudience now c v.ClientID = .ok () ∧ CheckAuthorizedParty now c v.ClientID = .ok ()
      ∧ CheckSignature now t p c v.SupportedSignAlgs v.KeySet = .ok c'
      ∧ CheckExpiration now c' v.Offset = .ok () ∧ CheckIssuedAt now c' v.MaxAgeIAT v.Offset = .ok ()
      ∧ (∀ n, v.Nonce = some n → CheckNonce now c' n = .ok ())
      ∧ CheckAuthorizationContextClassReference now c' v.ACR = .ok ()
      ∧ CheckAuthTime now c' v.MaxAge = .ok () := by
  unfold VerifyIDToken DecryptToken at h
  simp only [] at h
  repeat' (split at h <;> try (simp at h))
  all_goals
    subst h
    exact ⟨_, _, by assumption, by assumption, by assumption, by assumption, by assumption, by assumption,
      by assumption, by assumption,
      by (intro n hn; simp_all [Go.notNil, Nilable.isNil, Go.getOpt]),
      by assumption, by assumption⟩

theorem c01_sound {now t v c} (h : VerifyIDToken now t v = .ok c) :
    ∃ pc alg, payloadClaims t = some pc ∧ c = pc.SetSignatureAlgorithm alg ∧ idTokenOK v pc now = true := by
  obtain ⟨p, pc, hp, hsub, hiss, haud, hazp, hsig, hexp, hiat, hnonce, hacr, hauth⟩ := verifyIDToken_ok h
  obtain ⟨_, hmid, hpc⟩ := parseToken_ok hp
  obtain ⟨j, s, _, _, p', _, _, hc⟩ := checkSignature_ok hsig
  refine ⟨pc, s.Header.Algorithm, by simp [payloadClaims, hmid, hpc], hc, ?_⟩
  subst hc
  rw [checkSubject_ok] at hsub
  rw [checkIssuer_ok] at hiss
  rw [checkAudience_ok] at haud
  rw [checkAuthorizedParty_ok] at hazp
  rw [checkExpiration_ok] at hexp
  rw [checkIssuedAt_ok] at hiat
  rw [checkACR_ok] at hacr
  rw [checkAuthTime_ok] at hauth
  simp only [checkNonce_ok] at hnonce
  simp only [Claims.SetSignatureAlgorithm] at *
  have r1 := tRound_second_bounds (now + v.Offset)
  have r2 := tRound_second_bounds (now - v.MaxAgeIAT)
  have r3 := tRound_second_bounds (now - v.MaxAge)
  simp only [idTokenOK, clauses, List.all_cons, List.all_nil, Bool.and_true, Bool.and_eq_true, decide_eq_true_eq,
    Bool.or_eq_true, beq_iff_eq, bne_iff_ne, ne_eq]
  refine ⟨hiss, hsub, by simpa using haud, hazp.1, hazp.2, ?_, ?_, ?_, ?_, ?_, ?_, ?_⟩
  all_goals (try (simp only [ns, halfSecond, second] at *))
  · omega
  · exact hiat.1
  · omega
  · rcases hiat.2.2 with h | h
    · left; exact h
    · right; omega
  · unfold nonceOK; cases hn : v.Nonce with
    | none => rfl
    | some n => simpa using hnonce n hn
  · unfold acrOK; cases ha : v.ACR with
    | none => rfl
    | some f => simp [hacr f ha, Except.toBool]
  · rcases hauth with h | ⟨h1, h2⟩
    · left; exact h
    · right; exact ⟨h1, by omega⟩

theorem correctlySigned_spec {v t pc alg} (h : correctlySigned v t = some (pc, alg)) :
    ∃ p j s p', t.segs = 3 ∧ t.middle = some p ∧ p.claims = some pc ∧ t.jws = some j ∧ j.Signatures = [s] ∧
      s.Header.Algorithm = alg ∧ (toJoseSignatureAlgorithms v.SupportedSignAlgs).contains alg = true ∧
      v.KeySet.VerifySignature j = .ok p' ∧ p'.bytes = p.bytes := by
  unfold correctlySigned at h
  repeat' (split at h <;> try (simp at h))
  rename_i hsegs _ _ p j hmid hjws _ _ c s hc hs _ p' hv
  obtain ⟨hin, hb, hcpc, halg⟩ := h
  subst hcpc halg
  exact ⟨p, j, s, p', by simpa using hsegs, hmid, hc, hjws, hs, rfl, by simpa using hin, hv, hb⟩

theorem c01_complete_margin {now t v pc alg} (hs : correctlySigned v t = some (pc, alg))
    (hm : idTokenOKMargin v pc now = true) :
    VerifyIDToken now t v = .ok (pc.SetSignatureAlgorithm alg) := by
  obtain ⟨p, j, s, p', hsegs, hmid, hpc, hjws, hsig, halg, hin, hv, hb⟩ := correctlySigned_spec hs
  simp only [idTokenOKMargin, clauses, List.all_cons, List.all_nil, Bool.and_true, Bool.and_eq_true, decide_eq_true_eq,
    Bool.or_eq_true, beq_iff_eq, bne_iff_ne, ne_eq] at hm
  obtain ⟨hiss, hsub, haud, hazp1, hazp2, hexp, hiatp, hiatf, hiato, hnonce, hacr, hauth⟩ := hm
  have r1 := tRound_second_bounds (now + v.Offset)
  have r2 := tRound_second_bounds (now - v.MaxAgeIAT)
  have r3 := tRound_second_bounds (now - v.MaxAge)
  simp only [ns, halfSecond, second] at *
  have e1 : ParseToken now t = .ok (p, pc) := by
    unfold ParseToken; simp [hsegs, hmid, hpc]
  have e2 : CheckSubject now pc = .ok () := checkSubject_ok.2 hsub
  have e3 : CheckIssuer now pc v.Issuer = .ok () := checkIssuer_ok.2 hiss
  have e4 : CheckAudience now pc v.ClientID = .ok () := checkAudience_ok.2 (by simpa using haud)
  have e5 : CheckAuthorizedParty now pc v.ClientID = .ok () := checkAuthorizedParty_ok.2 ⟨hazp1, hazp2⟩
  let c' := pc.SetSignatureAlgorithm alg
  have e6 : CheckSignature now t p pc v.SupportedSignAlgs v.KeySet = .ok c' := by
    unfold CheckSignature
    have hall : joseParseSigned t (toJoseSignatureAlgorithms v.SupportedSignAlgs) = .ok j := by
      unfold joseParseSigned; simp [hjws, hsig, halg]; simpa using hin
    simp [hall, hsig, Go.len, HasLen.len, Go.index, hv, Go.bytesEqual, hb, halg, c']
  have e7 : CheckExpiration now c' v.Offset = .ok () := checkExpiration_ok.2 (by simp [c', Claims.SetSignatureAlgorithm, ns]; omega)
  have e8 : CheckIssuedAt now c' v.MaxAgeIAT v.Offset = .ok () := by
    rw [checkIssuedAt_ok]; simp only [c', Claims.SetSignatureAlgorithm, ns, second]
    refine ⟨hiatp, by omega, ?_⟩
    · rcases hiato with h | h
      · left; exact h
      · right; omega
  have e9 : ∀ n, v.Nonce = some n → CheckNonce now c' n = .ok () := by
    intro n hn; rw [checkNonce_ok]; simp [nonceOK, hn] at hnonce; exact hnonce
  have e10 : CheckAuthorizationContextClassReference now c' v.ACR = .ok () := by
    rw [checkACR_ok]; intro f hf; simp only [acrOK, hf] at hacr
    cases hfa : f pc.acr with
    | ok u => simpa [c', Claims.SetSignatureAlgorithm] using hfa
    | error e => simp [hfa, Except.toBool] at hacr
  have e11 : CheckAuthTime now c' v.MaxAge = .ok () := by
    rw [checkAuthTime_ok]; simp only [c', Claims.SetSignatureAlgorithm, ns, second]
    rcases hauth with h | ⟨h1, h2⟩
    · left; exact h
    · right; exact ⟨h1, by omega⟩
  unfold VerifyIDToken DecryptToken
  simp only [e1, e2, e3, e4, e5, e6, e7, e8, e10, e11]
  cases hn : v.Nonce with
  | none => simp [Go.notNil, Nilable.isNil, c']
  | some n => simp [Go.notNil, Nilable.isNil, Go.getOpt, e9 n hn, c']

theorem getHashAlgorithm_eq (now : Int) (alg : String) :
    GetHashAlgorithm now alg = (match hashOf alg with | some h => .ok h | none => .error "ErrUnsupportedAlgorithm") := by
  unfold GetHashAlgorithm hashOf
  simp only [Const.RS256, Const.ES256, Const.PS256, Const.RS384, Const.ES384, Const.PS384, Const.RS512, Const.ES512,
    Const.PS512, Const.EdDSA, List.contains_cons, List.contains_nil, Bool.or_false, Bool.or_assoc]
  -- both sides test the same families in the same order; only the Go text tests EdDSA apart from the other SHA-512 names
  generalize (alg == "RS256" || (alg == "ES256" || alg == "PS256")) = b1
  generalize (alg == "RS384" || (alg == "ES384" || alg == "PS384")) = b2
  generalize (alg == "RS512") = r
  generalize (alg == "ES512") = e
  generalize (alg == "PS512") = p
  cases b1
  · cases b2
    · cases r <;> cases e <;> cases p <;> first | rfl | (by_cases hed : alg = "EdDSA" <;> simp [hed])
    · rfl
  · rfl

theorem rpVerifyAccessToken_ok {now atk c alg} :
    RPVerifyAccessToken now atk c.atHash alg = .ok () ↔ atHashOK atk c alg = true := by
  unfold RPVerifyAccessToken ClaimHash atHashOK
  rw [getHashAlgorithm_eq]
  cases hashOf alg with
  | none => simp [Go.ok]
  | some h =>
    simp [Go.ok, HashString, Hand.leftHalfHash]
    constructor
    · intro hh; by_cases h0 : c.atHash = ""
      · left; exact h0
      · right; exact (hh h0).symm
    · rintro (h0 | h0) h1
      · exact absurd h0 h1
      · exact h0.symm

/-- what the (regenerated) model answers -/
def run (v : Verifier) (t : Token) (withAT : Option String) (now : Int) : Go.R Claims :=
  match withAT with
  | none => VerifyIDToken now t v
  | some atk => VerifyTokens now atk t v

theorem verifyTokens_ok {now atk t v c} :
    VerifyTokens now atk t v = .ok c ↔ (VerifyIDToken now t v = .ok c ∧ RPVerifyAccessToken now atk c.atHash c.sigAlg = .ok ()) := by
  unfold VerifyTokens Claims.GetAccessTokenHash Claims.GetSignatureAlgorithm
  cases h1 : VerifyIDToken now t v with
  | error e => simp
  | ok c1 =>
    simp only []
    cases h2 : RPVerifyAccessToken now atk c1.atHash c1.sigAlg with
    | error e => simp; intro h; subst h; simp [h2]
    | ok u => simp; intro h; subst h; exact h2

/-- C01, soundness: whatever is accepted satisfies every condition of the statement, the returned
    claims are the payload's claims, and a present at_hash binds the access token. -/
theorem c01_sound_all (v : Verifier) (t : Token) (withAT : Option String) (now : Int) (c : Claims)
    (h : run v t withAT now = .ok c) : monitor v t withAT now (some c) = none := by
  have hid : VerifyIDToken now t v = .ok c := by
    cases withAT with
    | none => exact h
    | some atk => exact (verifyTokens_ok.1 h).1
  obtain ⟨pc, alg, hpc, hc, hok⟩ := c01_sound hid
  unfold monitor
  simp only [hpc]
  have hne : ({ c with sigAlg := "" } != { pc with sigAlg := "" }) = false := by
    subst hc; simp [Claims.SetSignatureAlgorithm]
  simp only [hne]
  have hff : firstFailing (clauses v pc now (-halfSecond)) = none := by
    unfold firstFailing
    simp only [idTokenOK, List.all_eq_true] at hok
    rw [List.find?_eq_none.2 (fun x hx => by simp [hok x hx])]; rfl
  simp only [hff]
  cases withAT with
  | none => simp
  | some atk =>
    have h2 := (verifyTokens_ok.1 h).2
    have : c.atHash = pc.atHash := by subst hc; rfl
    rw [this, rpVerifyAccessToken_ok] at h2
    simp [h2]

/-- C01, completeness: a correctly signed token meeting every condition with more than rounding
    margin (and a matching at_hash, when verified together with an access token) is never rejected. -/
theorem c01_complete_all (v : Verifier) (t : Token) (withAT : Option String) (now : Int) (e : String)
    (h : run v t withAT now = .error e) : monitor v t withAT now none = none := by
  unfold monitor
  simp only []
  cases hs : correctlySigned v t with
  | none => rfl
  | some pa =>
    obtain ⟨pc, alg⟩ := pa
    cases withAT with
    | none =>
      simp only [Bool.and_true]
      by_cases hm : idTokenOKMargin v pc now = true
      · have hid := c01_complete_margin (now := now) hs hm
        simp [run, hid] at h
      · simp [hm]
    | some atk =>
      simp only []
      by_cases hm : (idTokenOKMargin v pc now && atHashOK atk pc alg) = true
      · simp only [Bool.and_eq_true] at hm
        have hid := c01_complete_margin (now := now) hs hm.1
        have h2 : RPVerifyAccessToken now atk (pc.SetSignatureAlgorithm alg).atHash (pc.SetSignatureAlgorithm alg).sigAlg = .ok () :=
          (rpVerifyAccessToken_ok (c := pc)).2 hm.2
        have := verifyTokens_ok.2 ⟨hid, h2⟩
        simp [run, this] at h
      · simp [hm]

/-- C01: for every verifier configuration, token, access token and instant, the answer of the
    regenerated verifier satisfies the monitor. -/
theorem c01_holds (v : Verifier) (t : Token) (withAT : Option String) (now : Int) :
    monitor v t withAT now (run v t withAT now).toOption = none := by
  cases h : run v t withAT now with
  | ok c => exact c01_sound_all v t withAT now c h
  | error e => exact c01_complete_all v t withAT now e h



/-! ### non-vacuity: a concrete token that is accepted; the same token rejected once expired, and by a verifier of another client -/
section examples
def exKey : JWK := { KeyID := "k1", Use := "sig", kty := .rsa, keyNo := 7 }
def exClaims : Claims := { iss := "https://op", sub := "u1", aud := ["rp", "other"], azp := "rp", exp := 2000000600, iat := 2000000000, authTime := 1999999990, nonce := "n0", acr := "gold" }
def exPayload : Payload := { bytes := 1, claims := some exClaims }
def exHdr : JHeader := { Algorithm := "RS256", KeyID := "k1" }
def exSig : JSig := { Header := exHdr, signer := some 7, signedAlg := "RS256", signedBytes := 1, signedHdr := exHdr }
def exTok : Token := { segs := 3, middle := some exPayload, jws := some { Signatures := [exSig], payload := exPayload } }
def exV : Verifier := { Issuer := "https://op", ClientID := "rp", Offset := second, MaxAgeIAT := 3600 * second, MaxAge := 7200 * second, Nonce := some "n0", KeySet := { kind := .published, keys := [exKey] } }
def exNow : Int := 2000000100 * second + 123456789

example : (run exV exTok none exNow).toOption = some (exClaims.SetSignatureAlgorithm "RS256") := by decide +kernel
example : correctlySigned exV exTok = some (exClaims, "RS256") ∧ idTokenOKMargin exV exClaims exNow = true := by decide +kernel
example : (run exV exTok none (exNow + 600 * second)).toOption = none := by decide +kernel
example : (run { exV with ClientID := "rp2" } exTok none exNow).toOption = none := by decide +kernel
end examples

end C01
