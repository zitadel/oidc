/-
  C06: the SIGNING PATH regenerated (Generated/IssueC06Key.lean, namespace GenC06K: `SignerFromKey`, `crypto.Sign`,
  `crypto.SignPayload`, `jsonWebKeySet`) and issuance HISTORIES with key-change events.

  One characterisation lemma per regenerated function (the only place where the shape of the Go text matters); everything else
  uses those only: SignerFromKey ∘ Sign signs with exactly the key handed in (`c06_mint_spec`); such a token passes the regenerated
  `op.OpenIDKeySet.VerifySignature` (GenC02) over the key set the regenerated `jsonWebKeySet` publishes whenever that set announces
  the signing key; in every history of key changes and issuances over any number of providers in one process, every token is
  signed by the key the storage of ITS provider returned for THAT issuance (`c06_key_history`); and with the storage's key being a
  key of this model, what the regenerated `CreateIDToken` / `CreateJWT` (GenC06) return is that minted token.
-/
import OidcModel.Generated.IssueC06Key
import OidcModel.Proofs.C06Issue
import OidcModel.Proofs.C02
import OidcModel.GoTac
namespace C06
open Go Hand

/-- go-jose accepts the key: the algorithm fits the type of the key material -/
def keyFits (k : IssKSigningKey) : Bool := algFits k.Key.kty k.SignatureAlgorithm

/-- the signer that remembers exactly this key: its algorithm, its id, its material; `typ: JWT` -/
def signerOf (k : IssKSigningKey) : IssKSigner :=
  { key := { Algorithm := k.SignatureAlgorithm, Key := { Key := k.Key, KeyID := k.ID } }, typ := "JWT" }

/-- the signature term of key `k` over payload `p`: made by k's key pair, header = k's algorithm and id -/
def sigBy (k : IssKSigningKey) (p : Payload) : JSig :=
  { Header := { Algorithm := k.SignatureAlgorithm, KeyID := k.ID }, signer := some k.Key.keyNo, signedAlg := k.SignatureAlgorithm,
    signedBytes := p.bytes, signedHdr := { Algorithm := k.SignatureAlgorithm, KeyID := k.ID } }

def jwsBy (k : IssKSigningKey) (p : Payload) : JWS := { Signatures := [sigBy k p], payload := p }

def mintedBy (k : IssKSigningKey) (p : Payload) : Token := { segs := 3, middle := some p, jws := some (jwsBy k p) }

def payloadOf (cd : IssKCodec) (c : Claims) : Payload := { bytes := cd.bytesOf c, claims := some c }

def pubJWK (k : IssKKey) : JWK := { KeyID := k.ID, Use := k.Use, kty := k.Key.kty, keyNo := k.Key.keyNo }

/-- the signing path of ONE issuance as `CreateIDToken` / `CreateJWT` run it: `SignerFromKey(key)`, then `crypto.Sign(claims, signer)` -/
def mint (now : Int) (cd : IssKCodec) (k : IssKSigningKey) (c : Claims) : Go.R Token :=
  match GenC06K.SignerFromKey now k with
  | .error e => .error e
  | .ok s => GenC06K.Sign now cd c s

theorem signerFromKey_spec (now : Int) (k : IssKSigningKey) :
    GenC06K.SignerFromKey now k = if keyFits k then .ok (signerOf k) else .error "ErrSignerCreationFailed" := by
  unfold keyFits signerOf
  go_char GenC06K.SignerFromKey Hand.issKNewSigner IssKOpts.WithType

/-- what a signer makes of a payload: ONE signature by the key material it remembers, header = the algorithm and key id it remembers -/
def tokenOf (s : IssKSigner) (p : Payload) : Token :=
  let hdr : JHeader := { Algorithm := s.key.Algorithm, KeyID := s.key.Key.KeyID }
  let sg : JSig := { Header := hdr, signer := some s.key.Key.Key.keyNo, signedAlg := s.key.Algorithm, signedBytes := p.bytes, signedHdr := hdr }
  { segs := 3, middle := some p, jws := some { Signatures := [sg], payload := p } }

theorem signPayload_spec (now : Int) (p : Payload) (s : IssKSigner) :
    GenC06K.SignPayload now p s = if s.isNil then .error "error:missing signer" else .ok (tokenOf s p) := by
  unfold tokenOf
  go_char GenC06K.SignPayload Hand.issKSign Hand.issKCompactSerialize Go.isNil Go.notNil Go.Nilable.isNil

theorem sign_spec (now : Int) (cd : IssKCodec) (c : Claims) (s : IssKSigner) :
    GenC06K.Sign now cd c s = GenC06K.SignPayload now (payloadOf cd c) s := by
  unfold payloadOf
  go_char GenC06K.Sign Hand.issKMarshal

/-- the two idioms of building a slice from a slice meet: `x[i] = f(p)` into a pre-sized slice and `x = append(x, f(p))` -/
theorem foldl_append_map {α β : Type} (f : α → β) (l : List α) (acc : List β) :
    List.foldl (fun acc x => acc ++ [f x]) acc l = acc ++ l.map f := by
  induction l generalizing acc with
  | nil => simp
  | cons x xs ih => simp [List.foldl_cons, ih]

theorem flatten_map_singleton {α β : Type} (f : α → β) (l : List α) : (l.map (fun x => [f x])).flatten = l.map f := by
  induction l with
  | nil => rfl
  | cons x xs ih => simp [ih]

theorem jsonWebKeySet_spec (now : Int) (keys : List IssKKey) :
    (GenC06K.jsonWebKeySet now keys).Keys = keys.map pubJWK := by
  unfold pubJWK
  first
    | (go_char GenC06K.jsonWebKeySet Go.mapList Hand.issKWebKey)
    | (simp [GenC06K.jsonWebKeySet, GoX.foldList, Go.append, Go.mapList, Hand.issKWebKey, foldl_append_map, flatten_map_singleton])

/-- ONE issuance: the token is signed with exactly the key handed in - its material, under its algorithm, naming its id -,
    or go-jose refuses the key; nothing else enters -/
theorem c06_mint_spec (now : Int) (cd : IssKCodec) (k : IssKSigningKey) (c : Claims) :
    mint now cd k c = if keyFits k then .ok (mintedBy k (payloadOf cd c)) else .error "ErrSignerCreationFailed" := by
  unfold mint
  rw [signerFromKey_spec]
  by_cases h : keyFits k = true
  · simp only [h, if_true]
    rw [sign_spec, signPayload_spec]
    simp [signerOf, tokenOf, mintedBy, jwsBy, sigBy]
  · simp [h]

/-- the published key set ANNOUNCES the signing key: among the published entries usable for signatures with the signing
    algorithm, the first one that carries the signing key's (non-empty) id is the public half of the signing key -/
def announces (published : List IssKKey) (k : IssKSigningKey) : Prop :=
  ((published.map pubJWK).filter (fun j => (j.Use == Const.KeyUseSignature || j.Use == "") && algFits j.kty k.SignatureAlgorithm)).find?
      (fun j => j.KeyID == k.ID && k.ID != "")
    = some { KeyID := k.ID, Use := Const.KeyUseSignature, kty := k.Key.kty, keyNo := k.Key.keyNo }

instance (published : List IssKKey) (k : IssKSigningKey) : Decidable (announces published k) := by unfold announces; infer_instance

/-- the shape of the reference storage (and of the example storage): the current key is published first, for signatures, under its id -/
theorem announces_head (k : IssKSigningKey) (alg : String) (rest : List IssKKey) (hfit : keyFits k = true) (hid : k.ID ≠ "") :
    announces ({ ID := k.ID, Algorithm := alg, Use := Const.KeyUseSignature, Key := k.Key.pub } :: rest) k := by
  unfold announces
  unfold keyFits at hfit
  simp [pubJWK, IssKPriv.pub, hfit, hid]

/-- a signature naming the announced key's id and algorithm is verified against the public half of the announced key: the
    verdict of the regenerated `OpenIDKeySet.VerifySignature` over the key set the regenerated `jsonWebKeySet` publishes is
    go-jose's verdict under that one key -/
theorem verify_announced (now : Int) (k cur : IssKSigningKey) (p : Payload) (published : List IssKKey)
    (hid : k.ID = cur.ID) (halg : k.SignatureAlgorithm = cur.SignatureAlgorithm) (hann : announces published cur) :
    (GenC02.OpenIDKeySetVerifySignature now { keySet := .ok (GenC06K.jsonWebKeySet now published).Keys } (jwsBy k p)).toOption =
      (Hand.jwsVerify (jwsBy k p) { KeyID := cur.ID, Use := Const.KeyUseSignature, kty := cur.Key.kty, keyNo := cur.Key.keyNo }).toOption := by
  rw [C02.openIDKeySet_bridge, jsonWebKeySet_spec]
  unfold KeySet.VerifySignature
  simp only [Hand.GetKeyIDAndAlg, jwsBy, sigBy]
  rw [C02.findMatchingKey_eq_spec]
  unfold C02.findSpec
  unfold announces at hann
  rw [hid, halg]
  simp only [hann]

/-- a token minted with key `k` passes the regenerated `OpenIDKeySet.VerifySignature` (what `op.VerifyAccessToken` and the
    id_token_hint verifier use) over the key set the regenerated `jsonWebKeySet` makes of the storage's `KeySet()`, and the
    verified payload is the signed one -/
theorem c06_minted_verifies (now : Int) (k : IssKSigningKey) (p : Payload) (published : List IssKKey)
    (hfit : keyFits k = true) (hann : announces published k) :
    (GenC02.OpenIDKeySetVerifySignature now { keySet := .ok (GenC06K.jsonWebKeySet now published).Keys } (jwsBy k p)).toOption = some p := by
  rw [verify_announced now k k p published rfl rfl hann]
  unfold keyFits at hfit
  simp [Hand.jwsVerify, Hand.sigVerifies, jwsBy, sigBy, hfit, Except.toOption]

/-! ### histories: key-change events and issuances over any number of providers in one process -/

/-- what the storage of one provider answers right now -/
structure KProvider where
  signing : IssKSigningKey := {}        -- `Storage.SigningKey`
  published : List IssKKey := []        -- `Storage.KeySet`
  deriving Repr, Inhabited

inductive KEvent
  /-- the storage of provider `p` answers `SigningKey` / `KeySet` differently from now on (ANY change: material, id, algorithm, any of them) -/
  | setKey (p : Nat) (k : IssKSigningKey) (published : List IssKKey)
  /-- provider `p` issues a token over these claims (ID token or JWT access token) -/
  | issue (p : Nat) (c : Claims)

abbrev KWorld := Nat → KProvider

def KWorld.after (w : KWorld) : KEvent → KWorld
  | .setKey p k pub => fun q => if q = p then { signing := k, published := pub } else w q
  | .issue _ _ => w

def KWorld.afterAll (w : KWorld) : List KEvent → KWorld
  | [] => w
  | e :: es => (w.after e).afterAll es

/-- what the process hands out, event by event: for an issuance the result of the regenerated signing path on the key the
    provider's storage returns at that moment -/
def kRun (now : Int) (cd : IssKCodec) (w : KWorld) : List KEvent → List (Option (Go.R Token))
  | [] => []
  | .issue p c :: es => some (mint now cd (w p).signing c) :: kRun now cd w es
  | e@(.setKey _ _ _) :: es => none :: kRun now cd (w.after e) es

/-- HISTORY THEOREM.  In every history of key changes and issuances (any length, any number of providers in the process, any
    keys - in particular the same key id for different material, in one provider over time or in two providers at once), the
    token of the n-th event, an issuance of provider `p`, is signed with the signing key the storage of `p` returns after
    exactly the first n events - the key of THAT issuance -, or refused because go-jose does not accept that key. -/
theorem c06_key_history (now : Int) (cd : IssKCodec) (evs : List KEvent) (w : KWorld) (n p : Nat) (c : Claims)
    (h : evs[n]? = some (.issue p c)) :
    (kRun now cd w evs)[n]? = some (some (
      let k := ((w.afterAll (evs.take n)) p).signing
      if keyFits k then .ok (mintedBy k (payloadOf cd c)) else .error "ErrSignerCreationFailed")) := by
  induction evs generalizing w n with
  | nil => simp at h
  | cons e es ih =>
    cases n with
    | zero =>
      simp only [List.getElem?_cons_zero, Option.some.injEq] at h
      subst h
      simp [kRun, KWorld.afterAll, c06_mint_spec]
    | succ n =>
      simp only [List.getElem?_cons_succ] at h
      cases e with
      | setKey q k pub => simpa [kRun, KWorld.afterAll] using ih (w.after (.setKey q k pub)) n h
      | issue q c' => simpa [kRun, KWorld.afterAll, KWorld.after] using ih w n h

/-- ... and, when the key set published at that moment announces that key, the token passes the library's signature
    verification against the key set published at that moment -/
theorem c06_key_history_verifies (now : Int) (cd : IssKCodec) (evs : List KEvent) (w : KWorld) (n p : Nat) (c : Claims)
    (h : evs[n]? = some (.issue p c))
    (hfit : keyFits ((w.afterAll (evs.take n)) p).signing = true)
    (hann : announces ((w.afterAll (evs.take n)) p).published ((w.afterAll (evs.take n)) p).signing) :
    ∃ t j, (kRun now cd w evs)[n]? = some (some (.ok t)) ∧ t.jws = some j ∧ t.middle = some (payloadOf cd c) ∧
      (GenC02.OpenIDKeySetVerifySignature now
        { keySet := .ok (GenC06K.jsonWebKeySet now ((w.afterAll (evs.take n)) p).published).Keys } j).toOption = some (payloadOf cd c) := by
  have hh := c06_key_history now cd evs w n p c h
  simp only [hfit, if_true] at hh
  exact ⟨_, _, hh, rfl, rfl, c06_minted_verifies now _ _ _ hfit hann⟩

/-- a signature made with other material than the announced one does NOT pass: a signer kept from an earlier key (same id,
    same algorithm, other key pair) yields tokens the published key set rejects -/
theorem c06_stale_signer_rejected (now : Int) (old cur : IssKSigningKey) (p : Payload) (published : List IssKKey)
    (hid : old.ID = cur.ID) (halg : old.SignatureAlgorithm = cur.SignatureAlgorithm) (hmat : old.Key.keyNo ≠ cur.Key.keyNo)
    (hann : announces published cur) :
    (GenC02.OpenIDKeySetVerifySignature now { keySet := .ok (GenC06K.jsonWebKeySet now published).Keys } (jwsBy old p)).toOption = none := by
  rw [verify_announced now old cur p published hid halg hann]
  simp [Hand.jwsVerify, Hand.sigVerifies, jwsBy, sigBy, hmat, Except.toOption]

/-! ### bridge to the regenerated `CreateIDToken` / `CreateJWT` (GenC06, string tokens) -/

/-- the key of the issuance model (Model/IssueC06.lean: "go-jose = arbitrary functions of the key") whose functions ARE the
    regenerated signing path on key `k`; `ser` spells a token as a string -/
def issKeyOf (now : Int) (cd : IssKCodec) (ser : Token → String) (k : IssKSigningKey) : IssSigningKey :=
  { SignatureAlgorithm := k.SignatureAlgorithm, ID := k.ID,
    signerOK := (GenC06K.SignerFromKey now k).toBool,
    signID := fun c => (mint now cd k c.toTokenClaimsGo.toClaims).map ser,
    signAT := fun c => (mint now cd k c.toTokenClaimsGo.toClaims).map ser }

theorem issKeyOf_signed {now : Int} {cd : IssKCodec} {ser : Token → String} {k : IssKSigningKey} {c : Claims} {tok : String}
    (hs : (mint now cd k c).map ser = .ok tok) : keyFits k = true ∧ tok = ser (mintedBy k (payloadOf cd c)) := by
  rw [c06_mint_spec] at hs
  by_cases hf : keyFits k = true
  · simp only [hf, if_true, Except.map, Except.ok.injEq] at hs
    exact ⟨hf, hs.symm⟩
  · simp [hf, Except.map] at hs

/-- every ID token `CreateIDToken` returns when the storage's signing key is `k` is the serialisation of the token minted
    with `k` - over claims that pass the library's RP verifier (margin model of C01) -/
theorem c06_id_token_signed_by_storage_key (now now' : Int) (cd : IssKCodec) (ser : Token → String) (k : IssKSigningKey)
    (issuer : String) (request : IssRequest) (validity : Int) (accessToken code : String)
    (storage : IssStorage) (client : IssClient) (tok : String)
    (hkey : storage.SigningKey = .ok (issKeyOf now cd ser k))
    (h : GenC06.CreateIDToken now issuer request validity accessToken code storage client = .ok tok)
    (hcid : request.GetClientID ≠ "") (hsub : request.GetSubject ≠ "") (hskew : 0 ≤ client.ClockSkew) (hepoch : Go.second ≤ now - client.ClockSkew)
    (hwin : now ≤ now' ∧ now' + 4 * Go.second ≤ now + validity) :
    ∃ c : Claims, keyFits k = true ∧ tok = ser (mintedBy k (payloadOf cd c)) ∧
      C01.idTokenOKMargin { Issuer := issuer, ClientID := request.GetClientID, Offset := Go.second,
                            Nonce := some (if request.is_AuthRequest then request.GetNonce else "") } c now' = true := by
  obtain ⟨key, c, hk, hs, hv⟩ := c06_issued_id_token_verifies now now' issuer request validity accessToken code storage client tok h hcid hsub hskew hepoch hwin
  obtain rfl := Except.ok.inj (hkey.symm.trans hk)
  obtain ⟨hf, ht⟩ := issKeyOf_signed hs
  exact ⟨c.toTokenClaimsGo.toClaims, hf, ht, hv⟩

/-- what `CreateJWT` returns is the signature of the storage's signing key (the key of THAT call) over access-token claims -/
theorem c06_jwt_signed (now : Int) (issuer : String) (request : IssRequest) (exp : Int) (id : String) (client : IssClient)
    (storage : IssStorage) (tok : String) (h : GenC06.CreateJWT now issuer request exp id client storage = .ok tok) :
    ∃ key c, storage.SigningKey = .ok key ∧ key.signerOK = true ∧ key.signAT c = .ok tok := by
  unfold GenC06.CreateJWT at h
  simp only [] at h
  split at h
  · simp at h
  · split at h
    · simp at h
    · rename_i key hkey
      simp only [Hand.issSignerFromKey, Hand.issSignAT] at h
      by_cases hok : key.signerOK = true
      · simp only [hok, if_true] at h
        exact ⟨key, _, hkey, hok, h⟩
      · simp [hok] at h

theorem c06_jwt_signed_by_storage_key (now : Int) (cd : IssKCodec) (ser : Token → String) (k : IssKSigningKey)
    (issuer : String) (request : IssRequest) (exp : Int) (id : String) (client : IssClient) (storage : IssStorage) (tok : String)
    (hkey : storage.SigningKey = .ok (issKeyOf now cd ser k))
    (h : GenC06.CreateJWT now issuer request exp id client storage = .ok tok) :
    ∃ c : Claims, keyFits k = true ∧ tok = ser (mintedBy k (payloadOf cd c)) := by
  obtain ⟨key, c, hk, _, hs⟩ := c06_jwt_signed now issuer request exp id client storage tok h
  obtain rfl := Except.ok.inj (hkey.symm.trans hk)
  obtain ⟨hf, ht⟩ := issKeyOf_signed hs
  exact ⟨c.toTokenClaimsGo.toClaims, hf, ht⟩

/-! ### non-vacuity: a provider that is re-keyed in place under an unchanged key id, and a second provider in the same process
    that uses the same key id for other material -/

def exCd : IssKCodec := { bytesOf := fun c => c.iat.toNat }
def exKeyA : IssKSigningKey := { SignatureAlgorithm := "RS256", Key := { keyNo := 1, kty := .rsa }, ID := "sig1" }
def exKeyB : IssKSigningKey := { SignatureAlgorithm := "RS256", Key := { keyNo := 2, kty := .rsa }, ID := "sig1" }
def exKeyC : IssKSigningKey := { SignatureAlgorithm := "RS256", Key := { keyNo := 3, kty := .rsa }, ID := "sig1" }
def exPub (k : IssKSigningKey) : List IssKKey := [{ ID := k.ID, Algorithm := k.SignatureAlgorithm, Use := "sig", Key := k.Key.pub }]
def exWorld : KWorld := fun q => if q = 1 then { signing := exKeyC, published := exPub exKeyC } else { signing := exKeyA, published := exPub exKeyA }
def exClaims : Claims := { iss := "https://op", sub := "u", aud := ["rp"], exp := 2000000600, iat := 2000000000 }
def exHistory : List KEvent := [.issue 0 exClaims, .setKey 0 exKeyB (exPub exKeyB), .issue 0 exClaims, .issue 1 exClaims]

def signersOf (l : List (Option (Go.R Token))) : List (Option Nat) :=
  l.map fun o => match o with
    | some (.ok t) => (t.jws.bind fun j => j.Signatures.head?).bind (·.signer)
    | _ => none

example : signersOf (kRun 0 exCd exWorld exHistory) = [some 1, none, some 2, some 3] := by decide +kernel
example : announces (exPub exKeyB) exKeyB := by decide +kernel
/-- the token signed with the replaced key A is rejected by the key set that now publishes B under the same id -/
example : (GenC02.OpenIDKeySetVerifySignature 0 { keySet := .ok (GenC06K.jsonWebKeySet 0 (exPub exKeyB)).Keys } (jwsBy exKeyA (payloadOf exCd exClaims))).toOption = none :=
  c06_stale_signer_rejected 0 exKeyA exKeyB _ _ rfl rfl (by decide) (by decide)
example : (GenC02.OpenIDKeySetVerifySignature 0 { keySet := .ok (GenC06K.jsonWebKeySet 0 (exPub exKeyB)).Keys } (jwsBy exKeyB (payloadOf exCd exClaims))).toOption
    = some (payloadOf exCd exClaims) :=
  c06_minted_verifies 0 exKeyB _ _ (by decide) (by decide)

end C06
