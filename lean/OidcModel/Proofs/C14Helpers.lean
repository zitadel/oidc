/-
  C14 — "assertions produced by the library's own client helpers are accepted by the provider" as a theorem
  about helper ∘ verifier.  Top proof module of the property (imports Proofs/C14, C14Endpoints, C14Reuse, C14Deep, C14Time, C14TimeEp).

  The helpers are regenerated from the Go source (`Generated/AssertionHelpers.lean`, namespace `GenC14`):
  `crypto.BytesToPrivateKey`, `client.NewSignerFromPrivateKeyByte`, `crypto.Sign` / `SignPayload`,
  `client.SignedJWTProfileAssertion`, `oidc.NewJWTProfileAssertion`, `oidc.GenerateJWTProfileToken`,
  `oidc.NewJWTProfileGrantRequest`, `profile.NewJWTProfileTokenSource`, `profile.WithStaticTokenEndpoint`,
  `jwtProfileTokenSource.TokenCtx`, `client.ClientAssertionFormAuthorization`, `client.ClientAssertionCodeOptions`.

  Layer 1 — one characterisation lemma per translated helper, an EQUATION with a hand-readable spec function, proved by unfolding
  the regenerated definition and closing the paths with the shape-independent `go_leaf` (straight-line bodies: `simp` / `rfl`).
  Layer 2 — the theorems go through those lemmas and the characterisation lemma of the verifier (`verifyJWTAssertion_ok`);
  `GenC14.ClientIDFromRequest` is unfolded in `c14_form_authorization_reaches_provider`.  The accepting theorems are `_partial`:
  they hold for RSA and EC keys; for an Ed25519 key the very same composition is REJECTED (F-C14: `c14_helper_eddsa_rejected`,
  `c14_helper_eddsa_witness`), and for an EC key on another curve than P-256 the helper produces NO assertion (ES256 is chosen
  for every ECDSA key).
-/
import OidcModel.Proofs.C14Deep
import OidcModel.Proofs.C14Time
import OidcModel.Proofs.C14TimeEp
import OidcModel.Generated.AssertionHelpers
namespace C14
open Go Gen Hand

/-- nil tests in one normal form, whichever way round the Go text asks (`x == nil` / `x != nil`); never fails -/
macro "go_nil" : tactic =>
  `(tactic| try simp only [Go.isNil, Go.notNil, Go.Nilable.isNil, instNilableHlpSigner, instNilableOptionHlpBlock, Bool.not_eq_true', Option.isNone_iff_eq_none])

/-! ## Layer 1: what each regenerated helper computes -/

/-- which private key and algorithm the helpers take from key bytes (spec): PKCS#1 → RS256; PKCS#8 RSA → RS256,
    Ed25519 → EdDSA, ECDSA (ANY curve) → ES256 -/
def keyAlg (b : HlpKeyBytes) : Go.R (HlpPrivateKey × String) :=
  match b.block with
  | none => .error "ErrPEMDecode"
  | some _ =>
    match b.pkcs1 with
    | .ok k => .ok (k, "RS256")
    | .error _ =>
      match b.pkcs8 with
      | .error _ => .error "ErrUnsupportedFormat"
      | .ok (.rsa k) => .ok (k, "RS256")
      | .ok (.ed25519 k) => .ok (k, "EdDSA")
      | .ok (.ecdsa k) => .ok (k, "ES256")
      | .ok .other => .error "ErrUnsupportedPrivateKey"

theorem bytesToPrivateKey_eq (now : Int) (b : HlpKeyBytes) : GenC14.BytesToPrivateKey now b = keyAlg b := by
  unfold GenC14.BytesToPrivateKey keyAlg Hand.hlpPemDecode Hand.hlpParsePKCS1 Hand.hlpParsePKCS8 Const.RS256 Const.EdDSA Const.ES256
  go_nil
  rcases b.block with _ | blk
  · rfl
  simp only []
  rcases b.pkcs1 with e | k
  · simp only []
    rcases b.pkcs8 with e | k8
    · go_leaf
    · cases k8 <;> go_leaf
  · go_leaf

/-- the signer the helpers build (spec): the key and algorithm of `keyAlg`, the caller's key id, no signer options -/
def signerOf (b : HlpKeyBytes) (kid : String) : Go.R HlpSigner :=
  match keyAlg b with
  | .error e => .error e
  | .ok (k, alg) => if algFits k.kty alg then .ok { key := { Algorithm := alg, Key := { Key := k, KeyID := kid } } } else .error "ErrUnsupportedAlgorithm"

theorem newSigner_eq (now : Int) (b : HlpKeyBytes) (kid : String) : GenC14.NewSignerFromPrivateKeyByte now b kid = signerOf b kid := by
  unfold GenC14.NewSignerFromPrivateKeyByte signerOf Hand.hlpNewSigner
  simp only [bytesToPrivateKey_eq]
  go_leaf

/-- the token a signer makes of claims `c` whose JSON encoding is the byte string `bytes` (spec): three segments, the payload
    in the middle, ONE signature by key `keyNo` over exactly these bytes with protected header {alg, kid} -/
def mintedToken (bytes : Nat) (c : Claims) (alg kid : String) (keyNo : Nat) : Token :=
  let p : Payload := { bytes := bytes, claims := some c }
  let hdr : JHeader := { Algorithm := alg, KeyID := kid }
  { segs := 3, middle := some p,
    jws := some { Signatures := [{ Header := hdr, signer := some keyNo, signedAlg := alg, signedBytes := bytes, signedHdr := hdr }], payload := p } }

/-- signing claims `c` with a signer (spec): needs a signer, and an ES256 signer needs a P-256 key -/
def signClaims (cd : HlpCodec) (c : Claims) (s : HlpSigner) : Go.R Token :=
  if s.isNil then .error "error:missing signer"
  else if s.key.Key.Key.kty == .ec && s.key.Algorithm == "ES256" && s.key.Key.Key.curveBits != 256 then .error "go-jose: expected 256 bit key"
  else .ok (mintedToken (cd.bytesOf c) c s.key.Algorithm s.key.Key.KeyID s.key.Key.Key.keyNo)

theorem signPayload_eq (now : Int) (b : Nat) (c : Claims) (s : HlpSigner) :
    GenC14.SignPayload now { bytes := b, claims := some c } s = (if s.isNil then .error "error:missing signer"
      else if s.key.Key.Key.kty == .ec && s.key.Algorithm == "ES256" && s.key.Key.Key.curveBits != 256 then .error "go-jose: expected 256 bit key"
      else .ok (mintedToken b c s.key.Algorithm s.key.Key.KeyID s.key.Key.Key.keyNo)) := by
  unfold GenC14.SignPayload Hand.hlpSign Hand.hlpCompactSerialize mintedToken
  go_nil
  go_leaf

/-- the claims `client.SignedJWTProfileAssertion` signs: iss = sub = clientID, the caller's audience, iat = now, exp = now + expiration
    (whole seconds) -/
def helperClaims (now : Int) (clientID : String) (audience : List String) (expiration : Int) : Claims :=
  { iss := clientID, sub := clientID, aud := audience, exp := Go.fromTime (now + expiration), iat := Go.fromTime now }

theorem signedAssertion_eq (now : Int) (cd : HlpCodec) (id : String) (aud : List String) (exp : Int) (s : HlpSigner) :
    GenC14.SignedJWTProfileAssertion now cd id aud exp s = signClaims cd (helperClaims now id aud exp) s := by
  unfold GenC14.SignedJWTProfileAssertion GenC14.SignRequest Hand.hlpMarshalRequest signClaims helperClaims
  simp only [signPayload_eq, HlpTokenRequest.toClaims, Go.tAdd]

/-- `oidc.NewJWTProfileAssertion` without options: iss = sub = userID, one hour -/
theorem newAssertion_eq (now : Int) (userID keyID : String) (audience : List String) (key : HlpKeyBytes) :
    (GenC14.NewJWTProfileAssertion now userID keyID audience key []).toClaims = helperClaims now userID audience (3600 * Go.second) ∧
    (GenC14.NewJWTProfileAssertion now userID keyID audience key []).PrivateKey = key ∧
    (GenC14.NewJWTProfileAssertion now userID keyID audience key []).PrivateKeyID = keyID := by
  unfold GenC14.NewJWTProfileAssertion HlpAssertionClaims.toClaims helperClaims GoX.foldList Go.tAdd
  simp [List.foldl]

/-- `oidc.GenerateJWTProfileToken`: the signer of the key bytes and key id INSIDE the claims object signs the object's claims -/
theorem generateToken_eq (now : Int) (cd : HlpCodec) (a : HlpAssertionClaims) :
    GenC14.GenerateJWTProfileToken now cd a =
      (match signerOf a.PrivateKey a.PrivateKeyID with
       | .error e => .error e
       | .ok s => signClaims cd a.toClaims s) := by
  unfold GenC14.GenerateJWTProfileToken signerOf Hand.hlpNewSigner Hand.hlpMarshalAssertion Hand.hlpSign Hand.hlpCompactSerialize signClaims mintedToken
  simp only [bytesToPrivateKey_eq]
  -- key and algorithm fixed first, then whether they fit: what is left to split is the signing itself
  rcases keyAlg a.PrivateKey with e | ⟨k, alg⟩
  · rfl
  · simp only []
    cases algFits k.kty alg <;> simp only [Bool.false_eq_true, if_true, if_false]
    go_leaf

/-- `profile.NewJWTProfileTokenSource` with options that only set the token endpoint: the source signs as `clientID`, for the
    audience [issuer], with the signer of the key bytes -/
theorem tokenSource_eq (now : Int) (disc : Go.R String) (issuer clientID keyID ep : String) (key : HlpKeyBytes) (scopes : List String) :
    GenC14.NewJWTProfileTokenSource now disc issuer clientID keyID key scopes [GenC14.WithStaticTokenEndpoint now issuer ep] =
      (match signerOf key keyID with
       | .error e => .error e
       | .ok s =>
         if ep == "" then
           (match disc with
            | .error e => .error e
            | .ok d => .ok { clientID := clientID, audience := [issuer], signer := s, scopes := scopes, tokenEndpoint := d })
         else .ok { clientID := clientID, audience := [issuer], signer := s, scopes := scopes, tokenEndpoint := ep }) := by
  unfold GenC14.NewJWTProfileTokenSource GenC14.WithStaticTokenEndpoint GoX.foldList Hand.hlpDiscover
  simp only [newSigner_eq, List.foldl]
  go_leaf

/-- `TokenCtx`: a jwt-bearer grant request carrying `SignedJWTProfileAssertion(clientID, audience, 1h, signer)` and the scopes -/
theorem tokenCtx_eq (now : Int) (cd : HlpCodec) (j : HlpTokenSource) :
    GenC14.TokenSourceTokenCtx now cd j =
      (match signClaims cd (helperClaims now j.clientID j.audience (3600 * Go.second)) j.signer with
       | .error e => .error e
       | .ok t => .ok { Assertion := t, Scope := j.scopes, GrantType := Const.GrantTypeBearer }) := by
  unfold GenC14.TokenSourceTokenCtx GenC14.NewJWTProfileGrantRequest Hand.hlpExchange
  simp only [signedAssertion_eq]
  go_leaf

theorem values_get_set_same (vs : HlpValues) (k v : String) : (vs.Set k v).Get k = v := by
  unfold HlpValues.Set HlpValues.Get
  have hnone : List.find? (fun x => x.1 == k) (List.filter (fun x => x.1 != k) vs.kv) = none := by
    rw [List.find?_eq_none]
    intro x hx
    simp only [List.mem_filter] at hx
    simpa using hx.2
  simp [List.find?_append, hnone]

theorem find_filter_other (k k' : String) (h : k ≠ k') (l : List (String × String)) :
    List.find? (fun x => x.1 == k) (List.filter (fun x => x.1 != k') l) = List.find? (fun x => x.1 == k) l := by
  rw [List.find?_filter]
  congr; funext x
  by_cases hx : x.1 = k <;> simp [hx, h]

theorem values_get_set_other (vs : HlpValues) (k k' v : String) (h : k ≠ k') : (vs.Set k' v).Get k = vs.Get k := by
  unfold HlpValues.Set HlpValues.Get
  have hkk : (k' == k) = false := by simp; exact fun e => h e.symm
  simp only [List.find?_append, find_filter_other k k' h]
  cases List.find? (fun x => x.1 == k) vs.kv with
  | some x => simp
  | none => simp [List.find?, hkk]

theorem formAuthorization_assertion (now : Int) (a : String) (vs : HlpValues) :
    (GenC14.ClientAssertionFormAuthorization now a vs).Get "client_assertion" = a ∧
    (GenC14.ClientAssertionFormAuthorization now a vs).Get "client_assertion_type" = Const.ClientAssertionTypeJWTAssertion := by
  unfold GenC14.ClientAssertionFormAuthorization
  simp only []
  exact ⟨by rw [values_get_set_other _ _ _ _ (by decide), values_get_set_same], values_get_set_same _ _ _⟩

theorem codeOptions_eq (now : Int) (a : String) :
    GenC14.ClientAssertionCodeOptions now a = [("client_assertion", a), ("client_assertion_type", Const.ClientAssertionTypeJWTAssertion)] := by
  unfold GenC14.ClientAssertionCodeOptions Hand.hlpSetAuthURLParam; rfl

/-! ## Layer 2: helper ∘ verifier -/

/-- a token minted by key `keyNo` under key id `kid` for claims `c` is accepted by every verifier (storage-backed key set, default
    subject check) whose storage hands out the public half for `kid` and the client `c` names as issuer, provided the algorithm is
    admitted and fits the key, the verifier's issuer is in the audience, sub = iss and `c` lies in the verifier's time window -/
theorem c14_minted_accepted {now' : Int} {v : JWTProfileVerifier} {bytes : Nat} {c : Claims} {alg kid : String} {keyNo : Nat} {jwk : JWK}
    (hks : v.keySet.kind = .nilSet) (hcs : v.CheckSubject = none)
    (halg : Gen.defaultSigAlgs.contains alg = true)
    (hfind : (clientKeys v.Storage c.iss).keys.find? (fun k => k.KeyID == kid) = some jwk)
    (hno : jwk.keyNo = keyNo) (hfit : algFits jwk.kty alg = true)
    (haud : v.Issuer ∈ c.aud) (hsub : c.iss = c.sub)
    (hexp : now' + v.Offset < Go.asTime c.exp) (hiat0 : Go.asTime c.iat ≠ Go.zeroTime)
    (hiat1 : Go.asTime c.iat ≤ Go.tRound (now' + v.Offset) Go.second)
    (hiat2 : v.MaxAgeIAT = 0 ∨ Go.asTime c.iat ≥ Go.tRound (now' - v.MaxAgeIAT) Go.second) :
    VerifyJWTAssertion now' (mintedToken bytes c alg kid keyNo) v = .ok (c.SetSignatureAlgorithm alg) := by
  refine verifyJWTAssertion_ok.2 ⟨{ bytes := bytes, claims := some c }, c, ?_, C01.checkAudience_ok.2 haud, C01.checkExpiration_ok.2 hexp,
    C01.checkIssuedAt_ok.2 ⟨hiat0, hiat1, hiat2⟩, ?_, ?_⟩
  · unfold ParseToken mintedToken; simp
  · simp only [hcs, applySubjectCheck]; exact subjectIsIssuer_ok.2 hsub
  · rw [assertionKeys_storage hks]
    simpa using checkSignature_genuine (now := now') (t := mintedToken bytes c alg kid keyNo) (p := { bytes := bytes, claims := some c })
      (c0 := c) rfl rfl halg rfl hfind (by simp [C02.genuine, hno, hfit])

/-- TIME WINDOW of a helper-made assertion (iat = ⌊now⌋, exp = ⌊now + expiration⌋ in whole seconds) against a verifier with
    offset `off ≥ 0` and max age `maxAge`, presented at `now' ≥ now`: accepted as long as
    `now' + off + 1s ≤ now + expiration` and (`maxAge = 0` or `now' + 0.5s ≤ now + maxAge`) -/
theorem helper_window {now now' expiration off maxAge : Int}
    (h0 : Go.second ≤ now) (h1 : now ≤ now') (hoff : 0 ≤ off) (hexp : now' + off + Go.second ≤ now + expiration)
    (hage : maxAge = 0 ∨ now' + halfSecond ≤ now + maxAge) :
    now' + off < Go.asTime (Go.fromTime (now + expiration)) ∧ Go.asTime (Go.fromTime now) ≠ Go.zeroTime ∧
    Go.asTime (Go.fromTime now) ≤ Go.tRound (now' + off) Go.second ∧
    (maxAge = 0 ∨ Go.asTime (Go.fromTime now) ≥ Go.tRound (now' - maxAge) Go.second) := by
  have r1 := C01.tRound_second_bounds (now' + off)
  have r2 := C01.tRound_second_bounds (now' - maxAge)
  have z1 : Go.tIsZero now = false := by simp only [Go.tIsZero, Go.zeroTime, Go.second] at *; simp; omega
  have z2 : Go.tIsZero (now + expiration) = false := by simp only [Go.tIsZero, Go.zeroTime, Go.second] at *; simp; omega
  have d1 : (now / Go.second == 0) = false := by simp only [Go.second] at *; simp; omega
  have d2 : ((now + expiration) / Go.second == 0) = false := by simp only [Go.second] at *; simp; omega
  simp only [Go.fromTime, Go.asTime, z1, z2, Go.tToUnix, Go.tUnix, d1, d2, Bool.false_eq_true, if_false]
  simp only [C01.halfSecond, halfSecond, Go.second, Go.zeroTime] at *
  refine ⟨by omega, by omega, by omega, ?_⟩
  rcases hage with h | h
  · left; exact h
  · right; omega

/-- what a successful `NewSignerFromPrivateKeyByte` tells about the signer: its algorithm is one of RS256 / EdDSA / ES256 and fits
    the type of its key, its key id is the caller's, it is not nil -/
theorem signerOf_ok {b : HlpKeyBytes} {kid : String} {s : HlpSigner} (h : signerOf b kid = .ok s) :
    s.isNil = false ∧ s.key.Key.KeyID = kid ∧ algFits s.key.Key.Key.kty s.key.Algorithm = true ∧
    (s.key.Algorithm = "RS256" ∨ s.key.Algorithm = "EdDSA" ∨ s.key.Algorithm = "ES256") := by
  unfold signerOf at h
  cases hk : keyAlg b with
  | error e => simp [hk] at h
  | ok ka =>
    obtain ⟨k, alg⟩ := ka
    simp only [hk] at h
    have halgs : alg = "RS256" ∨ alg = "EdDSA" ∨ alg = "ES256" := by
      unfold keyAlg at hk
      revert hk
      go_leaf
    by_cases hf : algFits k.kty alg = true
    · simp only [hf, if_true] at h
      cases h
      exact ⟨rfl, rfl, hf, halgs⟩
    · simp [hf] at h

theorem alg_admitted {kty : KeyType} {alg : String} (hfit : algFits kty alg = true) (h : alg = "RS256" ∨ alg = "EdDSA" ∨ alg = "ES256")
    (hk : kty ≠ .okp) : Gen.defaultSigAlgs.contains alg = true := by
  rcases h with rfl | rfl | rfl
  · decide
  · exfalso; cases kty <;> simp_all [algFits, Go.hasPrefix]
  · decide

/-- C14, helper ∘ verifier (RSA and EC keys; Ed25519: see the witness below, F-C14): an assertion that
    `client.NewSignerFromPrivateKeyByte(key, kid)` + `client.SignedJWTProfileAssertion(clientID, audience, expiration, signer)`
    make at `now` is accepted - as client `clientID` - by every verifier (storage-backed key set, default subject check,
    offset ≥ 0) whose storage holds the public half of the key for `clientID` under `kid` and whose issuer is in `audience`,
    when presented at any `now'` with `now ≤ now'`, `now' + offset + 1s ≤ now + expiration`, and `now' + 0.5s ≤ now + maxAge`
    (or no max age) -/
theorem c14_helper_assertion_accepted_partial {now0 now now' : Int} {cd : HlpCodec} {key : HlpKeyBytes} {kid clientID : String}
    {audience : List String} {expiration : Int} {signer : HlpSigner} {tok : Token} {v : JWTProfileVerifier} {jwk : JWK}
    (hs : GenC14.NewSignerFromPrivateKeyByte now0 key kid = .ok signer)
    (ht : GenC14.SignedJWTProfileAssertion now cd clientID audience expiration signer = .ok tok)
    (hks : v.keySet.kind = .nilSet) (hcs : v.CheckSubject = none)
    (hreg : (clientKeys v.Storage clientID).keys.find? (fun k => k.KeyID == kid) = some jwk)
    (hpub : jwk.keyNo = signer.key.Key.Key.keyNo ∧ jwk.kty = signer.key.Key.Key.kty)
    (hnotEd : signer.key.Key.Key.kty ≠ .okp)
    (haud : v.Issuer ∈ audience)
    (h0 : Go.second ≤ now) (h1 : now ≤ now') (hoff : 0 ≤ v.Offset) (hexp : now' + v.Offset + Go.second ≤ now + expiration)
    (hage : v.MaxAgeIAT = 0 ∨ now' + halfSecond ≤ now + v.MaxAgeIAT) :
    ∃ c, VerifyJWTAssertion now' tok v = .ok c ∧ c.iss = clientID ∧ c.sub = clientID := by
  rw [newSigner_eq] at hs
  rw [signedAssertion_eq] at ht
  obtain ⟨hnil, hkid, hfit, halgs⟩ := signerOf_ok hs
  unfold signClaims at ht
  simp only [hnil, Bool.false_eq_true, if_false] at ht
  split at ht; · simp at ht
  simp only [Except.ok.injEq] at ht
  subst ht
  obtain ⟨w1, w2, w3, w4⟩ := helper_window h0 h1 hoff hexp hage
  refine ⟨_, c14_minted_accepted (c := helperClaims now clientID audience expiration) hks hcs
    (alg_admitted hfit halgs hnotEd) (by rw [hkid]; exact hreg) hpub.1 (by rw [hpub.2]; exact hfit) haud rfl w1 w2 w3 w4, rfl, rfl⟩

/-- F-C14 in general form: for an Ed25519 key the helper's assertion is rejected by EVERY verifier (the algorithm `EdDSA` that
    `BytesToPrivateKey` picks is not among the verifier's admitted algorithms, and `VerifyJWTAssertion` cannot be told to admit it) -/
theorem c14_helper_eddsa_rejected {now0 now now' : Int} {cd : HlpCodec} {key : HlpKeyBytes} {kid clientID : String}
    {audience : List String} {expiration : Int} {signer : HlpSigner} {tok : Token} {v : JWTProfileVerifier}
    (hs : GenC14.NewSignerFromPrivateKeyByte now0 key kid = .ok signer)
    (ht : GenC14.SignedJWTProfileAssertion now cd clientID audience expiration signer = .ok tok)
    (hEd : signer.key.Key.Key.kty = .okp) :
    ∀ c, VerifyJWTAssertion now' tok v ≠ .ok c := by
  intro c hc
  rw [newSigner_eq] at hs
  obtain ⟨hnil, _, hfit, halgs⟩ := signerOf_ok hs
  have halg : signer.key.Algorithm = "EdDSA" := by
    rw [hEd] at hfit
    rcases halgs with h | h | h <;> simp_all [algFits, Go.hasPrefix]
  rw [signedAssertion_eq] at ht
  unfold signClaims at ht
  simp only [hnil, Bool.false_eq_true, if_false] at ht
  split at ht; · simp at ht
  simp only [Except.ok.injEq] at ht
  subst ht
  obtain ⟨p, c0, _, _, _, _, _, hsig⟩ := verifyJWTAssertion_ok.1 hc
  obtain ⟨j, s, hj, hs1, _⟩ := C01.checkSignature_ok hsig
  unfold joseParseSigned toJoseSignatureAlgorithms mintedToken at hj
  simp only [halg] at hj
  revert hj
  simp [Gen.defaultSigAlgs]

def errOf {α : Type} (r : Go.R α) : Option String := match r with | .error e => some e | .ok _ => none

namespace HelperDemo
def rsaKey : HlpKeyBytes := { block := some {}, pkcs8 := .ok (.rsa { keyNo := 1, kty := .rsa }) }
def edKey : HlpKeyBytes := { block := some {}, pkcs8 := .ok (.ed25519 { keyNo := 5, kty := .okp }) }
def p384Key : HlpKeyBytes := { block := some {}, pkcs8 := .ok (.ecdsa { keyNo := 4, kty := .ec, curveBits := 384 }) }
def registry : List (String × JWK) :=
  [("client-A", { KeyID := "a1", Use := "sig", kty := .rsa, keyNo := 1 }), ("client-E", { KeyID := "e1", Use := "sig", kty := .okp, keyNo := 5 }),
   ("client-D", { KeyID := "d1", Use := "sig", kty := .ec, keyNo := 4 })]
def v : JWTProfileVerifier := { Issuer := "https://op.example", MaxAgeIAT := 3600 * Go.second, Offset := Go.second, Storage := registry }
def now : Int := 1700000000 * Go.second + 250000000
/-- helper ∘ verifier on concrete inputs: the identity the verifier returns (none: rejected / no assertion) -/
def run (key : HlpKeyBytes) (kid clientID : String) (now' : Int) : Option String :=
  match GenC14.NewSignerFromPrivateKeyByte now key kid with
  | .error _ => none
  | .ok s =>
    match GenC14.SignedJWTProfileAssertion now {} clientID ["https://op.example"] (3600 * Go.second) s with
    | .error _ => none
    | .ok t => (VerifyJWTAssertion now' t v).toOption.map (·.iss)
end HelperDemo

/-- non-vacuity of the accepting theorem: an RSA key registered for client-A, presented at once and 59 minutes later -/
example : HelperDemo.run HelperDemo.rsaKey "a1" "client-A" HelperDemo.now = some "client-A" := by decide +kernel
example : HelperDemo.run HelperDemo.rsaKey "a1" "client-A" (HelperDemo.now + 3540 * Go.second) = some "client-A" := by decide +kernel
/-- … not for another client's name, not under another key id, not after an hour -/
example : HelperDemo.run HelperDemo.rsaKey "a1" "client-E" HelperDemo.now = none := by decide +kernel
example : HelperDemo.run HelperDemo.rsaKey "zz" "client-A" HelperDemo.now = none := by decide +kernel
example : HelperDemo.run HelperDemo.rsaKey "a1" "client-A" (HelperDemo.now + 3600 * Go.second) = none := by decide +kernel

/-- F-C14 (witness): a helper-made assertion with an Ed25519 key that the storage holds for the client is REJECTED -/
theorem c14_helper_eddsa_witness :
    ∃ (key : HlpKeyBytes) (kid clientID : String) (signer : HlpSigner) (tok : Token) (jwk : JWK),
      GenC14.NewSignerFromPrivateKeyByte HelperDemo.now key kid = .ok signer ∧
      GenC14.SignedJWTProfileAssertion HelperDemo.now {} clientID ["https://op.example"] (3600 * Go.second) signer = .ok tok ∧
      (clientKeys HelperDemo.v.Storage clientID).keys.find? (fun k => k.KeyID == kid) = some jwk ∧
      jwk.keyNo = signer.key.Key.Key.keyNo ∧ jwk.kty = signer.key.Key.Key.kty ∧
      errOf (VerifyJWTAssertion HelperDemo.now tok HelperDemo.v) = some "ErrSignatureUnsupportedAlg" :=
  ⟨HelperDemo.edKey, "e1", "client-E", _, _, _, rfl, rfl, rfl, rfl, rfl, by decide +kernel⟩

/-- observation (not a violation: no assertion is produced): for an ECDSA key on another curve than P-256 the helper picks ES256
    all the same and go-jose refuses to sign -/
theorem c14_helper_p384_no_assertion :
    ∃ s, GenC14.NewSignerFromPrivateKeyByte HelperDemo.now HelperDemo.p384Key "d1" = .ok s ∧
      errOf (GenC14.SignedJWTProfileAssertion HelperDemo.now {} "client-D" ["https://op.example"] (3600 * Go.second) s) = some "go-jose: expected 256 bit key" :=
  ⟨_, rfl, by decide +kernel⟩

/-- C14, the second helper family (RSA and EC keys): `oidc.GenerateJWTProfileToken(oidc.NewJWTProfileAssertion(userID, keyID, audience, key))`
    made at `now` is accepted as `userID` under the same conditions, with the helper's fixed expiration of one hour -/
theorem c14_generated_assertion_accepted_partial {now now' : Int} {cd : HlpCodec} {key : HlpKeyBytes} {kid userID : String}
    {audience : List String} {tok : Token} {v : JWTProfileVerifier} {jwk : JWK} {signer : HlpSigner}
    (ht : GenC14.GenerateJWTProfileToken now cd (GenC14.NewJWTProfileAssertion now userID kid audience key []) = .ok tok)
    (hs : signerOf key kid = .ok signer)
    (hks : v.keySet.kind = .nilSet) (hcs : v.CheckSubject = none)
    (hreg : (clientKeys v.Storage userID).keys.find? (fun k => k.KeyID == kid) = some jwk)
    (hpub : jwk.keyNo = signer.key.Key.Key.keyNo ∧ jwk.kty = signer.key.Key.Key.kty)
    (hnotEd : signer.key.Key.Key.kty ≠ .okp)
    (haud : v.Issuer ∈ audience)
    (h0 : Go.second ≤ now) (h1 : now ≤ now') (hoff : 0 ≤ v.Offset) (hexp : now' + v.Offset + Go.second ≤ now + 3600 * Go.second)
    (hage : v.MaxAgeIAT = 0 ∨ now' + halfSecond ≤ now + v.MaxAgeIAT) :
    ∃ c, VerifyJWTAssertion now' tok v = .ok c ∧ c.iss = userID ∧ c.sub = userID := by
  obtain ⟨e1, e2, e3⟩ := newAssertion_eq now userID kid audience key
  rw [generateToken_eq, e1, e2, e3, hs] at ht
  exact c14_helper_assertion_accepted_partial (now0 := now) (by rw [newSigner_eq]; exact hs) (by rw [signedAssertion_eq]; exact ht) hks hcs hreg hpub hnotEd haud
    h0 h1 hoff hexp hage

/-- helper claims for the audience [reqIssuer] and one hour, signed by a `signerOf` signer, are accepted by the getter's verifier of a
    request ADDRESSED TO `reqIssuer` (one hour, one second) for the next 59 minutes and 58 seconds -/
theorem signed_helper_claims_accepted_at_issuer {now now' : Int} {cd : HlpCodec} {key : HlpKeyBytes} {kid id reqIssuer : String}
    {signer : HlpSigner} {tok : Token} {p : AsrtProvider} {jwk : JWK}
    (hs : signerOf key kid = .ok signer)
    (ht : signClaims cd (helperClaims now id [reqIssuer] (3600 * Go.second)) signer = .ok tok)
    (hreg : (clientKeys p.storage.keyRegistry id).keys.find? (fun k => k.KeyID == kid) = some jwk)
    (hpub : jwk.keyNo = signer.key.Key.Key.keyNo ∧ jwk.kty = signer.key.Key.Key.kty)
    (hnotEd : signer.key.Key.Key.kty ≠ .okp)
    (h0 : Go.second ≤ now) (h1 : now ≤ now') (hwin : now' + 2 * Go.second ≤ now + 3600 * Go.second) :
    ∃ c, VerifyJWTAssertion now' tok (GenC14.ProviderJWTProfileVerifier now' reqIssuer p).flat = .ok c ∧ c.iss = id ∧ c.sub = id := by
  rw [verify_at_getter]
  exact c14_helper_assertion_accepted_partial (now0 := now) (by rw [newSigner_eq]; exact hs) (by rw [signedAssertion_eq]; exact ht) rfl rfl hreg hpub hnotEd
    (List.mem_singleton_self _) h0 h1
    (show (0 : Int) ≤ providerOffset by decide) (by simp only [providerOffset, Go.second] at *; omega)
    (by right; simp only [providerMaxAgeIAT, halfSecond, Go.second] at *; omega)

/-- C14 at the endpoints (RSA and EC keys): what `SignedJWTProfileAssertion(clientID, [reqIssuer], 1h, signer)` makes at `now` is
    accepted by the per-request verifier of a request ADDRESSED TO `reqIssuer` (one hour, one second) for the next 59 minutes
    and 58 seconds, and `ClientJWTAuth` answers `clientID` -/
theorem c14_helper_accepted_at_endpoint_partial {now0 now now' : Int} {cd : HlpCodec} {key : HlpKeyBytes} {kid clientID reqIssuer : String}
    {signer : HlpSigner} {tok : Token} {p : AsrtProvider} {ca : AsrtAssertionParams} {jwk : JWK}
    (hs : GenC14.NewSignerFromPrivateKeyByte now0 key kid = .ok signer)
    (ht : GenC14.SignedJWTProfileAssertion now cd clientID [reqIssuer] (3600 * Go.second) signer = .ok tok)
    (hreg : (clientKeys p.storage.keyRegistry clientID).keys.find? (fun k => k.KeyID == kid) = some jwk)
    (hpub : jwk.keyNo = signer.key.Key.Key.keyNo ∧ jwk.kty = signer.key.Key.Key.kty)
    (hnotEd : signer.key.Key.Key.kty ≠ .okp)
    (h0 : Go.second ≤ now) (h1 : now ≤ now') (hwin : now' + 2 * Go.second ≤ now + 3600 * Go.second)
    (hca : ca.ClientAssertion ≠ "") (htok : p.tokenOf ca.ClientAssertion = tok) (hstock : p.customVerifier = none) :
    GenC14.ClientJWTAuth now' reqIssuer ca p = .ok clientID := by
  rw [newSigner_eq] at hs
  rw [signedAssertion_eq] at ht
  obtain ⟨c, hc, hi, _⟩ := signed_helper_claims_accepted_at_issuer (p := p) (now' := now') hs ht hreg hpub hnotEd h0 h1 hwin
  exact clientJWTAuth_ok.2 ⟨hca, c, by rw [verifierAt_stock hstock, htok]; exact hc, hi⟩

/-- C14 at the token endpoint (RSA and EC keys): the jwt-bearer token source `profile.NewJWTProfileTokenSource(issuer, clientID, keyID, key, scopes,
    WithStaticTokenEndpoint(..))` sends a grant of type jwt-bearer whose assertion the provider's verifier for `issuer` accepts -/
theorem c14_token_source_accepted_partial {now0 now now' : Int} {cd : HlpCodec} {disc : Go.R String} {key : HlpKeyBytes}
    {issuer clientID kid ep : String} {scopes : List String} {src : HlpTokenSource} {rq : HlpGrantRequest} {p : AsrtProvider} {jwk : JWK}
    (hsrc : GenC14.NewJWTProfileTokenSource now0 disc issuer clientID kid key scopes [GenC14.WithStaticTokenEndpoint now0 issuer ep] = .ok src)
    (hrq : GenC14.TokenSourceTokenCtx now cd src = .ok rq)
    (hreg : (clientKeys p.storage.keyRegistry clientID).keys.find? (fun k => k.KeyID == kid) = some jwk)
    (hpub : jwk.keyNo = src.signer.key.Key.Key.keyNo ∧ jwk.kty = src.signer.key.Key.Key.kty)
    (hnotEd : src.signer.key.Key.Key.kty ≠ .okp)
    (h0 : Go.second ≤ now) (h1 : now ≤ now') (hwin : now' + 2 * Go.second ≤ now + 3600 * Go.second) :
    rq.GrantType = Const.GrantTypeBearer ∧ rq.Scope = scopes ∧
    ∃ c, VerifyJWTAssertion now' rq.Assertion (GenC14.ProviderJWTProfileVerifier now' issuer p).flat = .ok c ∧ c.iss = clientID ∧ c.sub = clientID := by
  rw [tokenSource_eq] at hsrc
  cases hso : signerOf key kid with
  | error e => simp [hso] at hsrc
  | ok s =>
    simp only [hso] at hsrc
    have hfields : src.clientID = clientID ∧ src.audience = [issuer] ∧ src.signer = s ∧ src.scopes = scopes := by
      revert hsrc; go_leaf
    obtain ⟨f1, f2, f3, f4⟩ := hfields
    rw [tokenCtx_eq, f1, f2, f3, f4] at hrq
    cases hsg : signClaims cd (helperClaims now clientID [issuer] (3600 * Go.second)) s with
    | error e => simp [hsg] at hrq
    | ok t =>
      simp only [hsg, Except.ok.injEq] at hrq
      subst hrq
      exact ⟨rfl, rfl, signed_helper_claims_accepted_at_issuer hso hsg hreg (by rw [← f3]; exact hpub) (by rw [← f3]; exact hnotEd) h0 h1 hwin⟩

/-! ### on the wire -/

/-- the form a provider decodes from the values the client helper wrote -/
def formOf (vs : HlpValues) : AsrtForm :=
  { ClientID := vs.Get "client_id", ClientSecret := vs.Get "client_secret", ClientAssertion := vs.Get "client_assertion",
    ClientAssertionType := vs.Get "client_assertion_type", Token := vs.Get "token", TokenTypeHint := vs.Get "token_type_hint" }

/-- `client.ClientAssertionFormAuthorization(a)` writes exactly the two parameters the provider's decoders read, with the assertion
    type the provider asks for: the request reaches the ASSERTION branch of `ClientIDFromRequest` (introspection, device
    authorization, device grant) - it is judged by `ClientJWTAuth` + `checkPrivateKeyJWTClient` and by nothing else -/
theorem c14_form_authorization_reaches_provider (now now' : Int) (a reqIssuer : String) (vs : HlpValues) (p : AsrtProvider) (ha : a ≠ "")
    (hdec : p.decoder.decoded = fun f => .ok f) :
    (formOf (GenC14.ClientAssertionFormAuthorization now a vs)).ClientAssertion = a ∧
    (formOf (GenC14.ClientAssertionFormAuthorization now a vs)).ClientAssertionType = Const.ClientAssertionTypeJWTAssertion ∧
    GenC14.ClientIDFromRequest now' reqIssuer { Form := formOf (GenC14.ClientAssertionFormAuthorization now a vs) } p =
      (match GenC14.ClientJWTAuth now' reqIssuer { ClientAssertion := a, ClientAssertionType := Const.ClientAssertionTypeJWTAssertion } p with
       | .error e => .error e
       | .ok id => match GenC14.checkPrivateKeyJWTClient now' id p.storage with
         | .error e => .error e
         | .ok _ => .ok (id, true)) := by
  obtain ⟨h1, h2⟩ := formAuthorization_assertion now a vs
  refine ⟨by simp [formOf, h1], by simp [formOf, h2], ?_⟩
  unfold GenC14.ClientIDFromRequest
  simp only [AsrtProvider.Decoder, AsrtDecoder.Decode, hdec, AsrtProvider.is_ClientJWTProfile, AsrtForm.ClientAssertionParams, formOf, h1, h2,
    AsrtProvider.Storage]
  go_leaf

/-- `client.ClientAssertionCodeOptions(a)`: the same two parameters for the code exchange of the oauth2 client -/
theorem c14_code_options_reach_provider (now : Int) (a : String) :
    (GenC14.ClientAssertionCodeOptions now a).lookup "client_assertion" = some a ∧
    (GenC14.ClientAssertionCodeOptions now a).lookup "client_assertion_type" = some Const.ClientAssertionTypeJWTAssertion := by
  rw [codeOptions_eq]; exact ⟨by simp [List.lookup], by simp [List.lookup]⟩

end C14
