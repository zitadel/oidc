/-
  C16: everything the check builds and audits (checklib/props.d/C16.json `proof_module`).
-/
import OidcModel.Proofs.C16
import OidcModel.Proofs.C16History
import OidcModel.Proofs.C16Rand
import OidcModel.Proofs.C16Issue
