/-
  C15: what the payload of an opaque access token MEANS - list-level facts about `strings.Split(s, ":")` (`TE.splitChars`,
  Model/ExchangeTE.lean) and the hand-readable parser `TE.parsePair` that the characterisation of the regenerated
  `getTokenIDAndClaims` (Proofs/C15.lean) is stated with.  No regenerated definition is mentioned here.
-/
import OidcModel.Model.ExchangeTE

namespace TE

theorem splitChars_ne_nil (c : Char) (l : List Char) : splitChars c l ≠ [] := by
  cases l with
  | nil => simp [splitChars]
  | cons x xs =>
    unfold splitChars
    split
    · simp
    · split <;> simp

/-- there is always a first piece; it ends at the first separator -/
theorem splitChars_cons (c x : Char) (xs : List Char) : ∃ h t, splitChars c xs = h :: t ∧
    splitChars c (x :: xs) = if x = c then [] :: h :: t else (x :: h) :: t := by
  cases hs : splitChars c xs with
  | nil => exact absurd hs (splitChars_ne_nil c xs)
  | cons h t => exact ⟨h, t, rfl, by rw [splitChars, hs]⟩

theorem splitChars_eq_single_iff (c : Char) (l a : List Char) : splitChars c l = [a] ↔ l = a ∧ c ∉ a := by
  induction l generalizing a with
  | nil => cases a <;> simp [splitChars]
  | cons x xs ih =>
    obtain ⟨h, t, hs, hc⟩ := splitChars_cons c x xs
    have ih := ih h
    rw [hs] at ih
    rw [hc]
    by_cases hx : x = c
    · subst hx; simp; rintro rfl; simp
    · cases a with
      | nil => simp [hx]
      | cons y ys => simp [hx]; grind

theorem splitChars_eq_pair_iff (c : Char) (l a b : List Char) :
    splitChars c l = [a, b] ↔ l = a ++ c :: b ∧ c ∉ a ∧ c ∉ b := by
  induction l generalizing a with
  | nil => simp [splitChars]
  | cons x xs ih =>
    obtain ⟨h, t, hs, hc⟩ := splitChars_cons c x xs
    have ih := ih h
    have h1 := splitChars_eq_single_iff c xs b
    rw [hs] at ih h1
    rw [hc]
    by_cases hx : x = c
    · subst hx
      cases a with
      | nil => simp; grind
      | cons y ys => simp; grind
    · cases a with
      | nil => simp [hx]
      | cons y ys => simp [hx]; grind

/-- the payload of an opaque access token as every parser of the library reads it: exactly two pieces -/
def parsePair (plain : String) : Option (String × String) :=
  match split plain ":" with
  | [a, b] => some (a, b)
  | _ => none

theorem colon_toList : ":".toList = [':'] := by decide +kernel

theorem split_colon (plain : String) : split plain ":" = (splitChars ':' plain.toList).map String.ofList := by
  simp [split, colon_toList]

/-- MEANING of the parser: `plain` parses as `(i, s)` iff it is `i`, ONE colon, `s`, and neither part contains a colon -/
theorem parsePair_some_iff (plain i s : String) :
    parsePair plain = some (i, s) ↔ plain = i ++ ":" ++ s ∧ ':' ∉ i.toList ∧ ':' ∉ s.toList := by
  -- the pieces of the string are the pieces of its character list
  have hmap : parsePair plain = some (i, s) ↔ splitChars ':' plain.toList = [i.toList, s.toList] := by
    unfold parsePair
    rw [split_colon]
    constructor
    · intro h
      split at h
      · rename_i a b heq
        cases h
        simpa [Function.comp_def] using congrArg (List.map String.toList) heq
      · cases h
    · intro h; rw [h]; simp
  rw [hmap, splitChars_eq_pair_iff, ← String.toList_inj]
  simp [String.toList_append, colon_toList]

theorem count_colon_append (a b : List Char) : (a ++ ':' :: b).count ':' = a.count ':' + b.count ':' + 1 := by
  simp [List.count_append]; omega

/-- NEVER ANOTHER PAIR: whatever the token id and the subject look like, the payload `id ++ ":" ++ sub` that `CreateBearerToken` seals
    parses as (id, sub) or not at all -/
theorem parsePair_mint_only {id sub i s : String} (h : parsePair (id ++ ":" ++ sub) = some (i, s)) : i = id ∧ s = sub := by
  have := (parsePair_some_iff _ _ _).1 h
  obtain ⟨h1, h2, h3⟩ := this
  have hl : id.toList ++ ':' :: sub.toList = i.toList ++ ':' :: s.toList := by
    have := congrArg String.toList h1
    simpa [String.toList_append, colon_toList] using this
  have hc := congrArg (List.count ':') hl
  rw [count_colon_append, count_colon_append, List.count_eq_zero.2 h2, List.count_eq_zero.2 h3] at hc
  have hid : ':' ∉ id.toList := List.count_eq_zero.1 (by omega)
  have hsub : ':' ∉ sub.toList := List.count_eq_zero.1 (by omega)
  have h' := (parsePair_some_iff (id ++ ":" ++ sub) id sub).2 ⟨rfl, hid, hsub⟩
  rw [h] at h'
  simp only [Option.some.injEq, Prod.mk.injEq] at h'
  exact h'

/-- ROUND TRIP of minting and parsing: accepted exactly when neither part contains a colon - and then as the very pair that was
    minted; a subject (or token id) with a colon is where the code refuses -/
theorem parsePair_mint (id sub : String) :
    parsePair (id ++ ":" ++ sub) = if ':' ∈ id.toList ∨ ':' ∈ sub.toList then none else some (id, sub) := by
  by_cases hc : ':' ∈ id.toList ∨ ':' ∈ sub.toList
  · simp only [hc, if_true]
    cases hp : parsePair (id ++ ":" ++ sub) with
    | none => rfl
    | some r =>
      obtain ⟨i, s⟩ := r
      obtain ⟨rfl, rfl⟩ := parsePair_mint_only hp
      have := (parsePair_some_iff _ _ _).1 hp
      rcases hc with hc | hc
      · exact absurd hc this.2.1
      · exact absurd hc this.2.2
  · simp only [hc, if_false]
    simp only [not_or] at hc
    exact (parsePair_some_iff _ _ _).2 ⟨rfl, hc.1, hc.2⟩

/-- the source's test `len(splitToken) != 2` in terms of the list pattern `parsePair` matches on -/
theorem split_len_two_iff (plain : String) : (split plain ":").length = 2 ↔ ∃ a b, split plain ":" = [a, b] := by
  constructor
  · intro h
    match hs : split plain ":", h with
    | [a, b], _ => exact ⟨a, b, rfl⟩
  · rintro ⟨a, b, h⟩; simp [h]

/-! non-vacuity, and agreement of the list function with `String.splitOn` on samples (a test, not the claim) -/
example : parsePair "at1:user1" = some ("at1", "user1") := by decide +kernel
example : parsePair "at1:corp:user2" = none := by decide +kernel
example : parsePair "at1" = none := by decide +kernel
example : parsePair "at1:" = some ("at1", "") := by decide +kernel
example : split "a:b::c" ":" = ["a", "b", "", "c"] := by decide +kernel
example : lastIndex "at1:corp:user2" ":" = 8 ∧ sliceTo "at1:corp:user2" 8 = "at1:corp" ∧ sliceFrom "at1:corp:user2" 9 = "user2" := by decide +kernel
example : cut "at1:corp:user2" ":" = ("at1", "corp:user2", true) := by decide +kernel

end TE
