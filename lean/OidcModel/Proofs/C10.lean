/-
  C10 proofs; the module the C10 check builds.
  (1) Call-site facts (`Gen.storageCalls`): every call pkg/op makes into the storage has its
      error examined by the statement that runs next.
  (2) The abstract core: a handler that is a sequence of storage calls whose errors are each propagated answers with an error
      whenever ANY one of them fails (Except monad, induction over the call list): `c10_fail_closed`.
  (3) The handlers themselves: factgen regenerates an error-flow tree for every function of pkg/op between an HTTP handler and
      the storage (`GenC10.fns`); `C10.Flow.drops` lists the paths on which the error of a failed call is dropped, and
      `C10.Flow.drops_sound` (Proofs/C10Flow.lean, induction over executions of ANY program) turns "no drops" into the
      property.  Here the analysis is evaluated on the regenerated trees, with a small hand-audited table of tolerated sites
      (`toleratedSites`, each with its justification) that is proved to be exactly the set of drop sites of the regenerated code:
      a new dropped-error path changes a regenerated definition and breaks `c10_flow_all_ok` / `c10_tolerated_audited`.
      `c10_fail_closed_handlers`: for every regenerated function, every execution, every failing storage call, every
      error kind: no success-building step and no further storage call follows and the function ends in the error class
      (error responder, or an error return its caller turns into one) - unless the failure arrived at an audited site or the
      same call is attempted again (bounded retry loops are unrolled by the translator; the last attempt must be examined).
      No audited site is a finding.
  (4) `c10_handlers_refine_abstract` ties (3) to (2); `c10_device_mapping`, `c10_unvalidated_redirect_guard` pin which error a
      failing storage call is answered with where the property depends on it.
  (5) Several faults in one execution (`c10_fail_closed_schedules`, `c10_all_attempts_fail_closed`, `c10_later_fault_needs_retry`),
      and coverage: every method of the storage interfaces is called from a regenerated function or listed
      (`c10_storage_interface_covered`, `c10_nothing_out_of_scope`).
-/
import OidcModel.Spec.C10
import OidcModel.Generated.StorageCalls
import OidcModel.Generated.C10Facts
import OidcModel.Proofs.C10Flow
import OidcModel.Proofs.C10Sched

namespace C10

/-- every storage call site of pkg/op examines the returned error (decided on the regenerated list) -/
theorem c10_all_call_sites_checked : Gen.storageCalls.all (·.checked) = true := by decide +kernel

/-- the list is not vacuous: the call sites of the token, code and session flows are in it -/
example : (Gen.storageCalls.any fun c => c.method == "DeleteAuthRequest" && c.func == "CreateTokenResponse") = true := by decide +kernel
example : (Gen.storageCalls.any fun c => c.method == "CreateAccessAndRefreshTokens") = true := by decide +kernel
example : (Gen.storageCalls.any fun c => c.method == "TerminateSession") = true := by decide +kernel
example : decide (Gen.storageCalls.length ≥ 40) = true := by decide +kernel

/-- a handler as a sequence of storage calls over some state; each call may fail -/
abbrev Call (σ : Type) := σ → Except String σ

/-- run the calls in order, stopping at the first error (what "every error is examined" means) -/
def runCalls {σ : Type} : List (Call σ) → σ → Except String σ
  | [], s => .ok s
  | c :: cs, s => match c s with
    | .error e => .error e
    | .ok s' => runCalls cs s'

def inject {σ : Type} (calls : List (Call σ)) (k : Nat) (e : String) : List (Call σ) :=
  calls.mapIdx fun i c => if i == k then (fun _ => .error e) else c

theorem runCalls_error_of_fails {σ : Type} (calls : List (Call σ)) (s : σ)
    (h : ∃ i, i < calls.length ∧ ∀ s', ∃ e, calls[i]! s' = .error e) : ∃ e, runCalls calls s = .error e := by
  obtain ⟨i, hi, hf⟩ := h
  induction calls generalizing s i with
  | nil => simp at hi
  | cons c cs ih =>
    simp only [runCalls]
    cases hc : c s with
    | error e => exact ⟨e, rfl⟩
    | ok s' =>
      cases i with
      | zero => obtain ⟨e, he⟩ := hf s; simp [hc] at he
      | succ j => exact ih s' j (by simpa using hi) (by simpa using hf)

/-- and without a fault the payload is produced only if every call succeeded -/
theorem c10_success_needs_all {σ : Type} (calls : List (Call σ)) (s r : σ) (h : runCalls calls s = .ok r) :
    ∀ i, i < calls.length → ¬ (∀ s', ∃ e, calls[i]! s' = .error e) := by
  intro i hi hf
  obtain ⟨e, he⟩ := runCalls_error_of_fails calls s ⟨i, hi, hf⟩
  rw [he] at h; cases h

/-! ### the abstract core under an arbitrary FAULT SCHEDULE (call index ↦ optional error) -/

def injectSched {σ : Type} (calls : List (Call σ)) (sch : Nat → Option String) : List (Call σ) :=
  calls.mapIdx fun i c => match sch i with | some e => (fun _ => .error e) | none => c

/-- C10 (abstract, schedules): whatever the schedule - one fault, the same call failing k times, faults at several indices,
    every call failing - as soon as it fails SOME call of the sequence the handler's result is an error -/
theorem c10_fail_closed_sched {σ : Type} (calls : List (Call σ)) (sch : Nat → Option String)
    (h : ∃ i, i < calls.length ∧ (sch i).isSome = true) (s : σ) : ∃ e', runCalls (injectSched calls sch) s = .error e' := by
  obtain ⟨i, hi, hs⟩ := h
  apply runCalls_error_of_fails
  refine ⟨i, by simpa [injectSched] using hi, ?_⟩
  intro s'
  obtain ⟨e, he⟩ := Option.isSome_iff_exists.mp hs
  exact ⟨e, by simp [injectSched, hi, he]⟩

/-- … and a schedule that fails none of the calls changes nothing -/
theorem c10_sched_no_fault_same {σ : Type} (calls : List (Call σ)) (sch : Nat → Option String)
    (h : ∀ i, i < calls.length → sch i = none) : injectSched calls sch = calls := by
  refine List.ext_getElem (by simp [injectSched]) fun i h1 _ => ?_
  simp [injectSched, h i (by simpa [injectSched] using h1)]

/-- single faults are schedules: `inject` is `injectSched` of the one-point schedule -/
theorem inject_eq_injectSched {σ : Type} (calls : List (Call σ)) (k : Nat) (e : String) :
    inject calls k e = injectSched calls (fun i => if i = k then some e else none) := by
  simp only [inject, injectSched]
  congr 1
  funext i c
  by_cases hik : i = k <;> simp [hik]

/-- C10 (abstract): whichever index k of whichever call sequence fails, with whatever error, from
    whatever state: the handler's result is an error - it never reaches the point where it builds
    a success response -/
theorem c10_fail_closed {σ : Type} (calls : List (Call σ)) (k : Nat) (hk : k < calls.length) (e : String) (s : σ) :
    ∃ e', runCalls (inject calls k e) s = .error e' := by
  rw [inject_eq_injectSched]
  exact c10_fail_closed_sched calls _ ⟨k, hk, by simp⟩ s

open C10.Flow

/-- an audited sentinel: `errors.Is / errors.As` tests against it let the caller go on WITHOUT treating the error as a failure -/
structure Sentinel where
  name : String
  why : String

/-- ASSUMPTION (listed in the evidence): a failing storage call does not return an error that matches one of these -/
def benignSentinels : List Sentinel := [
  { name := "ErrNoClientCredentials", why := "ClientIDFromRequest: no Basic header / no assertion was sent, the next credential source is tried; produced only by ClientBasicAuth / ClientJWTAuth BEFORE any storage call (r.BasicAuth() not ok, empty assertion)" },
  { name := "ErrInvalidRefreshToken", why := "Revoke / LegacyServer.Revocation: the storage's documented answer 'this is not a refresh token' from GetRefreshTokenInfo; the token is then treated as an access token" },
  { name := "IDTokenHintExpiredError", why := "VerifyIDTokenHint: signature, issuer and ACR were verified, only the expiry checks failed; id_token_hint (authorize, end_session) may be an expired token" }]

/-- an audited call site whose failure is NOT turned into an error answer -/
structure Tolerated where
  fn : String
  callee : String
  allow : List String          -- the only success steps / calls that may follow the failure inside fn
  why : String
  finding : Option String := none

/-- the complete list (proved equal to the drop sites of the regenerated trees: `c10_tolerated_audited`) -/
def toleratedSites : List Tolerated := [
  { fn := "SigAlgorithms", callee := "Storage.SignatureAlgorithms", allow := [],
    why := "discovery document: a failing SignatureAlgorithms yields the document without the alg list (200); no secret, not a flow (DESIGN §4.21)" },
  { fn := "LegacyServer.Introspect", callee := "Storage.SetIntrospectionFromToken", allow := ["NewResponse"],
    why := "introspection answers 200 {\"active\":false}: `response.Active = true` is only assigned after the call succeeded (DESIGN §4.21; the monitor checks active is not true)" },
  { fn := "LegacyServer.Introspect", callee := "getTokenIDAndSubject", allow := ["NewResponse"],
    why := "introspection: an access token that cannot be read (incl. a failing KeySet lookup) is reported as not active" },
  { fn := "GetTokenIDAndSubjectFromToken", callee := "getTokenIDAndClaims", allow := ["Storage.VerifyExchangeActorToken", "Storage.VerifyExchangeSubjectToken"],
    why := "token exchange: a subject / actor token the provider cannot read is handed to the storage's own verifier (TokenExchangeTokensVerifierStorage), whose error ends the request; without that interface the request is refused" },
  { fn := "GetTokenIDAndSubjectFromToken", callee := "Storage.TokenRequestByRefreshToken", allow := ["Storage.VerifyExchangeActorToken", "Storage.VerifyExchangeSubjectToken"], why := "token exchange: as above (refresh token as subject / actor token)" },
  { fn := "GetTokenIDAndSubjectFromToken", callee := "VerifyIDTokenHint", allow := ["Storage.VerifyExchangeActorToken", "Storage.VerifyExchangeSubjectToken"], why := "token exchange: as above (ID token as subject / actor token)" },
  { fn := "Introspect", callee := "Storage.SetIntrospectionFromToken", allow := ["httphelper.MarshalJSON"], why := "as LegacyServer.Introspect" },
  { fn := "Introspect", callee := "getTokenIDAndSubject", allow := ["httphelper.MarshalJSON"], why := "as LegacyServer.Introspect" },
  { fn := "getTokenIDAndSubjectForRevocation", callee := "VerifyAccessToken", allow := [],
    why := "revocation: a JWT that does not verify is not one of the provider's tokens and is handed to RevokeToken as an opaque string (RFC 7009: an unknown token is answered with 200); whether the keys could be OBTAINED is reported separately (revocationKeySet records a keySetError, returned as the function's error and answered with server_error by Revoke / LegacyServer.Revocation) - that side channel is outside the tree, the stream checks it (fault at KeySet with JWT access tokens)" }]

/-- the `errors.Is / errors.As` tests on followed error variables, per function (proved equal to the regenerated ones) -/
def auditedSentinelTests : List (String × String) := [
  ("ValidateAuthReqIDTokenHint", "IDTokenHintExpiredError"),
  ("ClientIDFromRequest", "ErrNoClientCredentials"),
  ("CheckDeviceAuthorizationState", "context.DeadlineExceeded"),
  ("LegacyServer.Revocation", "ErrInvalidRefreshToken"),
  ("ValidateEndSessionRequest", "IDTokenHintExpiredError"),
  ("Revoke", "ErrInvalidRefreshToken")]

def audit : Audit := { benign := benignSentinels.map (·.name), tol := toleratedSites.map fun t => { fn := t.fn, callee := t.callee, allow := t.allow } }

/-- the regenerated program is closed: every callee index names a regenerated function -/
theorem c10_flow_callees_resolved : GenC10.fns.all (fun F => calleesIn GenC10.fns.length F.sk) = true := by decide +kernel

/-- THE check: with the audited tolerances no regenerated function has a path on which a failed call's error is dropped -/
theorem c10_flow_all_ok : GenC10.fns.all (fnOK GenC10.fns audit) = true := by decide +kernel

/-- functions without an error result (handlers, `SigAlgorithms`) yield nothing in the error position -/
theorem c10_flow_noerr_nil : GenC10.fns.all (fun F => !F.noErrResult || retsNil F.sk) = true := by decide +kernel

/-- the audited table is EXACTLY the list of drop sites of the regenerated trees (analysis without any tolerance):
    nothing is tolerated that is not a drop, and (with `c10_flow_all_ok`) every drop is in the table -/
theorem c10_tolerated_audited :
    (GenC10.fns.flatMap fun F => (rawDropSites GenC10.fns audit.benign F).map fun c => (F.name, c)) = toleratedSites.map (fun t => (t.fn, t.callee)) := by decide +kernel

/-- the sentinel tests of the regenerated trees are the audited ones: a new `errors.Is` escape hatch changes this list -/
theorem c10_sentinel_tests_audited :
    (GenC10.fns.flatMap fun F => (dedupStr (sentinelTests F.sk)).map fun s => (F.name, s)) = auditedSentinelTests := by decide +kernel

/-- every sentinel test is against an audited benign sentinel, except the device mapping's deadline test (which only selects
    between two error answers, `c10_device_mapping`) -/
theorem c10_sentinels_benign :
    (auditedSentinelTests.all fun t => audit.benign.contains t.2 || t == ("CheckDeviceAuthorizationState", "context.DeadlineExceeded")) = true := by
  decide +kernel

theorem c10_wf : WF GenC10.fns audit where
  ok g G h := by
    have := List.all_eq_true.mp c10_flow_all_ok G (List.mem_of_getElem? h)
    simpa [fnOK] using this
  retNil g G h hn := by
    have := List.all_eq_true.mp c10_flow_noerr_nil G (List.mem_of_getElem? h)
    simpa [hn] using this

/-- C10 for the regenerated handlers.  For EVERY function F regenerated from pkg/op (every HTTP handler and every helper between
    it and the storage), EVERY execution of it (any initial environment, any outcome of every call and condition, callees
    executed along their own regenerated trees), EVERY position i at which a call into the storage fails, with EVERY error kind:
    the events after the failure contain no success-building step and no further storage call, and the function ends in the
    error class - a handler has run an error responder, a helper returns a non-nil error (`false`) to its caller -
    or the failure arrived at one of the audited tolerated sites (by design, none of them a finding), or the same call site is
    called again later (the attempt was retried inside a bounded retry loop: the statement then applies to that later attempt,
    so the LAST attempt is the one that must be closed). -/
theorem c10_fail_closed_handlers :
    ∀ (f : Nat) (F : Fn), GenC10.fns[f]? = some F →
    ∀ (ρ : Env) (tr : List Ev) (x : CV), Run GenC10.fns audit f F.sk ρ tr x →
    ∀ (i g site : Nat) (kind : EKind), tr[i]? = some (.sfail g site kind) →
      hasAbs (tr.drop (i + 1)) = true ∨ retriedAt g site (tr.drop (i + 1)) = true ∨
      (noSucc (tr.drop (i + 1)) = true ∧ noFail (tr.drop (i + 1)) = true ∧ exitOK F.kind x (tr.drop (i + 1)) = true) := by
  intro f F hF ρ tr x hrun i g site kind hi
  exact closedFor_sfail.mp (goodW_get tr i _ (fn_good c10_wf hF hrun) hi rfl)

/-- for the HTTP handlers proper (no result): after a failing storage call an error responder runs and nothing is built -/
theorem c10_handlers_answer_with_error :
    ∀ (f : Nat) (F : Fn), GenC10.fns[f]? = some F → F.kind = .void →
    ∀ (ρ : Env) (tr : List Ev) (x : CV), Run GenC10.fns audit f F.sk ρ tr x →
    ∀ (i g site : Nat) (kind : EKind), tr[i]? = some (.sfail g site kind) →
      hasAbs (tr.drop (i + 1)) = false → retriedAt g site (tr.drop (i + 1)) = false →
      hasResp (tr.drop (i + 1)) = true ∧ noSucc (tr.drop (i + 1)) = true ∧ noFail (tr.drop (i + 1)) = true := by
  intro f F hF hk ρ tr x hrun i g site kind hi hna hnr
  rcases c10_fail_closed_handlers f F hF ρ tr x hrun i g site kind hi with h | h | ⟨h1, h2, h3⟩
  · rw [hna] at h; cases h
  · rw [hnr] at h; cases h
  · rw [hk] at h3; exact ⟨h3, h1, h2⟩

/-- C10 for arbitrary fault schedules.  For EVERY regenerated function F, EVERY schedule σ (a function from the index of a call
    into the storage - counted over the whole request, helpers included - to the error kind it fails with, if any: single faults,
    the same call failing k times in a row, faults at two or more indices, every call failing, with any mix of the kinds
    plain / deadline / canceled / oidc.Error / StatusError / any named sentinel) and EVERY execution that follows σ: each call
    the schedule fails and the execution makes is closed - no success step and no further failing call after it and the function
    ends in the error class, unless the failure arrived at an audited tolerated site or the same call site is called again
    (then the statement holds for that later attempt).  Every execution follows some schedule (`follows_schedOf`). -/
theorem c10_fail_closed_schedules :
    ∀ (f : Nat) (F : Fn), GenC10.fns[f]? = some F →
    ∀ (σ : Sched) (ρ : Env) (tr : List Ev) (x : CV), Run GenC10.fns audit f F.sk ρ tr x → Follows σ tr →
    ∀ (j : Nat) (kind : EKind), j < (callOutcomes tr).length → σ j = some kind →
      ∃ i g site, nthCall tr j = some (i, .sfail g site kind) ∧
        (hasAbs (tr.drop (i + 1)) = true ∨ retriedAt g site (tr.drop (i + 1)) = true ∨
         (noSucc (tr.drop (i + 1)) = true ∧ noFail (tr.drop (i + 1)) = true ∧ exitOK F.kind x (tr.drop (i + 1)) = true)) := by
  intro f F hF σ ρ tr x hrun hσ j kind hj hk
  obtain ⟨i, g, s, hn, hc⟩ := sched_fail_closed c10_wf hF hrun σ hσ j kind hj hk
  exact ⟨i, g, s, hn, closedFor_sfail.mp hc⟩

/-- REPEATED faults (the retry class): if every call an execution makes at some call site fails - all k
    attempts, whatever the kinds - and nothing is absorbed, then after the LAST attempt no success step and no failing call
    follows and the function ends in the error class: an exhausted retry bound is answered with an error. -/
theorem c10_all_attempts_fail_closed :
    ∀ (f : Nat) (F : Fn), GenC10.fns[f]? = some F →
    ∀ (ρ : Env) (tr : List Ev) (x : CV), Run GenC10.fns audit f F.sk ρ tr x →
    ∀ (g site : Nat), retriedAt g site tr = true → allFailAt g site tr = true → hasAbs tr = false →
      ∃ i kind, tr[i]? = some (.sfail g site kind) ∧ retriedAt g site (tr.drop (i + 1)) = false ∧
        noSucc (tr.drop (i + 1)) = true ∧ noFail (tr.drop (i + 1)) = true ∧ exitOK F.kind x (tr.drop (i + 1)) = true := by
  intro f F hF ρ tr x hrun g site h1 h2 h3
  exact all_attempts_fail_closed (fn_good c10_wf hF hrun) g site h1 h2 h3

/-- faults at TWO indices of one request: the later failing call is only reached when the earlier failure was absorbed at an
    audited site or its call was attempted again - a handler never goes on to other storage calls after a failure -/
theorem c10_later_fault_needs_retry :
    ∀ (f : Nat) (F : Fn), GenC10.fns[f]? = some F →
    ∀ (ρ : Env) (tr : List Ev) (x : CV), Run GenC10.fns audit f F.sk ρ tr x →
    ∀ (i j g s g' s' : Nat) (k k' : EKind), tr[i]? = some (.sfail g s k) → tr[j]? = some (.sfail g' s' k') → i < j →
      hasAbs (tr.drop (i + 1)) = true ∨ retriedAt g s (tr.drop (i + 1)) = true := by
  intro f F hF ρ tr x hrun i j g s g' s' k k' hi hj hij
  exact later_fault_needs_retry (fn_good c10_wf hF hrun) hi hj hij

/-- the storage calls of an execution as a call sequence of the abstract model: a failed call is the failing step -/
def callsOf (tr : List Ev) : List (Call Unit) :=
  (tr.filter Ev.isCall).map fun e => if e.isFail then (fun _ => .error "storage failure") else (fun s => .ok s)

theorem callsOf_sfail (g s : Nat) (k : EKind) (t : List Ev) :
    callsOf (.sfail g s k :: t) = (fun _ => .error "storage failure") :: callsOf t := rfl
theorem callsOf_sok (g s : Nat) (t : List Ev) : callsOf (.sok g s :: t) = (fun s => .ok s) :: callsOf t := rfl
theorem callsOf_succ (n : String) (t : List Ev) : callsOf (.succ n :: t) = callsOf t := rfl
theorem callsOf_resp (n : String) (t : List Ev) : callsOf (.resp n :: t) = callsOf t := rfl
theorem callsOf_absorbed (g s : Nat) (t : List Ev) : callsOf (.absorbed g s :: t) = callsOf t := rfl

theorem runCalls_callsOf (tr : List Ev) :
    runCalls (callsOf tr) () = if noFail tr = true then .ok () else .error "storage failure" := by
  induction tr with
  | nil => rfl
  | cons a t ih =>
    cases a
    case sfail => rfl
    all_goals exact ih

theorem runCalls_callsOf_error_iff (tr : List Ev) : (∃ e, runCalls (callsOf tr) () = .error e) ↔ noFail tr = false := by
  rw [runCalls_callsOf]
  cases noFail tr <;> simp

/-- the abstract model applied to the storage calls of an execution predicts an error exactly when one of them failed -
    and then the regenerated function does end in the error class (or the failure was absorbed at an audited site, or retried):
    the Except-monad reading "a failed call ends the handler with an error" is what the concrete trees do. -/
theorem c10_handlers_refine_abstract :
    ∀ (f : Nat) (F : Fn), GenC10.fns[f]? = some F →
    ∀ (ρ : Env) (tr : List Ev) (x : CV), Run GenC10.fns audit f F.sk ρ tr x →
      ((∃ e, runCalls (callsOf tr) () = .error e) ↔ ∃ (i g site : Nat) (kind : EKind), tr[i]? = some (Ev.sfail g site kind)) ∧
      ((∃ e, runCalls (callsOf tr) () = .error e) → hasAbs tr = false →
        (∀ (i g site : Nat) (kind : EKind), tr[i]? = some (Ev.sfail g site kind) → retriedAt g site (tr.drop (i + 1)) = false) →
        exitOK F.kind x tr = true) := by
  intro f F hF ρ tr x hrun
  refine ⟨(runCalls_callsOf_error_iff tr).trans noFail_eq_false, fun herr hna hnr => ?_⟩
  obtain ⟨i, g, s, k, hi⟩ := noFail_eq_false.mp ((runCalls_callsOf_error_iff tr).mp herr)
  rcases c10_fail_closed_handlers f F hF ρ tr x hrun i g s k hi with h | h | ⟨_, _, h3⟩
  · rw [hasAbs_drop_false hna] at h; cases h
  · rw [hnr i g s k hi] at h; cases h
  · cases hk : F.kind <;> rw [hk] at h3
    · exact any_of_drop h3
    all_goals exact h3

/-! ### which error a failing storage call is answered with -/

/-- device grant: a storage timeout while polling is answered with `slow_down`, any other storage failure with `access_denied` -/
theorem c10_device_mapping :
    failureWraps GenC10.fns audit.benign "CheckDeviceAuthorizationState" "GetDeviceAuthorizatonState" .deadline = ["oidc.ErrSlowDown"] ∧
    failureWraps GenC10.fns audit.benign "CheckDeviceAuthorizationState" "GetDeviceAuthorizatonState" .plain = ["oidc.ErrAccessDenied"] ∧
    failureWraps GenC10.fns audit.benign "CheckDeviceAuthorizationState" "GetDeviceAuthorizatonState" .oidc = ["oidc.ErrAccessDenied"] := by decide +kernel

/-- … and so are the further kinds: a cancelled context, a StatusError, a named sentinel (only a DEADLINE is `slow_down`) -/
theorem c10_device_mapping_kinds :
    ([EKind.canceled, .status, .named "ErrDuplicateUserCode", .named "ErrSignerCreationFailed"].all fun k =>
      failureWraps GenC10.fns audit.benign "CheckDeviceAuthorizationState" "GetDeviceAuthorizatonState" k == ["oidc.ErrAccessDenied"]) = true := by decide +kernel

/-- authorization endpoint of the Provider router: while the redirect URI is NOT yet validated (the client lookup itself fails)
    the error handed to AuthRequestError is the redirect-disabled `ErrInvalidRequestRedirectURI`, whatever the kind of failure -
    so the answer is never a redirect to the unvalidated URI -/
theorem c10_unvalidated_redirect_guard :
    ([EKind.plain, .deadline, .oidc, .canceled, .status, .named "ErrDuplicateUserCode"].all fun k =>
      failureWraps GenC10.fns audit.benign "Authorize.func1" "GetClientByClientID" k == ["oidc.ErrInvalidRequestRedirectURI"] &&
      failureWraps GenC10.fns audit.benign "ValidateAuthRequest" "GetClientByClientID" k == ["oidc.ErrInvalidRequestRedirectURI"]) = true := by decide +kernel

/-! ### non-vacuity (concrete executions of the regenerated handlers, whose scripts depend on the shape of the trees, are in
    Proofs/C10Examples.lean - outside this module, so that an `extract function` rewrite cannot break the property's proofs) -/

/-- the analysis is not vacuous: without the audited table the regenerated program does NOT pass … -/
example : GenC10.fns.all (fnOK GenC10.fns { audit with tol := [] }) = false := by decide +kernel
/-- … nor without the sentinel assumption (the credential fall-through of ClientIDFromRequest would count as a drop) -/
example : GenC10.fns.all (fnOK GenC10.fns { audit with benign := [] }) = false := by decide +kernel
set_option maxRecDepth 4096 in
example : decide (GenC10.fns.length ≥ 100) = true := by decide +kernel

/-- the shape of the seeded defect C10-D (the error of the Basic-auth attempt is only looked at on ONE branch, the other one
    returns the form's client_id without an error) is reported as a drop … -/
example : drops [] ["ErrNoClientCredentials"] [] [] .err
    (.call 0 (.storage "AuthorizeClientIDSecret") 0 (.ifErr 0 (.ite (.ifIs 0 "ErrNoClientCredentials" (.ret (.fresh [] "oidc.ErrInvalidClient")) (.ret (.var 0 [] ""))) (.ret .nil)) (.ret .nil)))
    [] (.clean none) = [(0, .retNotErr)] := by decide +kernel
/-- … the original shape is not -/
example : drops [] ["ErrNoClientCredentials"] [] [] .err
    (.call 0 (.storage "AuthorizeClientIDSecret") 0 (.ifErr 0 (.ifIs 0 "ErrNoClientCredentials" (.ite (.ret (.fresh [] "oidc.ErrInvalidClient")) (.ret .nil)) (.ret (.var 0 [] ""))) (.ret .nil)))
    [] (.clean none) = [] := by decide +kernel
/-- an error overwritten before it is examined (C10-A), a deferred call (C10-C), an error only recorded (C04-B) -/
example : drops [] [] [] [] .err (.call 0 (.storage "A") 0 (.ite (.call 1 (.storage "B") 0 (.ifErr 0 (.ret (.var 0 [] "")) (.ret .nil))) (.ifErr 0 (.ret (.var 0 [] "")) (.ret .nil)))) [] (.clean none)
    = [(0, .callAfter)] := by decide +kernel
example : drops [] [] [] [] .err (.call 0 (.storage "DeleteAuthRequest") 1 (.call 1 (.storage "CreateAccessToken") 0 (.ifErr 0 (.ret (.var 0 [] "")) (.ret .nil)))) [] (.clean none)
    = [(0, .callAfter)] := by decide +kernel
example : drops [] [] [] [] .err (.call 0 (.storage "DeleteAuthRequest") 0 (.ret .nil)) [] (.clean none) = [(0, .retNotErr)] := by decide +kernel

/-! ### bounded retry loops (unrolled by the translator: `.attempt i n`, then the statements after the loop) -/

/-- a CORRECT retry loop around a storage call - three attempts, `continue` on the retry sentinel, any other error returned,
    and the error of the LAST attempt examined after the loop - passes: re-calling the same site supersedes the failure -/
example : drops [] [] ["Storage.Store"] [] .err
    (.attempt 1 3 (.call 0 (.storage "Store") 0 (.ifIs 0 "ErrRetry"
      (.attempt 2 3 (.call 0 (.storage "Store") 0 (.ifIs 0 "ErrRetry"
        (.attempt 3 3 (.call 0 (.storage "Store") 0 (.ifIs 0 "ErrRetry"
          (.ifErr 0 (.ret (.var 0 [] "")) (.succ "build" (.ret .nil)))                      -- bound exhausted: the last error is examined
          (.ifErr 0 (.ret (.var 0 [] "")) (.ifErr 0 (.ret (.var 0 [] "")) (.succ "build" (.ret .nil)))))))
        (.ifErr 0 (.ret (.var 0 [] "")) (.ifErr 0 (.ret (.var 0 [] "")) (.succ "build" (.ret .nil)))))))
      (.ifErr 0 (.ret (.var 0 [] "")) (.ifErr 0 (.ret (.var 0 [] "")) (.succ "build" (.ret .nil)))))))
    [] (.clean none) = [] := by decide +kernel

def dropSet (l : List (Nat × DropKind)) : List (Nat × DropKind) := l.foldr (fun d acc => if acc.contains d then acc else d :: acc) []

/-- the shape of the seeded defect C10-E - the same loop, but after the last attempt the code goes on to build the response -
    is reported as a dropped error AT THE STORAGE CALL SITE (site 0) -/
example : dropSet (drops [] [] ["Storage.Store"] [] .err
    (.attempt 1 3 (.call 0 (.storage "Store") 0 (.ifIs 0 "ErrRetry"
      (.attempt 2 3 (.call 0 (.storage "Store") 0 (.ifIs 0 "ErrRetry"
        (.attempt 3 3 (.call 0 (.storage "Store") 0 (.ifIs 0 "ErrRetry"
          (.succ "build" (.ret .nil))                                                      -- bound exhausted: nobody looks at the error
          (.ifErr 0 (.ret (.var 0 [] "")) (.succ "build" (.ret .nil))))))
        (.ifErr 0 (.ret (.var 0 [] "")) (.succ "build" (.ret .nil))))))
      (.ifErr 0 (.ret (.var 0 [] "")) (.succ "build" (.ret .nil))))))
    [] (.clean none)) = [(0, .succAfter)] := by decide +kernel

/-- a retry may only repeat the SAME storage call: calling something else while the failure is pending stays a drop -/
example : drops [] [] ["Storage.A", "Storage.B"] [] .err
    (.call 0 (.storage "A") 0 (.call 1 (.storage "B") 1 (.ifErr 1 (.ret (.var 1 [] "")) (.ret .nil)))) [] (.clean none) = [(0, .callAfter)] := by decide +kernel

/-- an execution of a two-attempt retry: the first attempt fails, the second succeeds, the response is built - the failure is
    followed by a call at the same site (`retriedAt`), which is the escape clause of `c10_fail_closed_handlers` -/
def retryDemo : List Fn :=
  [{ name := "f", file := "", kind := .err, handler := false, nvars := 1, sites := ["Storage.Store"], sk := .attempt 1 2 (.call 0 (.storage "Store") 0 (.ifErr 0 (.attempt 2 2 (.call 0 (.storage "Store") 0 (.ifErr 0 (.ret (.var 0 [] "")) (.succ "build" (.ret .nil))))) (.succ "build" (.ret .nil)))) }]

example : (execFn retryDemo { benign := [], tol := [] } "f" [.fail .plain, .ok]).map (fun r => (r.1, retriedAt 0 0 (r.1.drop 1))) =
    some ([.sfail 0 0 .plain, .sok 0 0, .succ "build"], true) := by decide +kernel

/-! ### coverage: every storage method, the probes, loops -/

def extractedMethods : List String := dedupStr (GenC10.fns.flatMap fun F => storageMethods F.sk)

/-- methods of the storage interfaces that no function of pkg/op between a handler and the storage calls (audited; the list is
    PROVED to be exactly the uncalled ones, so a new interface method the extractor's table does not know appears here) -/
def notCalledByHandlers : List (String × String) := []

/-- COVERAGE of the pluggable storage: every method with an error (ok) result of every storage interface declared in pkg/op
    (`GenC10.storageInterface`, regenerated from the interface declarations: AuthStorage, OPStorage, Storage.Health, KeyProvider,
    ClientCredentialsStorage, TokenExchangeStorage, TokenExchangeTokensVerifierStorage, DeviceAuthorizationStorage,
    JWTProfileTokenStorage / JWTProfileKeyStorage, DiscoverStorage, CanTerminateSessionFromRequest, CanSetUserinfoFromRequest,
    CanGetPrivateClaimsFromRequest) is a call site of some regenerated error-flow tree - hence under `c10_fail_closed_schedules` -/
theorem c10_storage_interface_covered :
    (dedupStr (GenC10.storageInterface.map (·.2))).filter (fun m => !extractedMethods.contains m) = notCalledByHandlers.map (·.1) := by decide +kernel

/-- … and conversely the extractor's table of storage methods names nothing that is not a declared interface method -/
theorem c10_extracted_methods_declared : extractedMethods.all (fun m => (GenC10.storageInterface.map (·.2)).contains m) = true := by decide +kernel

example : decide (GenC10.storageInterface.length ≥ 35) = true := by decide +kernel

/-- nothing is left out of the extracted program (the readiness probe loops are loop functions: Proofs/C10Examples.lean) -/
theorem c10_nothing_out_of_scope : GenC10.outOfScope = [] := by decide +kernel

/-- a loop that goes on to the next iteration while a failure is pending is NOT accepted (callAfter at the back edge) … -/
example : (let P : List Fn := [
      { name := "h", file := "", kind := .void, handler := true, nvars := 2, sites := ["h.loop1", "Storage.Get", "h.loop1"], sk := .call 2 (.op [1]) 1 (.ret .nil) },
      { name := "h.loop1", file := "", kind := .void, handler := true, nvars := 2, sites := ["h.loop1", "Storage.Get", "h.loop1"],
        sk := .ite (.call 1 (.storage "Get") 0 (.call 0 (.op [1]) 1 (.ret .nil))) (.succ "ok" (.ret .nil)) }]
    P.map fun F => dropSet (fnDrops P { benign := [], tol := [] } F)) = [[], [(1, .callAfter)]] := by decide +kernel

/-- … one that answers and leaves is -/
example : (let P : List Fn := [
      { name := "h", file := "", kind := .void, handler := true, nvars := 2, sites := ["h.loop1", "Storage.Get", "h.loop1"], sk := .call 2 (.op [1]) 1 (.ret .nil) },
      { name := "h.loop1", file := "", kind := .void, handler := true, nvars := 2, sites := ["h.loop1", "Storage.Get", "h.loop1"],
        sk := .ite (.call 1 (.storage "Get") 0 (.ifErr 0 (.resp "http.Error" (.ret .nil)) (.call 0 (.op [1]) 1 (.ret .nil)))) (.succ "ok" (.ret .nil)) }]
    P.all (fnOK P { benign := [], tol := [] })) = true := by decide +kernel

/-! ### fault schedules: non-vacuity -/

/-- the same call failing twice in a row (schedule `firstN 2`): the two-attempt retry ends with the error of the LAST attempt -/
example : (execFn retryDemo { benign := [], tol := [] } "f" [.fail .plain, .fail (.named "ErrRetry")]).map
      (fun r => (callOutcomes r.1, r.2, noSucc r.1, allFailAt 0 0 r.1)) =
    some ([some .plain, some (.named "ErrRetry")], .hard (.named "ErrRetry"), true, true) := by decide +kernel

example : Follows (Sched.firstN 2 .plain) [.sfail 0 0 .plain, .sfail 0 0 .plain] := by
  intro j o h
  match j with
  | 0 => simp [callOutcomes] at h; simp [Sched.firstN, ← h]
  | 1 => simp [callOutcomes] at h; simp [Sched.firstN, ← h]
  | j + 2 => simp [callOutcomes] at h

/-- the shape of seeded C10-M: three attempts, a NAMED kind makes `errors.Is(err, ErrDuplicateUserCode)` true on every attempt,
    after the last one the (shadowed, nil) outer error is returned and the caller builds the answer: the execution under the
    schedule "all three attempts fail with ErrDuplicateUserCode" reaches a success step - and the analysis reports the drop -/
def c10mShape : List Fn :=
  [{ name := "store", file := "", kind := .err, handler := false, nvars := 2, sites := ["Storage.StoreDeviceAuthorization"],
     sk := .attempt 1 3 (.call 0 (.storage "StoreDeviceAuthorization") 1 (.ifIs 1 "ErrDuplicateUserCode"
            (.attempt 2 3 (.call 0 (.storage "StoreDeviceAuthorization") 1 (.ifIs 1 "ErrDuplicateUserCode"
              (.attempt 3 3 (.call 0 (.storage "StoreDeviceAuthorization") 1 (.ifIs 1 "ErrDuplicateUserCode"
                (.ret (.var 0 [] "")) (.ret (.var 1 [] "")))))
              (.ret (.var 1 [] "")))))
            (.ret (.var 1 [] "")))) },
   { name := "create", file := "", kind := .err, handler := false, nvars := 1, sites := ["store"],
     sk := .call 0 (.op [0]) 0 (.ifErr 0 (.ret (.var 0 [] "NewStatusError")) (.succ "build" (.ret .nil))) }]

example : (execFn c10mShape { benign := [], tol := [] } "create"
      [.pick "store", .fail (.named "ErrDuplicateUserCode"), .fail (.named "ErrDuplicateUserCode"), .fail (.named "ErrDuplicateUserCode")]).map
      (fun r => (callOutcomes r.1, r.1.any Ev.isSucc, r.2)) =
    some ([some (.named "ErrDuplicateUserCode"), some (.named "ErrDuplicateUserCode"), some (.named "ErrDuplicateUserCode")], true, .nil) := by decide +kernel

example : (c10mShape.map fun F => dropSet (fnDrops c10mShape { benign := [], tol := [] } F)) = [[(0, .retNotErr)], []] := by decide +kernel

/-- a named kind is deterministic on its own sentinel, open on any other, and never matches an audited benign one -/
example : isMatch ["ErrNoClientCredentials"] "ErrDuplicateUserCode" (.hard (.named "ErrDuplicateUserCode")) = some true := by decide +kernel
example : isMatch ["ErrNoClientCredentials"] "ErrNoClientCredentials" (.hard (.named "ErrDuplicateUserCode")) = some false := by decide +kernel
example : isMatch [] "context.Canceled" (.hard .canceled) = some true := by decide +kernel
example : isMatch [] "context.DeadlineExceeded" (.hard .canceled) = some false := by decide +kernel

end C10
