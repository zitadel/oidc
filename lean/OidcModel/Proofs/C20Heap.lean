/-
  C20 — objects that a function writes but did not create, and data that handler factories build.
  This is the module the C20 check builds (`checklib/props.d/C20.json`); the vocabulary (`heapHits`, `writeMayHit`,
  `handedOutAudit`, `closureSites`) is that of Model/Footprint.lean, the audited lists are in Model/C20Known.lean.

  Two classes that write sites rooted in a receiver / parameter / package-level variable do not show (examples `heapFMut`,
  `heapFParam`, `heapFUnfixed` at the end of the file for (a), seeded change C20-H for (b)):
   (a) a package-level variable that holds a POINTER (an error instance built once: `var errX = oidc.ErrY().With…`) flows
       into a function result and is written later THROUGH that value (`e := oidc.DefaultToServerError(err, …)` finds it with
       errors.As, `e.State = …`): a hidden write to process-global state at request time, shared by every provider;
   (b) a slice built once by a handler factory (`rp.AuthURLHandler`, `rp.CodeExchangeHandler`, the op handler factories) and
       appended to per request inside the returned closure: concurrent requests share the backing array.

  `factgen` regenerates on every run (footprint_c20heap.go): `Gen.sharedCells` (every package-level variable with the kind of
  value it holds), `Gen.handsOut` (function results that may be such a cell, closed over calls), `Gen.foreignWrites` (writes
  into objects the writer did not create, with their static type), `Gen.closureFactories`; foreign writes that may hit a
  pointer cell (same pointee type) are also added to `Gen.writeSites` with a `.global` root, and appends / element writes
  through a local that aliases a captured variable are captured-cell sites — so `hidden_exact`, `undisciplined_exact`,
  `c20_package_defaults_unchanged` and the driver's may-write / may-race prediction see them.
  The theorems below are about these regenerated lists.
-/
import OidcModel.Proofs.C20
import OidcModel.Go
namespace C20
open Footprint

#eval IO.println s!"C20-diagnostic package-level pointer cells written through a value: {(heapHits Gen.heapFacts).map fun p => (p.1, p.2.name)}"
#eval IO.println s!"C20-diagnostic handed-out writable cells not audited: {(handedOutAudit Gen.heapFacts).filter fun p => !knownHandedOut.contains p}"
#eval IO.println s!"C20-diagnostic mutator calls on a value the caller did not make: {Gen.errorMutatorCalls.filter fun c => c.2.2.2 != ["fresh"]}; package-level sentinel pointers handed out: {(handedOutWritable Gen.heapFacts).filter fun p => !(handedOutAudit Gen.heapFacts).contains p}"
#eval IO.println s!"C20-diagnostic closure sites (factory data written per request): {closureSites Gen.facts}"

/-! ## generic (any fact record) -/

/-- what `heapHits = []` means: no foreign write that may hit a package-level POINTER cell (`writeMayHit`: every write except
    the receiver writes of tracked mutator methods that are never called on a value that may be the cell) has its pointee type -/
theorem no_hit_of_heapHits_nil (H : HeapFacts) (h : heapHits H = []) (w : ForeignWrite) (hw : w ∈ H.writes)
    (c : SharedCell) (hc : c ∈ H.cells) (hp : c.kind = "ptr") (ht : c.ty ≠ "") (hm : writeMayHit H w c = true) : c.ty ≠ w.ty := by
  intro heq
  have hmem : (w.fn, Cell.global c.name w.path) ∈ heapHits H := by
    unfold heapHits
    refine List.mem_flatMap.mpr ⟨w, hw, List.mem_map.mpr ⟨c, List.mem_filter.mpr ⟨hc, ?_⟩, rfl⟩⟩
    have hne : w.ty ≠ "" := heq ▸ ht
    simp [hp, heq, hne, hm]
  rw [h] at hmem
  exact absurd hmem List.not_mem_nil

/-- the package-level pointer cells, the only ones a foreign write can hit -/
def ptrCells (H : HeapFacts) : List SharedCell := H.cells.filter fun c => c.kind == "ptr" && c.ty != ""

/-- `heapHits` with the pointer cells selected once instead of once per write: the form that is evaluated below -/
theorem heapHits_eq (H : HeapFacts) :
    heapHits H = H.writes.flatMap fun w =>
      ((ptrCells H).filter fun c => c.ty == w.ty && writeMayHit H w c).map fun c => (w.fn, Cell.global c.name w.path) := by
  simp only [heapHits, ptrCells, List.filter_filter]
  congr; funext w; congr 1; congr; funext c
  ac_rfl

theorem kindOf_cons (H : HeapFacts) (c : SharedCell) (hs : List (String × Nat × String)) (g : String) :
    ({ H with cells := c :: H.cells, handsOut := hs } : HeapFacts).kindOf g = if c.name == g then c.kind else H.kindOf g := by
  simp only [HeapFacts.kindOf, List.find?_cons]; cases c.name == g <;> rfl

theorem tyOf_cons (H : HeapFacts) (c : SharedCell) (hs : List (String × Nat × String)) (g : String) :
    ({ H with cells := c :: H.cells, handsOut := hs } : HeapFacts).tyOf g = if c.name == g then c.ty else H.tyOf g := by
  simp only [HeapFacts.tyOf, List.find?_cons]; cases c.name == g <;> rfl

/-- a package-level pointer to a sentinel type and a function handing it out add nothing to the audit list: no function handed
    out a cell of that name so far, or the cell was this pointer already (and the function is one more that hands it out) -/
theorem handedOutAudit_cons_sentinel (H : HeapFacts) (c : SharedCell) (e : String × Nat × String)
    (hk : c.kind = "ptr") (hs : H.sentinelType c.ty = true) (he : e.2.2 = c.name)
    (hn : ∀ h ∈ H.handsOut, h.2.2 = c.name → H.kindOf c.name = "ptr" ∧ H.tyOf c.name = c.ty) :
    handedOutAudit { H with cells := c :: H.cells, handsOut := e :: H.handsOut } = handedOutAudit H := by
  have hsent : ∀ ty, ({ H with cells := c :: H.cells, handsOut := e :: H.handsOut } : HeapFacts).sentinelType ty = H.sentinelType ty :=
    fun _ => rfl
  -- the new entry passes the first filter (a pointer) and falls to the second (to a sentinel type)
  simp only [handedOutAudit, handedOutWritable, kindOf_cons, tyOf_cons, hsent, List.filter_cons, he, beq_self_eq_true, if_true, hk,
    Bool.true_or, List.map_cons, hs, Bool.and_self, Bool.not_true, Bool.false_eq_true, if_false, List.filter_map]
  congr 1
  simp only [List.filter_filter]
  apply List.filter_congr
  intro h hh
  simp only [Function.comp]
  cases hc : c.name == h.2.2
  · simp only [Bool.false_eq_true, if_false]
  · -- an older entry for the same cell falls to the second filter before and after
    have hg := (beq_iff_eq.mp hc).symm
    obtain ⟨hk', ht'⟩ := hn h hh hg
    simp only [hg, hk', ht', if_true, beq_self_eq_true, hs, Bool.and_self, Bool.not_true, Bool.false_and]

/-! ### the refined may-alias rule (package-level sentinel errors) -/

theorem originMayBe_fresh (g : String) : originMayBe g "fresh" = false := by simp [originMayBe]

/-- **a receiver write of a tracked mutator method hits a package-level cell ONLY through a listed call**: if the write of
    `WithDescription` / `WithParent` / … may hit the cell `c`, then some call of that method after package initialisation has a
    receiver whose origin may be `c` (the cell itself, or a value the calling function did not make) -/
theorem mutator_hit_needs_call (H : HeapFacts) (w : ForeignWrite) (c : SharedCell) (m : String)
    (hm : H.mutatorOf w = some m) (hh : writeMayHit H w c = true) :
    ∃ k ∈ H.mutCalls, k.2.2.1 = m ∧ ∃ o ∈ k.2.2.2, originMayBe c.name o = true := by
  simp only [writeMayHit, hm, HeapFacts.callsOn, Bool.not_eq_true', List.isEmpty_eq_false_iff] at hh
  obtain ⟨k, hk⟩ := List.exists_mem_of_ne_nil _ hh
  obtain ⟨hkm, hkp⟩ := List.mem_filter.mp hk
  simp only [Bool.and_eq_true, beq_iff_eq, List.any_eq_true] at hkp
  exact ⟨k, hkm, hkp.1, hkp.2⟩

theorem mutator_misses_without_call (H : HeapFacts) (w : ForeignWrite) (c : SharedCell) (m : String)
    (hm : H.mutatorOf w = some m)
    (hn : ∀ k ∈ H.mutCalls, k.2.2.1 = m → ∀ o ∈ k.2.2.2, originMayBe c.name o = false) : writeMayHit H w c = false := by
  cases hh : writeMayHit H w c with
  | false => rfl
  | true =>
    obtain ⟨k, hk, hkm, o, ho, hob⟩ := mutator_hit_needs_call H w c m hm hh
    rw [hn k hk hkm o ho] at hob
    exact absurd hob (by decide)

/-- when every listed call has a receiver made by the calling expression / function, the mutators' receiver writes hit NO
    package-level cell — whatever package-level `*oidc.Error` variables exist or are added later -/
theorem fresh_calls_hit_nothing (H : HeapFacts) (hf : H.mutCalls.all (fun k => k.2.2.2 == ["fresh"]) = true)
    (w : ForeignWrite) (c : SharedCell) (m : String) (hm : H.mutatorOf w = some m) : writeMayHit H w c = false := by
  apply mutator_misses_without_call H w c m hm
  intro k hk _ o ho
  have := List.all_eq_true.mp hf k hk
  simp only [beq_iff_eq] at this
  rw [this] at ho
  simp only [List.mem_singleton] at ho
  rw [ho]
  exact originMayBe_fresh c.name

/-- the refinement only REMOVES pairs from the type-only rule `heapHitsByType` -/
theorem heapHits_sub_byType (H : HeapFacts) (p : String × Cell) (hp : p ∈ heapHits H) : p ∈ heapHitsByType H := by
  unfold heapHits at hp
  unfold heapHitsByType
  obtain ⟨w, hw, hwp⟩ := List.mem_flatMap.mp hp
  obtain ⟨c, hc, hcp⟩ := List.mem_map.mp hwp
  obtain ⟨hcm, hcf⟩ := List.mem_filter.mp hc
  refine List.mem_flatMap.mpr ⟨w, hw, List.mem_map.mpr ⟨c, List.mem_filter.mpr ⟨hcm, ?_⟩, hcp⟩⟩
  simp only [Bool.and_eq_true] at hcf ⊢
  exact hcf.1

/-- if every type-matched pair is a hidden cell of the write-site facts and the hidden cells contain no package-level
    variable, there is no type-matched pair at all (the link between the two fact lists) -/
theorem heapHits_nil_of_listed (F : Facts) (H : HeapFacts)
    (hl : ∀ p ∈ heapHits H, p ∈ hidden F) (hg : ∀ p ∈ hidden F, ∀ g q, p.2 ≠ Cell.global g q) : heapHits H = [] := by
  cases hh : heapHits H with
  | nil => rfl
  | cons p ps =>
    exfalso
    have hp : p ∈ heapHits H := by rw [hh]; exact List.mem_cons_self
    obtain ⟨w, _, hw⟩ := List.mem_flatMap.mp hp
    obtain ⟨c, _, hc⟩ := List.mem_map.mp hw
    exact hg p (hl p hp) c.name w.path (by rw [← hc])

/-- only a site whose root is a captured variable can write a closure-captured cell -/
theorem siteCells_captured_root (F : Facts) (i : Inst) (s : WriteSite) (k : Nat) (o v : String) (p : List String)
    (h : Cell.captured k o v p ∈ siteCells F i s) : s.root.isCaptured = true := by
  cases hr : s.root with
  | captured o' v' d => rfl
  | global g => simp [siteCells, hr] at h
  | recv t => simp only [siteCells, hr] at h; exact (typedCells_plain F i s _ _ h).elim
  | param n t => simp only [siteCells, hr] at h; exact (typedCells_plain F i s _ _ h).elim
  | fresh t => simp only [siteCells, hr] at h; exact (typedCells_plain F i s _ _ h).elim
  | via b m =>
    simp only [siteCells, hr] at h
    split at h
    · exact (fieldCells_plain F i s _ _ _ h).elim
    · simp at h

/-- **handler factories build their per-request data per request (history level)**: if no returned closure writes a
    variable of the function that made it (`closureSites F = []`), then after ANY program — any number of requests through
    any handlers made by any factory, on any instances, in any order — every closure-captured cell of every factory value
    has the value it had before. -/
theorem closure_cells_of_run (F : Facts) (hc : closureSites F = []) (prog : List Step) (m m' : Mem) (h : RunRel F prog m m')
    (k : Nat) (o v : String) (p : List String) : m' (.captured k o v p) = m (.captured k o v p) := by
  induction h with
  | nil => rfl
  | cons hstep _ ih =>
    rw [ih]
    apply hstep
    intro hmem
    obtain ⟨s, hs, _, hcell⟩ := stepCells_site hmem
    have : (s.fn, s.lhs) ∈ closureSites F :=
      List.mem_map.mpr ⟨s, List.mem_filter.mpr ⟨hs, siteCells_captured_root F _ s k o v p hcell⟩, rfl⟩
    rw [hc] at this
    exact absurd this List.not_mem_nil

/-! ## the regenerated facts -/

/-- **no package-level cell is reachable from a value that a handler writes**: no write into an object that the writer did
    not create (error values found with errors.As / `oidc.DefaultToServerError`, receivers and parameters of the mutator
    methods, call results) may hit a package-level POINTER variable of its pointee type (`writeMayHit`).  The facts `heapFMut`,
    `heapFParam`, `heapFUnfixed` below (one shared `*oidc.Error` returned by `ValidateAuthReqScopes` and a mutator call on it, or
    `e.State = …` in `AuthRequestError`) break this. -/
theorem c20_no_shared_cell_reachable_from_written_value : heapHits Gen.heapFacts = [] := by
  rw [heapHits_eq]; decide +kernel

/-- the same, spelled out for every pair -/
theorem c20_written_values_miss_pointer_cells (w : ForeignWrite) (hw : w ∈ Gen.foreignWrites) (c : SharedCell) (hc : c ∈ Gen.sharedCells)
    (hp : c.kind = "ptr") (ht : c.ty ≠ "") (hm : writeMayHit Gen.heapFacts w c = true) : c.ty ≠ w.ty :=
  no_hit_of_heapHits_nil Gen.heapFacts c20_no_shared_cell_reachable_from_written_value w hw c hc hp ht hm

/-- every pair of `heapHits` is a hidden cell of the write-site facts (factgen adds the pairs to `Gen.writeSites` as `.global`
    sites).  On this tree `heapHits Gen.heapFacts = []`, so this holds vacuously. -/
theorem c20_heap_hits_listed : (heapHits Gen.heapFacts).all (fun h => (hidden Gen.facts).contains h) = true := by
  rw [c20_no_shared_cell_reachable_from_written_value]; rfl

/-- the audit of the results that are a package-level cell, both parts read off one evaluation of `handedOutAudit` -/
theorem handed_out_audit :
    ((handedOutAudit Gen.heapFacts).filter fun h => Gen.heapFacts.kindOf h.2 == "ptr") = [] ∧
    sameSet (dedup (handedOutAudit Gen.heapFacts)) knownHandedOut = true := by decide +kernel

/-- no function of the library hands out a package-level POINTER cell (a default object) as a result — other than a pointer to
    a SENTINEL type (`*oidc.Error`: `var errX = oidc.ErrY().WithDescription(…)` … `return errX`, the standard Go idiom), whose
    objects nobody writes except through the tracked mutator methods (`c20_error_type_is_sentinel`) -/
theorem c20_no_pointer_cell_handed_out :
    ((handedOutAudit Gen.heapFacts).filter fun h => Gen.heapFacts.kindOf h.2 == "ptr") = [] := handed_out_audit.1

/-- the package-level slices / maps that ARE handed out as results are exactly the audited ones … -/
theorem c20_handed_out_exact : sameSet (dedup (handedOutAudit Gen.heapFacts)) knownHandedOut = true := handed_out_audit.2

/-- … and no write site of the library targets any of them (nor any other package-level variable: `no_global_root`) -/
theorem c20_handed_out_cells_never_written :
    (handedOutWritable Gen.heapFacts).all (fun h => !(Gen.facts.sites.any fun s => s.root == .global h.2)) = true := by
  simp only [List.all_eq_true, Bool.not_eq_true', List.any_eq_false, beq_iff_eq]
  exact fun h _ s hs => no_global_root hs h.2

/-- every write into an `oidc.Error` that the writer did not create is the receiver write of a tracked mutator method
    (the three of `c20_error_mutators_exact`) -/
theorem c20_error_mutators_tracked :
    (Gen.foreignWrites.filter fun w => w.ty == "oidc.Error").all (fun w => (Gen.heapFacts.mutatorOf w).isSome) = true := by decide +kernel

/-- **handed-in errors are never written**: no function of the library assigns to a field of an `*oidc.Error` that it was handed —
    as a parameter, or found with errors.As in the chain of an error it was handed (`oidc.DefaultToServerError`,
    `op.AuthRequestError`, `op.TryErrorRedirect`, `op.RequestError`, `op.WriteError` …).  A storage / validator may return one
    shared `*oidc.Error` value (a sentinel error) for every request.  False on `heapFUnfixed` below (`e.State = …`,
    `e.SessionState = …` in AuthRequestError / TryErrorRedirect). -/
theorem c20_handed_in_errors_never_written :
    (Gen.foreignWrites.filter fun w => w.ty == "oidc.Error" && w.via != "recv") = [] := by
  rw [List.filter_eq_nil_iff]
  intro w hw hp
  simp only [Bool.and_eq_true, beq_iff_eq, bne_iff_ne, ne_eq] at hp
  -- a tracked write is a receiver write
  have := List.all_eq_true.mp c20_error_mutators_tracked w (List.mem_filter.mpr ⟨hw, by simp [hp.1]⟩)
  simp [HeapFacts.mutatorOf, hp.2] at this

/-- the same for every object type: what is written through a parameter / an errors.As target never has the type `oidc.Error` -/
theorem c20_no_error_write_through_parameter (w : ForeignWrite) (hw : w ∈ Gen.foreignWrites) (hv : Go.hasPrefix w.via "param:" = true) :
    w.ty ≠ "oidc.Error" := by
  intro ht
  have h : w ∈ (Gen.foreignWrites.filter fun w => w.ty == "oidc.Error" && w.via != "recv") := by
    refine List.mem_filter.mpr ⟨hw, ?_⟩
    have hne : w.via ≠ "recv" := by
      intro e; rw [e] at hv; revert hv; decide
    simp [ht, hne]
  rw [c20_handed_in_errors_never_written] at h
  exact absurd h (List.not_mem_nil)

/-- the only writes into an `oidc.Error` that the writer did not create are the receiver writes of its three mutator methods … -/
theorem c20_error_mutators_exact :
    sameSet ((Gen.foreignWrites.filter fun w => w.ty == "oidc.Error").map fun w => (w.fn, w.lhs)) knownErrorMutators = true := by decide +kernel

/-- … and every call of a mutator method in the library has a receiver that the calling expression / function made itself
    (`oidc.ErrInvalidRequest().WithDescription(…)`): never an error value that was handed in, found with errors.As, or package-level -/
theorem c20_error_mutators_called_on_fresh_values :
    Gen.errorMutatorCalls.all (fun c => c.2.2.2 == ["fresh"]) = true := by decide +kernel

/-- `oidc.Error` is a sentinel type: every write into an `oidc.Error` that the writer did not create is the receiver write of a tracked
    mutator method (with `c20_handed_in_errors_never_written`: nothing is written through a parameter / errors.As target) -/
theorem c20_error_type_is_sentinel : Gen.heapFacts.sentinelType "oidc.Error" = true := by
  simp only [HeapFacts.sentinelType, Bool.and_eq_true, List.all_eq_true, Bool.or_eq_true, bne_iff_ne, ne_eq]
  refine ⟨by decide, fun w hw => ?_⟩
  by_cases h : w.ty = "oidc.Error"
  · exact Or.inr (List.all_eq_true.mp c20_error_mutators_tracked w (List.mem_filter.mpr ⟨hw, by simp [h]⟩))
  · exact Or.inl h

/-- **package-level sentinel errors are never written after initialisation** (the refined may-alias theorem): the receiver
    write of every tracked mutator method misses EVERY package-level cell — any `SharedCell` at all, also one that a later change adds
    (`var ErrLogin = oidc.ErrLoginRequired().WithDescription(…)`) — because every call of such a method after package initialisation
    is made on a value the calling expression / function made itself.  A package-level error cell is written iff a mutator is called
    on it (`mutator_hit_needs_call`) or a field of it is assigned (a `.global` write site: `hidden_exact`). -/
theorem c20_mutator_writes_miss_every_cell (w : ForeignWrite) (m : String) (hm : Gen.heapFacts.mutatorOf w = some m) (c : SharedCell) :
    writeMayHit Gen.heapFacts w c = false :=
  fresh_calls_hit_nothing Gen.heapFacts c20_error_mutators_called_on_fresh_values w c m hm

/-- **every handler factory builds its per-request data per request**: no closure returned by any function of the library
    assigns, appends to or writes an element of a variable of the function that made it (nor of a local that aliases one:
    `opts := urlOpts; opts = append(opts, …)`).  Seeded change C20-H breaks this. -/
theorem c20_factories_build_per_request : closureSites Gen.facts = [] := by decide +kernel

/-- … hence for EVERY program no closure-captured cell of any factory value changes (no hypothesis on who holds the value) -/
theorem c20_closure_state_unchanged (prog : List Step) (m m' : Mem) (h : RunRel Gen.facts prog m m')
    (k : Nat) (o v : String) (p : List String) : m' (.captured k o v p) = m (.captured k o v p) :=
  closure_cells_of_run Gen.facts c20_factories_build_per_request prog m m' h k o v p

/-- named instance of `c20_package_defaults_unchanged` for the sentinel idiom: for EVERY program — any constructions,
    any number of refused / failing requests answered with a package-level error value, on any providers, in any order — every
    package-level cell (in particular every package-level `*oidc.Error`, whichever a later change adds) holds afterwards what it
    held before.  It keeps holding on a tree with sentinel errors because the refined may-alias rule adds no write site for them. -/
theorem c20_sentinel_errors_unchanged (prog : List Step) (m m' : Mem) (h : RunRel Gen.facts prog m m')
    (c : SharedCell) (p : List String) : m' (.global c.name p) = m (.global c.name p) :=
  c20_package_defaults_unchanged prog m m' h c.name p

/-- **the client-side helpers hold only read-only configuration after construction**: no method of, and no function
    working on, a resource server (`rs.resourceServer`), a token exchanger (`tokenexchange.OAuthTokenExchange`) or a JWT profile token
    source (`profile.jwtProfileTokenSource`) writes any field of it once the constructor has returned — no lazily initialised field
    (token endpoint discovered on first use, signer created on demand), nothing to race on when one instance serves many goroutines.
    The `*http.Client` they are handed is covered by `c20_supplied_objects_unchanged` (it is aliased, never written). -/
theorem c20_client_helpers_read_only :
    (Gen.facts.sites.filter fun s => apiPhase s &&
      (siteTy s == "rs.resourceServer" || siteTy s == "tokenexchange.OAuthTokenExchange" || siteTy s == "profile.jwtProfileTokenSource")) = [] := by
  decide +kernel

/-- the three helper types are in the facts: constructors, option writes, the alias of the handed-in HTTP client -/
theorem c20_client_helpers_in_footprint :
    (["rs.resourceServer", "tokenexchange.OAuthTokenExchange", "profile.jwtProfileTokenSource"].all fun t =>
      (Gen.facts.ctors.any fun c => c.ty == t) && (Gen.facts.sites.any fun s => siteTy s == t && s.phase == .option) &&
      (Gen.facts.aliases.any fun a => a.ty == t && a.src == .param "client" "http.Client")) = true := by decide +kernel

/-- the extraction sees the handler factories, the error-answer writes, the shared cells -/
example : "rp.AuthURLHandler" ∈ Gen.closureFactories ∧ "rp.CodeExchangeHandler" ∈ Gen.closureFactories ∧
          "op.authorizeHandler" ∈ Gen.closureFactories ∧ "op.tokenHandler" ∈ Gen.closureFactories := by decide +kernel
example : (Gen.foreignWrites.any fun w => w.fn == "oidc.Error.WithDescription" && w.lhs == "e.Description" && w.ty == "oidc.Error") = true := by decide +kernel
example : (Gen.errorMutatorCalls.any fun c => c.1 == "op.ValidateAuthReqIDTokenHint" && c.2.2.1 == "WithParent") = true := by decide +kernel
/-- the extraction sees a write through an errors.As target (the statement is not vacuous): `rp.…` / `op.…` functions that complete
    an object found in an error chain would be listed with `via := "param:…"` -/
example : (Gen.foreignWrites.any fun w => Go.hasPrefix w.via "param:") = true := by decide +kernel
example : ({ name := "op.DefaultEndpoints", kind := "ptr", ty := "op.Endpoints" } : SharedCell) ∈ Gen.sharedCells := by decide +kernel

/-- one package-level `*oidc.Error`, handed out by `op.ValidateAuthReqScopes` -/
def heapF : HeapFacts :=
  { Gen.heapFacts with cells := { name := "op.errAuthReqScopesMissing", kind := "ptr", ty := "oidc.Error" } :: Gen.sharedCells,
                       handsOut := ("op.ValidateAuthReqScopes", 1, "op.errAuthReqScopesMissing") :: Gen.handsOut }

/-- nothing writes into such a value: the error-answer functions complete a copy, and the mutator methods are only ever called
    on fresh values — the refined rule finds NO hit where the type-only rule `heapHitsByType` does -/
example : heapHits heapF = [] := by rw [heapHits_eq]; decide +kernel
example : ("oidc.Error.WithDescription", Cell.global "op.errAuthReqScopesMissing" ["Description"]) ∈ heapHitsByType heapF := by decide +kernel
example : heapF.sentinelType "oidc.Error" = true ∧ handedOutAudit heapF = handedOutAudit Gen.heapFacts ∧
          ("op.ValidateAuthReqScopes", "op.errAuthReqScopesMissing") ∈ handedOutWritable heapF :=
  ⟨c20_error_type_is_sentinel,
   handedOutAudit_cons_sentinel Gen.heapFacts _ _ rfl c20_error_type_is_sentinel rfl (by decide +kernel), by decide +kernel⟩
/-- a mutator called on the package-level value at request time (`errAuthReqScopesMissing.WithDescription(fmt.Sprintf(…))` inside the
    handler) IS a hit — on that cell and on no other -/
def heapFMut : HeapFacts :=
  { heapF with cells := { name := "op.ErrOther", kind := "ptr", ty := "oidc.Error" } :: heapF.cells,
               mutCalls := ("op.ValidateAuthReqScopes", 283, "WithDescription", ["global:op.errAuthReqScopesMissing"]) :: heapF.mutCalls }
example : ("oidc.Error.WithDescription", Cell.global "op.errAuthReqScopesMissing" ["Description"]) ∈ heapHits heapFMut ∧
          (heapHits heapFMut).all (fun h => h.1 == "oidc.Error.WithDescription" && h.2 == Cell.global "op.errAuthReqScopesMissing" ["Description"]) = true := by
  rw [heapHits_eq]; decide +kernel
/-- a mutator called on an error the function was HANDED (`op.RequestError` calling `e.WithDescription(…)` on the error found with
    errors.As) may hit every package-level error value -/
def heapFParam : HeapFacts :=
  { heapFMut with mutCalls := ("op.RequestError", 74, "WithParent", ["param:2"]) :: heapF.mutCalls }
example : ("oidc.Error.WithParent", Cell.global "op.ErrOther" ["Parent"]) ∈ heapHits heapFParam ∧
          ("oidc.Error.WithParent", Cell.global "op.errAuthReqScopesMissing" ["Parent"]) ∈ heapHits heapFParam ∧
          (heapHits heapFParam).all (fun h => h.1 == "oidc.Error.WithParent") = true := by
  rw [heapHits_eq]; decide +kernel
/-- `AuthRequestError` / `TryErrorRedirect` assigning State / SessionState through the error they were handed (instead of
    completing a copy) -/
def heapFUnfixed : HeapFacts :=
  { heapF with writes :=
      { file := "pkg/op/error.go", fn := "op.AuthRequestError", line := 48, lhs := "e.State", via := "param:3", ty := "oidc.Error", path := ["State"], op := .assign } ::
      { file := "pkg/op/error.go", fn := "op.TryErrorRedirect", line := 106, lhs := "e.SessionState", via := "param:2", ty := "oidc.Error", path := ["SessionState"], op := .assign } ::
      heapF.writes }
example : ("op.AuthRequestError", Cell.global "op.errAuthReqScopesMissing" ["State"]) ∈ heapHits heapFUnfixed := by decide +kernel
example : ("op.TryErrorRedirect", Cell.global "op.errAuthReqScopesMissing" ["SessionState"]) ∈ heapHits heapFUnfixed := by decide +kernel
/-- … `oidc.Error` is then no sentinel type and the function that hands the value out is up for audit -/
example : heapFUnfixed.sentinelType "oidc.Error" = false ∧
          ("op.ValidateAuthReqScopes", "op.errAuthReqScopesMissing") ∈ handedOutAudit heapFUnfixed := by decide +kernel
example : (heapF.handsOut.filter fun h => heapF.kindOf h.2.2 == "ptr") ≠ [] := by decide +kernel

/-- seeded change C20-H in the facts: the returned closure appends to (an alias of) the factory's slice -/
def siteH : WriteSite :=
  { file := "pkg/client/rp/relying_party.go", fn := "rp.AuthURLHandler$ret", meth := "AuthURLHandler", line := 429, lhs := "opts",
    root := .captured "rp.AuthURLHandler" "urlOpts" 0, path := ["[]"], op := .append, phase := .func, guard := .none }
def factsH : Facts :=
  { Gen.facts with sites := Gen.facts.sites ++ [siteH],
                   reach := [("rp.AuthURLHandler$ret", ["rp.AuthURLHandler$ret"]), ("rp.AuthURLHandler", ["rp.AuthURLHandler"])] ++ Gen.facts.reach }
def rpPKCE : Inst := { id := 1, ty := "rp.relyingParty", entry := "rp.NewRelyingPartyOAuth", opts := ["rp.WithPKCE"] }

example : closureSites factsH = [("rp.AuthURLHandler$ret", "opts")] := by decide +kernel
example : ("rp.AuthURLHandler$ret", "opts") ∈ undisciplinedSites factsH := by decide +kernel
/-- two requests through one handler may race on the factory's slice -/
example : mayRace (factsH.drop knownUnsync auditedReads) [⟨.call, "rp.AuthURLHandler$ret", rpPKCE⟩] = true := by decide +kernel
example : mayRace rest [⟨.call, "rp.AuthURLHandler$ret", rpPKCE⟩, ⟨.call, "rp.CodeExchangeHandler$ret", rpPKCE⟩] = false :=
  mayRace_of_disciplined rest rest_disciplined _

end C20
