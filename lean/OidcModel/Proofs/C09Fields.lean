/-
  C09 — the field contract (kind W, fourth part): a function that is handed a result struct and dereferences one of its
  nil-able fields without a nil test only ever sees values in which that field is set.

  `field_contract` (`decide` over the regenerated return statements, consumers and call-throughs), `c09_field_consumers_total`
  (its reading: for every consumer, every producer that can reach it, every value that producer hands back on the paths
  the consumer sees), `c09_rp_handlers_no_nil_field` (what the driver predicts for the relying party's redirect handlers).
  Relaxing a producer — returning the struct with a nil error where it used to return an error (seeded C09-H) — adds a
  value without the field to `resolve`, and `field_contract` stops checking.
-/
import OidcModel.Model.C09Tie

namespace C09

/-- decided on the regenerated facts: no consumer is reached by a value that lacks the field it dereferences -/
theorem field_contract :
    (GenC09.fieldConsumers.all fun c => !consumerBroken GenC09.fieldReturns GenC09.callThroughs c) = true := by decide +kernel

/-- **C09 (field contract)**: for every selection `v.F.x` (or `v.P` promoted through an embedded pointer `F`) in the
    library that is not preceded by a nil test of `v.F`, every producer whose result can be that `v` — directly, or
    through a callback of a named func type — and every struct value the producer can hand back on the paths the
    consumer sees (with a nil error; with any error where the error is not checked or is discarded): the field is set,
    or the value is built under an audited configuration condition (`rp.IsOAuth2Only()`) -/
theorem c09_field_consumers_total :
    ∀ c ∈ GenC09.fieldConsumers, c.guarded = false →
      ∀ src ∈ consumerSources GenC09.callThroughs c, ∀ v ∈ resolve GenC09.fieldReturns fieldFuel src.1 src.2,
        c.field ∈ v.sets ∨ v.exempt = true := by
  intro c hc hg src hsrc v hv
  have h := List.all_eq_true.mp field_contract c hc
  simp only [consumerBroken, Bool.not_not, List.isEmpty_iff] at h
  by_cases hin : c.field ∈ v.sets
  · exact Or.inl hin
  · right
    cases hex : v.exempt
    · exfalso
      have hmem : v ∈ consumerWitnesses GenC09.fieldReturns GenC09.callThroughs c := by
        unfold consumerWitnesses
        simp only [hg, Bool.false_eq_true, if_false]
        refine List.mem_flatMap.mpr ⟨src, hsrc, ?_⟩
        refine List.mem_filter.mpr ⟨hv, ?_⟩
        simp [hin, hex]
      rw [h] at hmem
      exact List.not_mem_nil hmem
    · rfl

/-- the redirect handlers of the relying party never dereference an unset field of the tokens they are handed -/
theorem c09_rp_handlers_no_nil_field (handler : String) :
    handlerMayPanic GenC09.fieldReturns GenC09.callThroughs GenC09.fieldConsumers handler = false := by
  unfold handlerMayPanic
  split
  · rename_i fn _
    rw [List.any_eq_false]
    intro c hc
    have := List.all_eq_true.mp field_contract c hc
    simp only [Bool.not_eq_true'] at this
    simp [this]
  · rfl

/-! ### nil guards of pointer parameters -/

/-- the pointer parameters / receivers that the audited tree tests for nil before selecting through them: callers rely on
    it (`LegacyServer.CodeExchange` hands `VerifyCodeChallenge` the challenge of an auth request that may have none;
    `createDiscoveryConfigV2` calls `Absolute` on endpoints that may be unset) -/
def auditedNilGuards : List (String × String) :=
  [("oidc.Locale.Tag", "l"), ("oidc.VerifyCodeChallenge", "c"), ("op.Endpoint.Absolute", "e"), ("op.Endpoint.Relative", "e"), ("op.Endpoint.Validate", "e")]

/-- every audited nil guard is still in the regenerated source (guards may be added, not lost) -/
theorem nil_guards_kept : (auditedNilGuards.all GenC09.nilGuardedParams.contains) = true := by decide +kernel


/-- the consumer is there: `UserinfoCallback` selects through `tokens.IDTokenClaims` without a nil test, its values come
    from the nil-error returns of `rp.CodeExchange` (through `CodeExchangeHandler`'s call of the callback) … -/
example : (GenC09.fieldConsumers.any fun c => c.fn == "rp.UserinfoCallback" && c.field == "IDTokenClaims" && !c.guarded &&
      consumerSources GenC09.callThroughs c == [("rp.CodeExchange", false)]) = true := by decide +kernel
/-- … which are: the OAuth2-only value (exempt) and the fully populated one -/
example : ((resolve GenC09.fieldReturns fieldFuel "rp.CodeExchange" false).any fun v => v.exempt && !v.sets.contains "IDTokenClaims") = true ∧
    ((resolve GenC09.fieldReturns fieldFuel "rp.CodeExchange" false).any fun v => !v.exempt && v.sets.contains "IDTokenClaims") = true := by decide +kernel
/-- `RefreshTokens` does hand back tokens without ID-token claims (documented); nothing in the library dereferences them -/
example : ((resolve GenC09.fieldReturns fieldFuel "rp.RefreshTokens" false).any fun v => !v.sets.contains "IDTokenClaims" && !v.exempt && !v.isNil) = true := by decide +kernel

/-- seeded C09-H: `CodeExchange` answers a missing id_token with the tokens and a nil error -/
def returnsRelaxed : List FieldReturn :=
  (GenC09.fieldReturns.filter fun r => r.fn != "rp.CodeExchange") ++
  [{ fn := "rp.CodeExchange", valueKind := "nil", sets := [], forward := "", errKind := "nonnil", launders := false, conds := ["err != nil"] },
   { fn := "rp.CodeExchange", valueKind := "forward", sets := [], forward := "rp.verifyTokenResponse", errKind := "nil", launders := true, conds := ["errors.Is(err, ErrMissingIDToken)"] },
   { fn := "rp.CodeExchange", valueKind := "forward", sets := [], forward := "rp.verifyTokenResponse", errKind := "same", launders := false, conds := [] }]
example : handlerMayPanic returnsRelaxed GenC09.callThroughs GenC09.fieldConsumers "CodeExchangeHandler+UserinfoCallback" = true := by decide +kernel
example : handlerMayPanic returnsRelaxed GenC09.callThroughs GenC09.fieldConsumers "CodeExchangeHandler+callback" = false := by decide +kernel
/-- a nil test in the consumer repairs it -/
example : (GenC09.fieldConsumers.all fun c => !consumerBroken returnsRelaxed GenC09.callThroughs { c with guarded := true }) = true := by decide +kernel

end C09
