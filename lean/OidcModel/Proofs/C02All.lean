/-
  C02: the proof module `./check C02` builds - every proof file of the slice.
  * Proofs/C02.lean          key selection, the key sets, CheckSignature and the four verifier functions
  * Proofs/C02Remote.lean    a long-lived remote key set under key rotation (sequential histories)
  * Proofs/C02Verifiers.lean derived verifiers at the token-consuming endpoints, reused verifier objects
  * Proofs/C02Provider.lean  `NewProvider` wires, for every option list, the key set / option list configured for EACH verifier
  * Proofs/C02JwksDoc.lean   the RP's parser of the downloaded JWKS document: every key of the set is go-jose's parse of ONE raw entry, its use the published one
-/
import OidcModel.Proofs.C02Remote
import OidcModel.Proofs.C02Verifiers
import OidcModel.Proofs.C02Provider
import OidcModel.Proofs.C02JwksDoc
