/-
  C06 proofs over the REGENERATED claim constructors (NewIDTokenClaims, NewAccessTokenClaims,
  AppendClientIDToAudience) composed with the C01 model of the library's own RP verifier
  (`c06_id_token_claims_verify`), and what the constructors put into single claims: exp - iat, an absent auth_time, aud / azp,
  the claims of a JWT access token, at_hash / c_hash computed with the function the RP checks them with (`c06_hash_binding`).
-/
import OidcModel.Generated.Claims
import OidcModel.Proofs.C01
import OidcModel.Spec.C06
namespace C06
open Go Gen Hand

theorem asTime_fromTime_bounds (t : Int) (h : second ≤ t) :
    asTime (fromTime t) ≤ t ∧ t < asTime (fromTime t) + second ∧ asTime (fromTime t) ≠ zeroTime := by
  unfold asTime fromTime tIsZero tToUnix tUnix zeroTime second at *
  have h0 : (t == -62135596800000000000) = false := by simp; omega
  simp only [h0, Bool.false_eq_true, if_false]
  have h1 : (t / 1000000000 == 0) = false := by simp; omega
  simp only [h1, Bool.false_eq_true, if_false]
  omega

theorem mem_appendClientID (now : Int) (cid : String) (aud : List String) : cid ∈ AppendClientIDToAudience now cid aud := by
  unfold AppendClientIDToAudience Go.any Go.append
  split
  · rename_i h
    simp only [List.any_eq_true, beq_iff_eq] at h
    obtain ⟨x, hx, rfl⟩ := h
    exact hx
  · simp

/-- C06 (issuance ∘ verification): the claims `NewIDTokenClaims` produces for a request with a non-empty client id and
    subject, issued at least skew + 1 s after the Unix epoch - whatever the audience, nonce, acr, amr, auth time, client clock
    skew ≥ 0 and lifetime - satisfy, with margin, every condition the library's own RP verifier (issuer = the request's issuer,
    this client, same nonce, default offset of one second) imposes, at every instant from issuance until 4 s before the lifetime
    ends -/
theorem c06_id_token_claims_verify (now now' : Int) (iss sub : String) (aud : List String) (authTime : Int) (nonce acr : String)
    (amr : List String) (cid : String) (skew validity : Int)
    (hcid : cid ≠ "") (hsub : sub ≠ "") (hskew : 0 ≤ skew) (hepoch : second ≤ now - skew)
    (hwin : now ≤ now' ∧ now' + 4 * second ≤ now + validity) :
    C01.idTokenOKMargin { Issuer := iss, ClientID := cid, Offset := second, Nonce := some nonce }
      (NewIDTokenClaims now iss sub aud (now + skew + validity) authTime nonce acr amr cid skew).TokenClaims.toClaims now' = true := by
  have hexp := asTime_fromTime_bounds (now + skew + validity) (by unfold second at *; omega)
  have hiat := asTime_fromTime_bounds (now + -skew) (by simpa [Int.sub_eq_add_neg] using hepoch)
  simp only [C01.idTokenOKMargin, C01.clauses, NewIDTokenClaims, TokenClaimsGo.toClaims, tAdd, List.all_cons, List.all_nil,
    Bool.and_true, Bool.and_eq_true, decide_eq_true_eq, Bool.or_eq_true, beq_iff_eq, bne_iff_ne, ne_eq, C01.ns, C01.nonceOK, C01.acrOK]
  unfold second at *
  refine ⟨trivial, hsub, by simpa using mem_appendClientID now cid aud, Or.inr trivial, Or.inr hcid, ?_, hiat.2.2, ?_, Or.inl trivial, trivial, trivial, Or.inl trivial⟩
  · exact decide_eq_true (by omega)
  · exact decide_eq_true (by omega)

/-- exp and iat bracket the configured lifetime widened by the skew on both sides (up to whole-second truncation) -/
theorem c06_exp_iat_bracket (now : Int) (iss sub : String) (aud : List String) (authTime : Int) (nonce acr : String)
    (amr : List String) (cid : String) (skew validity : Int) (hskew : 0 ≤ skew) (hval : 0 ≤ validity) (hepoch : second ≤ now - skew) :
    let c := (NewIDTokenClaims now iss sub aud (now + skew + validity) authTime nonce acr amr cid skew).TokenClaims.toClaims
    validity + 2 * skew - second < asTime c.exp - asTime c.iat ∧ asTime c.exp - asTime c.iat < validity + 2 * skew + second := by
  have hexp := asTime_fromTime_bounds (now + skew + validity) (by unfold second at *; omega)
  have hiat := asTime_fromTime_bounds (now + -skew) (by simpa [Int.sub_eq_add_neg] using hepoch)
  simp only [NewIDTokenClaims, TokenClaimsGo.toClaims, tAdd]
  unfold second at *
  omega

/-- an absent authentication time stays absent whatever the skew -/
theorem c06_absent_auth_time_stays_absent (now : Int) (iss sub : String) (aud : List String) (nonce acr : String) (amr : List String)
    (cid : String) (skew exp : Int) :
    (NewIDTokenClaims now iss sub aud exp zeroTime nonce acr amr cid skew).TokenClaims.AuthTime = 0 := by
  simp [NewIDTokenClaims, tIsZero, fromTime]

/-- the client is always in the audience and is the authorized party -/
theorem c06_audience_azp (now : Int) (iss sub : String) (aud : List String) (exp authTime : Int) (nonce acr : String) (amr : List String)
    (cid : String) (skew : Int) :
    let c := (NewIDTokenClaims now iss sub aud exp authTime nonce acr amr cid skew).TokenClaims
    cid ∈ c.Audience ∧ c.AuthorizedParty = cid ∧ c.Subject = sub ∧ c.Nonce = nonce ∧ c.Issuer = iss ∧ c.AuthenticationMethodsReferences = amr := by
  simp [NewIDTokenClaims, mem_appendClientID]

/-- JWT access tokens: issuer, subject, id, client and a non-empty audience -/
theorem c06_access_token_claims (now : Int) (iss sub : String) (aud : List String) (exp : Int) (jti cid : String) (skew : Int) :
    let c := (NewAccessTokenClaims now iss sub aud exp jti cid skew).TokenClaims
    c.Issuer = iss ∧ c.Subject = sub ∧ c.JWTID = jti ∧ c.ClientID = cid ∧ c.Audience ≠ [] ∧ (aud ≠ [] → c.Audience = aud) := by
  simp only [NewAccessTokenClaims, Go.len, HasLen.len, Go.append]
  refine ⟨trivial, trivial, trivial, trivial, ?_, ?_⟩
  · cases aud with
    | nil => simp
    | cons a as => simp; split <;> simp
  · intro h; cases aud with
    | nil => simp at h
    | cons a as => simp; omega

/-- at_hash / c_hash: the provider computes them with the very function the RP checks them with, so a hash the
    provider could compute for the delivered access token (code) is accepted by the RP - for every algorithm
    in the table and every token string -/
theorem c06_hash_binding (now : Int) (tok alg h : String) (hc : ClaimHash now tok alg = .ok h) :
    RPVerifyAccessToken now tok h alg = .ok () := by
  unfold RPVerifyAccessToken
  simp [hc, Go.ok]

example : C01.idTokenOKMargin { Issuer := "https://op", ClientID := "rp", Offset := second, Nonce := some "n" }
    (NewIDTokenClaims (2000000000 * second) "https://op" "u1" ["api"] (2000003605 * second) (1999999000 * second) "n" "" ["pwd"] "rp" (5 * second)).TokenClaims.toClaims
    (2000000100 * second) = true := by decide +kernel

end C06
