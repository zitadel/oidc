/-
  C11, part 2b: the page rendered from a well-formed form_post template has NO character data outside its tags
  (`pageText … = []`): nothing before the document, nothing after it, no value that ends up as text.
-/
import OidcModel.Proofs.C11Html

namespace C11
open UA

theorem strayText_append (st : TState) (a b : Bytes) :
    strayText st (a ++ b) = strayText st a ++ strayText (run st a) b := by
  induction a generalizing st with
  | nil => rfl
  | cons c a ih => simp only [List.cons_append, strayText, run_cons, ih, List.append_assoc]

/-- the tokenizer's next mode depends on its mode and the byte only -/
theorem step_mode (st : TState) (c : UInt8) : (step st c).mode = (step { mode := st.mode } c).mode := by
  obtain ⟨mode, name, attrs, an, av, out⟩ := st
  cases mode <;> simp only [step, TState.emit, TState.pushAttr, apply_ite TState.mode]

theorem strayText_mode (st : TState) (x : Bytes) : strayText st x = strayText { mode := st.mode } x := by
  induction x generalizing st with
  | nil => rfl
  | cons c x ih =>
    show (if st.mode == .data && c != 0x3C && !isSpace c then [c] else []) ++ strayText (step st c) x
      = (if st.mode == .data && c != 0x3C && !isSpace c then [c] else []) ++ strayText (step { mode := st.mode } c) x
    rw [ih (step st c), ih (step { mode := st.mode } c), step_mode st c]

theorem strayText_valueDQ (st : TState) (hs : st.mode = .valueDQ) (x : Bytes) (hx : ∀ b ∈ x, b ≠ 0x22) :
    strayText st x = [] := by
  induction x generalizing st with
  | nil => rfl
  | cons c x ih =>
    have htail := ih { st with av := c :: st.av } hs (fun b hb => hx b (by simp [hb]))
    simp only [strayText, step_valueDQ st hs c (hx c (by simp)), htail]
    simp [hs]

/-- the template's literal text has no character data outside tags (decidable, evaluated on the regenerated template) -/
def restTextOK : List AR.Node → Bool
  | [] => true
  | .text t :: rest => (strayText {} t == []) && restTextOK rest
  | .withParam _ pre post :: rest => (strayText {} pre == []) && (strayText { mode := .valueDQ } post == []) && restTextOK rest
  | .redirectURI :: _ => false

def templateTextOK (tmpl : List AR.Node) : Bool :=
  match tmpl with
  | .text t0 :: .redirectURI :: .text t1 :: rest =>
    (strayText {} t0 == []) && (strayText { mode := .valueDQ } t1 == []) && restTextOK rest
  | _ => false

theorem strayText_rest (uri : Bytes) (params : AR.Values) (rest : List AR.Node) (h : restOK rest = true)
    (ht : restTextOK rest = true) (o : List Tag) :
    strayText (addOut {} o) (rest.flatMap (AR.renderNode true uri params)) = [] := by
  induction rest generalizing o with
  | nil => rfl
  | cons n rest ih =>
    cases n with
    | text t =>
      simp only [restOK, Bool.and_eq_true, beq_iff_eq] at h
      simp only [restTextOK, Bool.and_eq_true, beq_iff_eq] at ht
      have e1 : strayText (addOut {} o) t = [] := by rw [strayText_mode]; exact ht.1
      rw [List.flatMap_cons, strayText_append]
      show strayText (addOut {} o) t ++ strayText (run (addOut {} o) t) _ = []
      rw [e1, run_addOut, h.1.1, ih h.2 ht.2]
      rfl
    | redirectURI => simp [restOK] at h
    | withParam name pre post =>
      simp only [restOK, Bool.and_eq_true, beq_iff_eq] at h
      simp only [restTextOK, Bool.and_eq_true, beq_iff_eq] at ht
      obtain ⟨⟨⟨⟨h1, h2⟩, _⟩, _⟩, h5⟩ := h
      obtain ⟨⟨t1, t2⟩, t3⟩ := ht
      rw [List.flatMap_cons]
      simp only [AR.renderNode]
      cases hg : params.get name with
      | nil => simpa using ih h5 t3 o
      | cons v vs =>
        simp only [if_true]
        have e1 : strayText (addOut {} o) pre = [] := by rw [strayText_mode]; exact t1
        have e2 : strayText (addOut (inputOpen name) o) (AR.attrEscape v) = [] :=
          strayText_valueDQ _ rfl _ (attrEscape_noquote v)
        have e3 : strayText (addOut { inputOpen name with av := (AR.attrEscape v).reverse } o) post = [] := by
          rw [strayText_mode]; exact t2
        simp only [strayText_append, run_append]
        rw [e1, run_addOut, h1, e2, run_inputValue name _ (attrEscape_noquote v), e3, run_closeInput name _ post h2 o, ih h5 t3]
        rfl

/-- **the page rendered from a well-formed template has no character data outside its tags**, whatever the redirect URI and
    the parameter values are (values without CR) -/
theorem pageText_render (tmpl : List AR.Node) (h : templateOK tmpl = true) (ht : templateTextOK tmpl = true)
    (uri : Bytes) (params : AR.Values) (hv : ∀ name, ∀ v ∈ params.get name, ∀ c ∈ v, c ≠ 0x0D) :
    pageText (AR.render true tmpl uri params) = [] := by
  have hnocr := noCR_render tmpl h uri params hv
  obtain ⟨t0, t1, rest, rfl, h0, h1, h1', _, _, hr⟩ := templateOK_cases tmpl h
  simp only [templateTextOK, Bool.and_eq_true, beq_iff_eq] at ht
  obtain ⟨⟨x0, x1⟩, xr⟩ := ht
  have hq := attrEscape_noquote (AR.urlNormalize (AR.urlFilter uri))
  -- `t1` is scanned from inside the action's value: `">` first, which is no text in any mode that is not `data`
  have x1' : strayText (run formOpen (AR.attrEscape (AR.urlNormalize (AR.urlFilter uri)))) t1 = [] := by
    rw [strayText_mode, run_valueDQ formOpen rfl _ hq]; exact x1
  have ht1 : t1 = [0x22, 0x3E] ++ t1.drop 2 := by rw [← h1, List.take_append_drop]
  rw [ht1, strayText_append, ← run_append, List.append_eq_nil_iff] at x1'
  unfold pageText normalizeNewlines
  rw [normalizeNL_id _ hnocr, render_eq t0 t1 rest h1, strayText_append, x0, h0, strayText_append, strayText_append,
    strayText_valueDQ formOpen rfl _ hq, x1'.1, strayText_append, x1'.2, run_formValue _ hq, run_addOut, h1',
    strayText_rest uri params rest hr xr]
  rfl

end C11
