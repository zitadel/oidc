/-
  C10 — non-vacuity examples that PIN THE SHAPE of regenerated trees: concrete executions of the regenerated handlers along a
  script of choices (`execFn`, sound by `exec_sound`).  They are kept outside Proofs/C10.lean (the module `./check C10` audits):
  a harmless rewrite of the Go code (extract function, another call order) changes the script that reaches a given path and
  would otherwise be reported as a broken proof.  Built with the root module (`lake build OidcModel`).
-/
import OidcModel.Proofs.C10

namespace C10
open C10.Flow

/-- `/keys` with a failing KeySet (a timeout): the failure is followed by the error responder and nothing else -/
example : execFn GenC10.fns audit "Keys" [.fail .deadline] =
    some ([.sfail (GenC10.fns.findIdx (·.name == "Keys")) 0 .deadline, .resp "httphelper.MarshalJSONWithStatus"], .nil) := by decide +kernel

/-- … and without a fault it builds the key set -/
example : (execFn GenC10.fns audit "Keys" [.ok]).map (fun r => r.1.map Ev.isSucc) = some [false, true] := by decide +kernel

/-- the token endpoint, authorization_code grant: AuthRequestByCode fails three functions below the handler
    (CodeExchange → ValidateAccessTokenRequest → AuthorizeCodeClient → AuthRequestByCode); the error travels up and is answered -/
example : (execFn GenC10.fns audit "CodeExchange"
      [.val .nil, .right, .pick "ValidateAccessTokenRequest", .pick "AuthorizeCodeClient", .pick "AuthRequestByCode", .fail .oidc]).map
      (fun r => (r.1.map Ev.isFail, r.1.map Ev.isResp, r.1.any Ev.isSucc)) = some ([true, false], [false, true], false) := by decide +kernel

example : (GenC10.fns.any fun F => F.name == "CreateTokenResponse" && F.sites.contains "Storage.DeleteAuthRequest") = true := by decide +kernel

/-! ### the sentinel assumption is load-bearing (known finding F-C10b) -/

/-- `benignSentinels` ASSUMES that a failing storage call does not return these values.  If `AuthorizeClientIDSecret` does answer
    with an error that matches `ErrNoClientCredentials` (class `sent`: the model does not count it as a failure), ClientBasicAuth
    hands it on, `ClientIDFromRequest` takes it for "no Basic header was sent" and returns the form's client_id without an error.
    The stream injects exactly this value (kinds `ErrNoClientCredentials`, `wrap:ErrNoClientCredentials`) and the real handlers
    then issue device codes: known-findings.jsonl F-C10b. -/
example : (execFn GenC10.fns audit "ClientIDFromRequest"
    [.val .nil, .val .nil, .right, .pick "ClientBasicAuth", .left, .right, .right, .sent, .left, .right]).map (fun r => (r.1.any Ev.isFail, r.2)) =
    some (false, .nil) := by decide +kernel

/-- `/ready` with three probes, the third fails (a schedule with one fault at index 2): two iterations of the loop function, then
    the failure is answered with the error responder and `ok` is never built -/
example : (execFn GenC10.fns audit "Readiness"
      [.pick "Readiness.loop1", .left, .ok, .pick "Readiness.loop1", .left, .ok, .pick "Readiness.loop1", .left, .fail .deadline]).map
      (fun r => (callOutcomes r.1, r.1.map Ev.isResp, r.1.any Ev.isSucc)) =
    some ([none, none, some .deadline], [false, false, false, true], false) := by decide +kernel

/-- … and with all probes passing it is -/
example : (execFn GenC10.fns audit "Readiness" [.pick "Readiness.loop1", .left, .ok, .pick "Readiness.loop1", .right]).map
      (fun r => (callOutcomes r.1, r.1.any Ev.isSucc)) = some ([none], true) := by decide +kernel

/-- the storage's Health is a call site (the probe `ReadyStorage(storage)`) -/
example : (GenC10.fns.any fun F => F.name == "ReadyStorage.func1" && F.sites == ["Storage.Health"]) = true := by decide +kernel

/-- the readiness probe loops (`for _, probe := range probes`) are loop functions of the program -/
example : GenC10.loopFns = [("Readiness.loop1", "Readiness"), ("LegacyServer.Ready.loop1", "LegacyServer.Ready")] := by decide +kernel

end C10
