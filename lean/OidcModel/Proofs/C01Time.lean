/-
  C01 — the link between the JSON payload and the verifier's time guards:

      the instant a time guard of the verifier sees  =  the value of what is WRITTEN in the payload.

  `(*oidc.Time).UnmarshalJSON` (the decoder of exp / iat / auth_time), `Time.AsTime` (what GetExpiration / GetIssuedAt /
  GetAuthTime hand to the guards) and `FromTime` are REGENERATED from pkg/oidc/types.go into this slice's own
  namespace (`GenC01T`, Generated/C01Time.lean; the same translation as the codec slice's).  encoding/json on `any`
  (the value of a JSON number: its floor and whether it has a fraction) and time.Parse are oracles, quantified over.

  Decoded = written for every JSON document (`c01_time_as_written`); hence the C01 monitor, judged by the claims AS WRITTEN,
  holds for the verifier run on the claims AS DECODED (`c01_holds_as_written`).  A NumericDate whose instant `time.Unix` would
  wrap around is not a time and is refused by the regenerated decoder, so this holds for every number without an assumption
  about the top of the int64 range.
-/
import OidcModel.Proofs.C01
import OidcModel.Proofs.C01Construct
import OidcModel.Spec.C01Time
import OidcModel.Generated.C01Time
import OidcModel.GoTac
import OidcModel.Proofs.F64

namespace C01
open Go Gen Hand Cdc

/-! the atomic facts about the comparisons the range guard is made of are those of Proofs/F64.lean; here the guard's mirrored
    spellings, and `F64.neg_int` / `F64.toInt64_mk` once more under the names (`C01.F64.*`) the theorems of this file are listed with: -/
theorem F64.beq_self' (a : F64) : (a == a) = !a.nan := by
  show (!a.nan && !a.nan && a.floor == a.floor && a.frac == a.frac) = !a.nan
  cases a.nan <;> simp
theorem F64.neg_int (n : Int) : -({ floor := n } : F64) = { floor := -n } := rfl
theorem F64.int_le (a : F64) (n : Int) : decide (({ floor := n } : F64) ≤ a) = (!a.nan && decide (n ≤ a.floor)) := Cdc.F64.ge_int a n
theorem F64.int_gt (a : F64) (n : Int) : decide (({ floor := n } : F64) > a) = (!a.nan && decide (a.floor < n)) := Cdc.F64.lt_int a n

/-- the conversion `Time(x)` / `int64(x)` of a float, wherever it stands in the guard -/
theorem F64.toInt64_mk (fl : Int) (fr nan : Bool) :
    F64.toInt64 { floor := fl, frac := fr, nan := nan } = if fl < 0 ∧ fr = true then fl + 1 else fl := rfl

theorem numberSeconds_mk (fl : Int) (fr nan : Bool) :
    numberSeconds { floor := fl, frac := fr, nan := nan } =
      if nan = false ∧ -9223372036854775808 ≤ fl ∧ fl ≤ 9223371974719179007 then
        some (if fl < 0 ∧ fr = true then fl + 1 else fl) else none := rfl

set_option linter.unusedSimpArgs false in
/-- `(*oidc.Time).UnmarshalJSON`, for every document, every answer of encoding/json and of time.Parse: the result is what
    is written (`writtenTime`), an error when that is not a time -/
theorem timeUnmarshalJSON_eq (now : Int) (o : Oracles) (ts0 : Int) (data : String) :
    (GenC01T.TimeUnmarshalJSON now o ts0 data).toOption =
      (o.jsonAny data).toOption.bind (writtenTime fun s => (o.timeParse s).toOption) := by
  unfold GenC01T.TimeUnmarshalJSON
  cases h : o.jsonAny data with
  | error e => rfl
  | ok doc =>
    cases doc with
    | num x =>
      rcases x with ⟨fl, fr, nan⟩
      simp only [Cdc.two63, Cdc.F64.neg_int, Cdc.F64.bne_self, F64.beq_self', Cdc.F64.ge_int, Cdc.F64.lt_int, F64.int_le, F64.int_gt, Cdc.F64.toInt64_mk,
        writtenTime, numberSeconds_mk, Except.toOption, Option.bind_some]
      cases nan <;> go_leaf
    | str s =>
      simp only []
      cases ht : o.timeParse s <;> simp [writtenTime, Except.toOption, instantSeconds, Go.fromTime, Go.tIsZero, Go.tToUnix, ht]
    | _ => simp [writtenTime, Except.toOption]

theorem collect_strings {β : Type} (f : JVal → Sum β String) (E : β) (hs : ∀ s, f (.str s) = .inr s)
    (hn : ∀ a, (match a with | .str _ => False | _ => True) → f a = .inl E) (l : List JVal) :
    GoX.collect l f = if allStrings l = true then .inr (stringsOf l) else .inl E := by
  induction l with
  | nil => rfl
  | cons a rest ih =>
    rw [GoX.collect]
    cases a with
    | str s =>
      rw [hs, ih]
      by_cases hr : allStrings rest = true <;> simp [hr, allStrings, stringsOf]
    | _ => rw [hn _ trivial]; simp [allStrings]

/-- `(*oidc.Audience).UnmarshalJSON` into a fresh value, for every document and every answer of encoding/json: the audience
    that is written (`writtenAudience`), an error when an array member is not a string -/
theorem audienceUnmarshalJSON_eq (now : Int) (o : Oracles) (text : String) :
    (GenC01T.AudienceUnmarshalJSON now o [] text).toOption = (o.jsonAny text).toOption.bind writtenAudience := by
  unfold GenC01T.AudienceUnmarshalJSON
  cases h : o.jsonAny text with
  | error e => rfl
  | ok doc =>
    cases doc with
    | arr v =>
      have hc := collect_strings (β := Go.R (List String))
        (f := fun audience => match JVal.asString audience with
          | (value, ok) => if (!ok) = true then Sum.inl (Except.error "error:oidc audience: unsupported member type: %T") else Sum.inr value)
        (E := Except.error "error:oidc audience: unsupported member type: %T") (fun s => rfl)
        (fun a ha => by cases a <;> first | exact False.elim ha | rfl) v
      simp only [hc]
      by_cases hv : allStrings v = true <;> simp [hv, writtenAudience, Except.toOption]
    | _ => simp [writtenAudience, Except.toOption]

/-- `Time.AsTime`, regenerated = the instant `ns` of the monitor (absent = the zero time) -/
theorem timeAsTime_eq (now ts : Int) : GenC01T.TimeAsTime now ts = ns ts := by
  unfold GenC01T.TimeAsTime Cdw.timeUnix ns Go.asTime
  by_cases h : ts = 0 <;> simp [h]

/-- `FromTime`, regenerated = whole seconds of the instant -/
theorem fromTime_eq (now t : Int) : GenC01T.FromTime now t = instantSeconds t := by
  unfold GenC01T.FromTime instantSeconds Go.tIsZero Go.tToUnix
  by_cases h : t = zeroTime <;> simp [h]

/-- how the time members of a payload are decoded: each present member by the regenerated `Time.UnmarshalJSON`, into a zero field -/
def decodeMember (now : Int) (o : Oracles) : Option String → Option Int
  | none => some 0
  | some text => (GenC01T.TimeUnmarshalJSON now o 0 text).toOption

/-- how the `aud` member is decoded: by the regenerated `Audience.UnmarshalJSON`, into an empty value -/
def decodeAud (now : Int) (o : Oracles) (base : Claims) : Option String → Option (List String)
  | none => some base.aud
  | some text => (GenC01T.AudienceUnmarshalJSON now o [] text).toOption

def claimsAsDecoded (now : Int) (o : Oracles) (base : Claims) (w : TimeTexts) : Option Claims :=
  withAud (withTimes base (decodeMember now o w.exp) (decodeMember now o w.iat) (decodeMember now o w.auth)) (decodeAud now o base w.aud)

theorem decodeAud_eq (now : Int) (o : Oracles) (base : Claims) (m : Option String) :
    decodeAud now o base m = writtenAud (fun d => (o.jsonAny d).toOption) base m := by
  cases m with
  | none => rfl
  | some text => simp only [decodeAud, writtenAud, audienceUnmarshalJSON_eq]

theorem decodeMember_eq (now : Int) (o : Oracles) (m : Option String) :
    decodeMember now o m = writtenMember (fun d => (o.jsonAny d).toOption) (fun s => (o.timeParse s).toOption) m := by
  cases m with
  | none => rfl
  | some text => simp only [decodeMember, writtenMember, timeUnmarshalJSON_eq]

/-- **decoded = written**: for every payload text, every JSON reader and every RFC 3339 parser, the time claims the
    verifier works with are the values of what is written - whatever the spelling -/
theorem c01_time_as_written (now : Int) (o : Oracles) (base : Claims) (w : TimeTexts) :
    claimsAsDecoded now o base w =
      claimsAsWritten (fun d => (o.jsonAny d).toOption) (fun s => (o.timeParse s).toOption) base w := by
  simp only [claimsAsDecoded, claimsAsWritten, decodeMember_eq, decodeAud_eq]

/-- the instant a time guard sees (`GetExpiration` = `Expiration.AsTime()` of the decoded field) for a claim written as a
    JSON NUMBER is the instant of the number's whole seconds -/
theorem c01_guard_instant (now : Int) (o : Oracles) (text : String) (x : F64) (s : Int)
    (hj : o.jsonAny text = .ok (.num x)) (hs : numberSeconds x = some s) :
    (GenC01T.TimeUnmarshalJSON now o 0 text).toOption.map (GenC01T.TimeAsTime now) = some (ns s) := by
  rw [timeUnmarshalJSON_eq, hj]
  simp [Except.toOption, writtenTime, hs, timeAsTime_eq]

/-! ### the int64 edge: no decoded number is an instant `time.Unix` wraps around

  The model's instants (`ns`, `Cdw.timeUnix`) are unbounded integers; Go's `time.Unix(sec, 0)` adds 62135596800 to `sec` in
  int64 arithmetic (`unixInternalSeconds`).  The two agree exactly when that sum does not wrap around.  The
  regenerated decoder refuses the numbers in the last 62135596800 seconds of the int64 range, so the statements of this file
  hold for EVERY JSON number. -/

/-- a number that names whole seconds (`numberSeconds`) names an instant `time.Unix` computes without wrap-around -/
theorem numberSeconds_not_wrapped (x : F64) (s : Int) (h : numberSeconds x = some s) :
    -9223372036854775808 ≤ s ∧ s ≤ maxInstantSeconds ∧ unixInternalSeconds s = s + 62135596800 := by
  rcases x with ⟨fl, fr, nan⟩
  rw [numberSeconds_mk] at h
  unfold maxInstantSeconds unixInternalSeconds
  split at h
  · simp only [Option.some.injEq] at h
    split at h <;> omega
  · cases h

/-- every value the regenerated `Time.UnmarshalJSON` hands out for a JSON NUMBER - whatever the number, whatever encoding/json
    answers - is a second count whose `time.Unix` does not wrap around: the instant the real guards compare is `ns s` -/
theorem c01_decoded_number_not_wrapped (now : Int) (o : Oracles) (ts0 : Int) (text : String) (x : F64) (s : Int)
    (hj : o.jsonAny text = .ok (.num x)) (hd : (GenC01T.TimeUnmarshalJSON now o ts0 text).toOption = some s) :
    s ≤ maxInstantSeconds ∧ unixInternalSeconds s = s + 62135596800 ∧
      (unixInternalSeconds s - 62135596800) * second = Cdw.timeUnix s 0 := by
  rw [timeUnmarshalJSON_eq, hj] at hd
  simp only [Except.toOption, Option.bind_some, writtenTime] at hd
  obtain ⟨_, h2, h3⟩ := numberSeconds_not_wrapped x s hd
  refine ⟨h2, h3, ?_⟩
  rw [h3]; simp [Cdw.timeUnix, Go.tUnix]

/-- a JSON number whose whole seconds lie beyond the last instant `time.Time` can hold is REFUSED by the regenerated decoder
    (it is not a time: the payload is not a decodable ID Token) - this is the theorem that fails to check when the range
    guard of `Time.UnmarshalJSON` admits the wrap zone -/
theorem c01_wrap_zone_refused (now : Int) (o : Oracles) (ts0 : Int) (text : String) (x : F64)
    (hj : o.jsonAny text = .ok (.num x)) (hx : maxInstantSeconds < x.floor) :
    (GenC01T.TimeUnmarshalJSON now o ts0 text).toOption = none := by
  rw [timeUnmarshalJSON_eq, hj]
  rcases x with ⟨fl, fr, nan⟩
  simp only [Except.toOption, Option.bind_some, writtenTime, numberSeconds_mk]
  unfold maxInstantSeconds at hx
  simp only at hx
  split
  · omega
  · rfl

/-- **C01 for tokens as written**: the verifier, run on the claims as DECODED by the regenerated decoder, satisfies the
    monitor that judges by the claims as WRITTEN - for every configuration, token, spelling of the time claims, JSON reader,
    RFC 3339 parser and instant -/
theorem c01_holds_as_written (v : Verifier) (t : Token) (withAT : Option String) (now : Int) (o : Oracles) (base : Claims) (w : TimeTexts) :
    monitor v (withClaims t (claimsAsWritten (fun d => (o.jsonAny d).toOption) (fun s => (o.timeParse s).toOption) base w)) withAT now
      (run v (withClaims t (claimsAsDecoded now o base w)) withAT now).toOption = none := by
  rw [c01_time_as_written]
  exact c01_holds _ _ _ _

/-- the same for a RELYING PARTY (any option list): the verifier it hands out, run on the claims as decoded, satisfies the
    monitor for the configuration the application asked for, judged by the claims as written -/
theorem c01_rp_holds_as_written (now : Int) (w : RPCWorld) (issuer clientID clientSecret redirectURI : String) (scopes : List String)
    (opts : List ROptD) (rp : RPCRelyingParty)
    (h : GenC01.NewRelyingPartyOIDC now w issuer clientID clientSecret redirectURI scopes (opts.map (ROptD.denote now)) = .ok rp)
    (t : Token) (withAT : Option String) (now' : Int) (o : Oracles) (base : Claims) (wt : TimeTexts) :
    ∃ d, w.discover issuer (clientOf opts) (lastOf ROptD.url? opts "") = .ok d ∧
      monitor ((rpConfigured issuer clientID opts d).toVerifier w)
        (withClaims t (claimsAsWritten (fun d => (o.jsonAny d).toOption) (fun s => (o.timeParse s).toOption) base wt)) withAT now'
        (run ((Go.getOpt (GenC01.relyingPartyIDTokenVerifier now' rp).1).toVerifier w) (withClaims t (claimsAsDecoded now' o base wt)) withAT now').toOption = none := by
  rw [c01_time_as_written]
  exact c01_rp_holds now w issuer clientID clientSecret redirectURI scopes opts rp h _ withAT now'

theorem payloadClaims_withClaims (t : Token) (c : Option Claims) (p : Payload) (h : t.middle = some p) :
    payloadClaims (withClaims t c) = c := by
  simp [payloadClaims, withClaims, h]

/-- what acceptance means for the time claims AS WRITTEN (soundness, spelled out): the token is not expired and was not
    issued in the future, up to clock rounding, by the values written in the payload -/
theorem c01_accepted_times_as_written (v : Verifier) (t : Token) (withAT : Option String) (now : Int) (o : Oracles) (base : Claims)
    (w : TimeTexts) (c : Claims) (h : run v (withClaims t (claimsAsDecoded now o base w)) withAT now = .ok c) :
    ∃ pc, claimsAsWritten (fun d => (o.jsonAny d).toOption) (fun s => (o.timeParse s).toOption) base w = some pc ∧
      now + v.Offset < ns pc.exp ∧ ns pc.iat ≠ zeroTime ∧ ns pc.iat - halfSecond ≤ now + v.Offset := by
  rw [c01_time_as_written] at h
  have hid : VerifyIDToken now (withClaims t (claimsAsWritten (fun d => (o.jsonAny d).toOption) (fun s => (o.timeParse s).toOption) base w)) v = .ok c := by
    cases withAT with
    | none => exact h
    | some atk => exact (verifyTokens_ok.1 h).1
  obtain ⟨pc, alg, hpc, _, hok⟩ := c01_sound hid
  have hw : claimsAsWritten (fun d => (o.jsonAny d).toOption) (fun s => (o.timeParse s).toOption) base w = some pc := by
    cases hm : t.middle with
    | none => simp [payloadClaims, withClaims, hm] at hpc
    | some p => rw [payloadClaims_withClaims t _ p hm] at hpc; exact hpc
  refine ⟨pc, hw, ?_⟩
  simp only [idTokenOK, clauses, List.all_cons, List.all_nil, Bool.and_true, Bool.and_eq_true, decide_eq_true_eq, bne_iff_ne, ne_eq] at hok
  obtain ⟨_, _, _, _, _, hexp, hiat, hfut, _⟩ := hok
  have hhalf : max (-halfSecond) 0 = 0 := by unfold halfSecond; omega
  rw [hhalf] at hexp
  refine ⟨by omega, hiat, by omega⟩

/-- a token whose iat AS WRITTEN lies in the future (by more than clock rounding) is refused, whatever its spelling -/
theorem c01_future_iat_refused (v : Verifier) (t : Token) (withAT : Option String) (now : Int) (o : Oracles) (base : Claims)
    (w : TimeTexts) (pc : Claims)
    (hw : claimsAsWritten (fun d => (o.jsonAny d).toOption) (fun s => (o.timeParse s).toOption) base w = some pc)
    (hfut : now + v.Offset + halfSecond < ns pc.iat) :
    (run v (withClaims t (claimsAsDecoded now o base w)) withAT now).toOption = none := by
  cases h : run v (withClaims t (claimsAsDecoded now o base w)) withAT now with
  | error e => rfl
  | ok c =>
    obtain ⟨pc', hw', _, _, hle⟩ := c01_accepted_times_as_written v t withAT now o base w c h
    rw [hw] at hw'; cases hw'
    omega

/-- a token whose exp AS WRITTEN has passed is refused, whatever its spelling -/
theorem c01_expired_refused (v : Verifier) (t : Token) (withAT : Option String) (now : Int) (o : Oracles) (base : Claims)
    (w : TimeTexts) (pc : Claims)
    (hw : claimsAsWritten (fun d => (o.jsonAny d).toOption) (fun s => (o.timeParse s).toOption) base w = some pc)
    (hexp : ns pc.exp ≤ now + v.Offset) :
    (run v (withClaims t (claimsAsDecoded now o base w)) withAT now).toOption = none := by
  cases h : run v (withClaims t (claimsAsDecoded now o base w)) withAT now with
  | error e => rfl
  | ok c =>
    obtain ⟨pc', hw', hlt, _, _⟩ := c01_accepted_times_as_written v t withAT now o base w c h
    rw [hw] at hw'; cases hw'
    omega

/-- completeness for tokens as written: a correctly signed token whose claims AS WRITTEN meet every condition with margin
    is accepted, whatever the spelling of its time claims -/
theorem c01_written_valid_accepted (v : Verifier) (t : Token) (now : Int) (o : Oracles) (base : Claims) (w : TimeTexts) (pc : Claims) (alg : String)
    (hs : correctlySigned v (withClaims t (claimsAsWritten (fun d => (o.jsonAny d).toOption) (fun s => (o.timeParse s).toOption) base w)) = some (pc, alg))
    (hm : idTokenOKMargin v pc now = true) :
    run v (withClaims t (claimsAsDecoded now o base w)) none now = .ok (pc.SetSignatureAlgorithm alg) := by
  rw [c01_time_as_written]
  exact c01_complete_margin hs hm

/-! ### non-vacuity -/
section examples
/-- a JSON reader that knows six documents: four numbers, a string, `null` -/
def exJson : Oracles :=
  { jsonAny := fun d =>
      if d == "1.790768359e+09" then .ok (.num { floor := 1790768359 })
      else if d == "17e8" then .ok (.num { floor := 1700000000 })
      else if d == "1790768359.999" then .ok (.num { floor := 1790768359, frac := true })
      else if d == "-1.5" then .ok (.num { floor := -2, frac := true })
      else if d == "\"1790768359\"" then .ok (.str "1790768359")
      else if d == "null" then .ok .null
      else .error "json",
    timeParse := fun s => if s == "2026-09-30T10:59:19Z" then .ok (1790765959 * second) else .error "time" }

example : (GenC01T.TimeUnmarshalJSON 0 exJson 0 "1.790768359e+09").toOption = some 1790768359 := by decide +kernel
example : (GenC01T.TimeUnmarshalJSON 0 exJson 0 "17e8").toOption = some 1700000000 := by decide +kernel
example : (GenC01T.TimeUnmarshalJSON 0 exJson 0 "1790768359.999").toOption = some 1790768359 := by decide +kernel
example : (GenC01T.TimeUnmarshalJSON 0 exJson 0 "-1.5").toOption = some (-1) := by decide +kernel
example : (GenC01T.TimeUnmarshalJSON 0 exJson 0 "\"1790768359\"").toOption = none := by decide +kernel
example : (GenC01T.TimeUnmarshalJSON 0 exJson 7 "null").toOption = some 0 := by decide +kernel
/-- `"iat":9223372036854774784` (a second `time.Unix` wraps around to a date in the far past) is refused; the last
    second before the wrap zone is decoded, and `time.Unix`'s int64 sum wraps exactly from the next one on -/
example : (GenC01T.TimeUnmarshalJSON 0 { jsonAny := fun _ => .ok (.num { floor := 9223372036854774784 }) } 0 "9223372036854774784").toOption = none := by decide +kernel
example : (GenC01T.TimeUnmarshalJSON 0 { jsonAny := fun _ => .ok (.num { floor := 9223371974719179008 }) } 0 "").toOption = none := by decide +kernel
example : (GenC01T.TimeUnmarshalJSON 0 { jsonAny := fun _ => .ok (.num { floor := 9223371974719179007, frac := true }) } 0 "").toOption = some 9223371974719179007 := by decide +kernel
example : (GenC01T.TimeUnmarshalJSON 0 { jsonAny := fun _ => .ok (.num { floor := -9223372036854775808 }) } 0 "").toOption = some (-9223372036854775808) := by decide +kernel
example : unixInternalSeconds 9223371974719179007 = 9223372036854775807 ∧ unixInternalSeconds 9223371974719179008 = -9223372036854775808
    ∧ unixInternalSeconds 9223372036854774784 < 0 ∧ unixInternalSeconds (-9223372036854775808) = -9223372036854775808 + 62135596800 := by decide +kernel
/-- the accepted example token of Proofs/C01, its exp and iat written in scientific notation as `17e8` (before `exNow`: expired): refused -/
example : (run exV (withClaims exTok (claimsAsDecoded exNow exJson { exClaims with exp := 0, iat := 0 } { exp := some "17e8", iat := some "17e8" })) none exNow).toOption = none := by decide +kernel
/-- `aud` written as one string containing a space is ONE audience (not two) -/
example : (GenC01T.AudienceUnmarshalJSON 0 { jsonAny := fun _ => .ok (.str "rp other") } [] "…").toOption = some ["rp other"] := by decide +kernel
example : (GenC01T.AudienceUnmarshalJSON 0 { jsonAny := fun _ => .ok (.arr [.str "a", .str "rp"]) } [] "…").toOption = some ["a", "rp"] := by decide +kernel
example : (GenC01T.AudienceUnmarshalJSON 0 { jsonAny := fun _ => .ok (.arr [.str "rp", .num { floor := 1 }]) } [] "…").toOption = none := by decide +kernel
end examples

end C01
