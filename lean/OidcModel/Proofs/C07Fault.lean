/-
  C07 over histories in which storage calls of refresh requests FAIL (Model/C07Fault.lean), judged by the observer of
  Spec/C07Fault.lean (`observeF`: the monitors of Spec/C07.lean / Spec/C07Wire.lean plus the clauses about the literal HTTP
  answer - a 200 carries an access token and the refresh token the storage created in this request's rotation call, any other
  answer carries no token).

  `OpF` = an operation of the extended histories of Proofs/C07Wire.lean (code exchanges, refreshes as they travel, changing
  registrations, ...) or a refresh during which a storage call fails.  `c07_fault_history`: from an initial situation, for every
  list of such operations whose faults hit a read of the validation phase or the rotation call itself, the observer has
  nothing to object to any step (a refused refresh can at most trip the widening clause, as in `c07_wire_history_core`).  The
  regenerated fact it rests on: a failing `CreateAccessToken` ends `CreateTokenResponse` with an error (`rotation_error_returned`,
  `errReturned` of the regenerated call list).  Faults AFTER the rotation: `c07_post_rotation_fault` (what the model does -
  the storage has rotated, the request is refused - and that `judge` with `created := true` would say `tokens-created-on-refused-request`;
  the observation layer does not raise it for these lines, DESIGN 9.5).  Two refreshes at once: `c07_pair_at_most_one`.
-/
import OidcModel.Proofs.C07Wire
import OidcModel.Model.C07Fault
import OidcModel.Spec.C07Fault
set_option linter.unusedSimpArgs false

namespace FlowObs
open Go Gen Hand Flow WireSpec

/-- the regenerated fact: `CreateTokenResponse` returns the error of `CreateAccessToken` (and of `CreateIDToken`) -/
theorem rotation_error_returned : FlowX.calleeFatal "CreateAccessToken" = true ∧ FlowX.calleeFatal "CreateIDToken" = true := by decide

/-- the literal HTTP answer the model gives -/
def bodyOf (s s' : Flow.St) : Flow.OutF → Body
  | .x (.base (.issued _ nr)) => { ok200 := true, accessToken := true, refreshToken := nr.getD "", idToken := true, rotatedTo := nr }
  | .x _ => { rotatedTo := (mintedIn s s').map (·.token) }
  | .hollow _ nr => { ok200 := true, accessToken := false, refreshToken := nr.getD "", idToken := true, rotatedTo := nr }

/-- the answer as Spec/C07Wire.lean reads it (a 200 without access token is no token response) -/
def answerOfF (s s' : Flow.St) : Flow.OutF → Option Answer
  | .x o => answerOf s s' o
  | .hollow _ _ => some { minted := mintedIn s s', err := "", created := s'.nextRT != s.nextRT }

def wireOf : Flow.OpX → Option WireReq
  | .token _ w _ => some w
  | _ => none
def isRefreshIssued : Flow.OutX → Bool
  | .base (.issued (.refresh _ _ _) _) => true
  | _ => false

def eventOfF (s s' : Flow.St) (op : Flow.OpF) (out : Flow.OutF) : Option EventF :=
  match op, out with
  | .x op', .x out' =>
    match wireOf op', isRefreshIssued out' with
    | some w, true => (answerOf s s' out').map fun a => .refresh w a (bodyOf s s' out)
    | _, _ => (eventOfX s s' op' out').map .x
  | .refreshFault _ w _, _ => (answerOfF s s' out).map fun a => .refresh w a (bodyOf s s' out)
  | _, _ => none

def stepObsF (now : Int) (so : Flow.St × ObsState) (op : Flow.OpF) : (Flow.St × ObsState) × (Flow.OutF × Option String × Option String) :=
  let r := Flow.stepF now so.1 op
  match eventOfF so.1 r.1 op r.2 with
  | none => ((r.1, so.2), (r.2, none, none))
  | some e => let v := observeF now so.2 e; ((r.1, v.1), (r.2, v.2.1, v.2.2))

def runObsF (now : Int) (so : Flow.St × ObsState) : List Flow.OpF → (Flow.St × ObsState) × List (Flow.OutF × Option String × Option String)
  | [] => (so, [])
  | op :: rest =>
    let r := stepObsF now so op
    let rr := runObsF now r.1 rest
    (rr.1, r.2 :: rr.2)

/-- an answer with tokens: the observer of the literal answer moves as the observer of Spec/C07Wire.lean does -/
theorem observeF_tokens (now : Int) (o : ObsState) (w : WireReq) (a : Answer) (b : Body) {tk : C04.Tokens} (ht : a.tokens = some tk) :
    (observeF now o (.refresh w a b)).1 = (observeX now o (.token w a)).1 ∧
    (observeF now o (.refresh w a b)).2.1 = (observeX now o (.token w a)).2.1 ∧
    (observeF now o (.refresh w a b)).2.2 = (match (observeX now o (.token w a)).2.2 with
      | some x => some x
      | none => if isRefreshRequest w then judgeBody b else none) := by
  have hc : consumed o.m07 a = o.m07 := by simp only [consumed, ht]
  have ho : ({ o with m07 := consumed o.m07 a } : ObsState) = o := by rw [hc]
  simp only [observeF, ho, ht, Option.isNone_some, Bool.and_false, Bool.false_eq_true, if_false]
  refine ⟨trivial, trivial, ?_⟩
  cases (observeX now o (.token w a)).2.2 <;> rfl

/-- a refusal during which the storage rotated nothing: likewise -/
theorem observeF_refusal (now : Int) (o : ObsState) (w : WireReq) (a : Answer) (b : Body) (ht : a.tokens = none) (hm : a.minted = none) :
    (observeF now o (.refresh w a b)).1 = (observeX now o (.token w a)).1 ∧
    (observeF now o (.refresh w a b)).2.1 = (observeX now o (.token w a)).2.1 := by
  have hc : consumed o.m07 a = o.m07 := by
    simp only [consumed, ht, hm]
    cases a.handed <;> rfl
  have ho : ({ o with m07 := consumed o.m07 a } : ObsState) = o := by rw [hc]
  simp only [observeF, ho]
  exact ⟨trivial, trivial⟩

theorem judgeBody_refused (t : Option String) : judgeBody { rotatedTo := t } = none := by
  simp [judgeBody]

/-- the body of the answer to a refresh the model lets through: the access token is there, the refresh token is the one the
    storage created in this request -/
theorem judgeBody_issued (tok : String) :
    judgeBody { ok200 := true, accessToken := true, refreshToken := (some tok).getD "", idToken := true, rotatedTo := some tok } = none := by
  simp [judgeBody]

/-- what one step of a history with faults has to deliver: the invariant, and no objection but the widening clause on a refused
    refresh -/
def GoodF (now : Int) (s : Flow.St) (o : ObsState) (op : Flow.OpF) : Prop :=
  Inv07 (stepObsF now (s, o) op).1.1 (stepObsF now (s, o) op).1.2 ∧
  ((stepObsF now (s, o) op).2.2.2 = none ∨
    ((stepObsF now (s, o) op).2.2.2 = widening ∧ ∃ e, (stepObsF now (s, o) op).2.1 = .x (.base (.error e))))

/-- **a refresh during which a read of the validation phase or the rotation call itself fails** keeps the invariant, and the
    observer has nothing to object (at most the widening clause of a refused refresh); the proof shows the request refused and
    the storage as before -/
theorem goodF_fault {now : Int} {s : Flow.St} {o : ObsState} (h : Inv07 s o) (rt : Router) (w : WireReq) (f : Flow.RFault)
    (hf : ∀ callee, f ≠ .issuing callee) :
    GoodF now s o (.refreshFault rt w f) := by
  -- a fault that ends the request with error `e` and leaves the storage alone
  have refused : ∀ e, Flow.refreshFaultStep now s rt w f = (s, .x (.base (.error e))) → GoodF now s o (.refreshFault rt w f) := by
    intro e hs
    unfold GoodF
    have hst : Flow.stepF now s (.refreshFault rt w f) = (s, .x (.base (.error e))) := by simp only [Flow.stepF, hs]
    simp only [stepObsF, hst, eventOfF, answerOfF, answerOf, mintedIn_self, bne_self_eq_false, Option.map_some, bodyOf, Option.map_none]
    obtain ⟨e1, _, e3⟩ := observeX_refusal now o w { minted := none, err := Flow.oauthCode e, created := false } rfl rfl
    obtain ⟨f1, _⟩ := observeF_refusal now o w { minted := none, err := Flow.oauthCode e, created := false } { rotatedTo := none } rfl rfl
    refine ⟨?_, ?_⟩
    · rw [f1, e1]; exact h.of_m07 rfl
    · simp only [observeF, Option.isNone_none, Bool.and_true, judgeBody_refused]
      have hb : (if (isRefreshRequest w && ({ rotatedTo := none } : Body).ok200) = true then (none : Option String) else none) = none := by split <;> rfl
      simp only [hb]
      rcases e3 with e3 | e3
      · rw [e3]; simp
      · rw [e3]; exact Or.inr ⟨rfl, e, rfl⟩
  cases f with
  | validation site => exact refused _ rfl
  | issuing callee => exact absurd rfl (hf callee)
  | createTokens =>
    cases hte : tokenEndpoint now rt s.p w with
    | err e =>
      have hs : Flow.refreshFaultStep now s rt w .createTokens = (s, .x (.base (.error e))) := by
        simp only [Flow.refreshFaultStep, hte]
      exact refused e hs
    | other hd =>
      have hst : Flow.stepF now s (.refreshFault rt w .createTokens) = (s, .x (.other hd)) := by
        simp only [Flow.stepF, Flow.refreshFaultStep, hte]
      simp only [GoodF, stepObsF, hst, eventOfF, answerOfF, answerOf, Option.map_none]
      exact ⟨h, Or.inl trivial⟩
    | issue i =>
      have hs : Flow.refreshFaultStep now s rt w .createTokens = (s, .x (.base (.error "ErrServerError"))) := by
        simp only [Flow.refreshFaultStep, hte, rotation_error_returned.1, if_true]
      exact refused _ hs

/-- an operation of the extended histories that is not a refresh the model answers with tokens: the observer does what it did -/
theorem stepObsF_plain {now : Int} {s : Flow.St} {o : ObsState} {op' : Flow.OpX}
    (hp : wireOf op' = none ∨ isRefreshIssued (Flow.stepX now s op').2 = false) :
    stepObsF now (s, o) (.x op') =
      ((stepObsX now (s, o) op').1, (.x (stepObsX now (s, o) op').2.1, (stepObsX now (s, o) op').2.2.1, (stepObsX now (s, o) op').2.2.2)) := by
  have he : eventOfF s (Flow.stepX now s op').1 (.x op') (.x (Flow.stepX now s op').2) =
      (eventOfX s (Flow.stepX now s op').1 op' (Flow.stepX now s op').2).map .x := by
    simp only [eventOfF]
    split
    · rename_i w h1 h2
      rcases hp with hp | hp
      · rw [hp] at h1; cases h1
      · rw [hp] at h2; cases h2
    · rfl
  simp only [stepObsF, stepObsX, Flow.stepF, he]
  cases eventOfX s (Flow.stepX now s op').1 op' (Flow.stepX now s op').2 <;> rfl

/-- **a refresh the model answers with tokens**: besides everything `goodX_token_refresh` says, the literal answer is in order -
    it carries an access token and the refresh token the storage created in this request's rotation -/
theorem goodF_refresh {now : Int} {s : Flow.St} {o : ObsState} (h : Inv07 s o) (rt : Router) (w : WireReq) (df : Bool)
    {r1 : RefreshReq} {c : OPClient} {cur : String} (hte : tokenEndpoint now rt s.p w = .issue (.refresh r1 c cur)) :
    Inv07 (stepObsF now (s, o) (.x (.token rt w df))).1.1 (stepObsF now (s, o) (.x (.token rt w df))).1.2 ∧
    (stepObsF now (s, o) (.x (.token rt w df))).2.2.2 = none := by
  obtain ⟨g1, g2, _⟩ := goodX_token_refresh h rt w df hte
  have hx : Flow.stepX now s (.token rt w df) =
      (applyIssue s (.refresh r1 c cur), .base (.issued (.refresh r1 c cur) (some ("rt" ++ toString s.nextRT)))) := by
    simp only [Flow.stepX, hte, (mintTokens_refresh s r1 c cur).2.2]
  rw [stepObsX_eq hx] at g1 g2
  simp only [eventOfX, answerOf, Option.map_some] at g1 g2
  have hst : Flow.stepF now s (.x (.token rt w df)) =
      (applyIssue s (.refresh r1 c cur), .x (.base (.issued (.refresh r1 c cur) (some ("rt" ++ toString s.nextRT))))) := by
    simp only [Flow.stepF, hx]
  simp only [stepObsF, hst, eventOfF, wireOf, isRefreshIssued, answerOf, Option.map_some, bodyOf]
  refine ⟨?_, ?_⟩
  · rw [(observeF_tokens now o w _ _ rfl).1]; exact g1
  · rw [(observeF_tokens now o w _ _ rfl).2.2, g2]
    simp only [judgeBody_issued]
    split <;> rfl

theorem goodF_step (now : Int) {s : Flow.St} {o : ObsState} (h : Inv07 s o) (op : Flow.OpF)
    (hreg : ∀ c, op = .x (.reregister c) → AuthCapable s.p c)
    (hf : ∀ rt w callee, op ≠ .refreshFault rt w (.issuing callee)) : GoodF now s o op := by
  cases op with
  | refreshFault rt w f => exact goodF_fault h rt w f (fun callee hc => hf rt w callee (by rw [hc]))
  | x op' =>
    have plain : (wireOf op' = none ∨ isRefreshIssued (Flow.stepX now s op').2 = false) → GoodF now s o (.x op') := by
      intro hp
      unfold GoodF
      rw [stepObsF_plain hp]
      obtain ⟨g1, g2⟩ := goodX_step now h op' (fun c hc => hreg c (by rw [hc]))
      refine ⟨g1, ?_⟩
      rcases g2 with g2 | ⟨g2, e, he⟩
      · exact Or.inl g2
      · exact Or.inr ⟨g2, e, by simp only [he]⟩
    cases op' with
    | base b => exact plain (Or.inl rfl)
    | reregister c => exact plain (Or.inl rfl)
    | token rt w df =>
      cases hte : tokenEndpoint now rt s.p w with
      | err e => exact plain (Or.inr (by simp only [Flow.stepX, hte, isRefreshIssued]))
      | other hd => exact plain (Or.inr (by simp only [Flow.stepX, hte, isRefreshIssued]))
      | issue i =>
        cases i with
        | refresh r1 c1 cur1 =>
          obtain ⟨g1, g2⟩ := goodF_refresh (now := now) h rt w df hte
          exact ⟨g1, Or.inl g2⟩
        | code a c1 k =>
          refine plain (Or.inr ?_)
          cases df <;> simp only [Flow.stepX, hte, issueDeleteFails_eq, isRefreshIssued, if_true, Bool.false_eq_true, if_false]

theorem stepObsF_state (now : Int) (s : Flow.St) (o : ObsState) (op : Flow.OpF) : (stepObsF now (s, o) op).1.1 = (Flow.stepF now s op).1 := by
  simp only [stepObsF]; cases eventOfF s (Flow.stepF now s op).1 op (Flow.stepF now s op).2 <;> rfl

theorem stepF_flags (now : Int) (s : Flow.St) (op : Flow.OpF) : FlagsEq s (Flow.stepF now s op).1 := by
  cases op with
  | x op' => exact stepX_flags now s op'
  | refreshFault rt w f =>
    -- the state after the step is `s`, or what `mintTokens` or `applyIssue` made of it
    have hm : ∀ i, FlagsEq s (mintTokens s i) := fun i => FlagsEq.of_cfg (mintTokens_auth s i).2.2.2
    have ha : ∀ i, FlagsEq s (applyIssue s i) := fun i => by
      cases i with
      | code a c k => exact FlagsEq.of_cfg (applyIssue_code s a c k).2.2.2
      | refresh r c k => exact hm _
    cases f <;> simp only [Flow.stepF, Flow.refreshFaultStep] <;> (repeat' split) <;>
      first | exact ⟨rfl, rfl, rfl⟩ | exact hm _ | exact ha _

theorem inv07_runF (now : Int) {s : Flow.St} {o : ObsState} (h : Inv07 s o) (ops : List Flow.OpF)
    (hreg : ∀ c, Flow.OpF.x (.reregister c) ∈ ops → AuthCapable s.p c)
    (hf : ∀ rt w callee, Flow.OpF.refreshFault rt w (.issuing callee) ∉ ops) :
    Inv07 (runObsF now (s, o) ops).1.1 (runObsF now (s, o) ops).1.2 ∧
    ∀ x ∈ (runObsF now (s, o) ops).2, x.2.2 = none ∨ (x.2.2 = widening ∧ ∃ e, x.1 = .x (.base (.error e))) := by
  induction ops generalizing s o with
  | nil => exact ⟨h, by intro x hx; cases hx⟩
  | cons op rest ih =>
    obtain ⟨hinv, hv⟩ := goodF_step now h op (fun c hc => hreg c (by rw [hc]; exact List.mem_cons_self))
      (fun rt w callee hc => hf rt w callee (by rw [hc]; exact List.mem_cons_self))
    have hfl : FlagsEq s (stepObsF now (s, o) op).1.1 := by rw [stepObsF_state]; exact stepF_flags now s op
    obtain ⟨i1, i2⟩ := ih hinv (fun c hc => (hreg c (List.mem_cons_of_mem _ hc)).flags hfl)
      (fun rt w callee hc => hf rt w callee (List.mem_cons_of_mem _ hc))
    exact ⟨i1, List.forall_mem_cons.2 ⟨hv, i2⟩⟩

end FlowObs

namespace C07
open FlowObs Flow

/-- **C07 over histories with storage faults.**  From an initial situation, for EVERY list of operations - everything
    `c07_wire_history_core` covers (code exchanges, refreshes as they travel in any shape, changing registrations, ...) and
    refresh requests during which a storage call FAILS: a read of the validation phase (`GetClientByClientID`,
    `AuthorizeClientIDSecret`, `GetKeyByIDAndClientID`, `TokenRequestByRefreshToken`) or the rotation call
    `CreateAccessAndRefreshTokens` itself (the presented token was rotated by a concurrent request, expired meanwhile, an
    outage: the error kind does not matter) - the observer of Spec/C07Fault.lean has nothing to object to any step that is not
    a refused refresh (which can at most trip the widening clause).  Hypotheses: every re-registered client is `AuthCapable`, no
    fault after the rotation (`.issuing`).  What `observeF` objects to: a refresh answered 200 without an access token or
    without the refresh token the storage created in that very request, a changed client / subject / audience / auth time,
    scopes outside the grant, a refused refresh whose answer carries a token or during which something was created. -/
theorem c07_fault_history (now : Int) (s : Flow.St) (o : ObsState) (h0 : Init s o) (ops : List Flow.OpF)
    (hreg : ∀ c, Flow.OpF.x (.reregister c) ∈ ops → AuthCapable s.p c)
    (hf : ∀ rt w callee, Flow.OpF.refreshFault rt w (.issuing callee) ∉ ops) :
    ∀ x ∈ (runObsF now (s, o) ops).2, x.2.2 = none ∨ (x.2.2 = widening ∧ ∃ e, x.1 = .x (.base (.error e))) :=
  (inv07_runF now h0.inv07 ops hreg hf).2

/-- a refresh whose rotation call fails leaves the storage exactly as it was (the presented token still resolves: the client can
    retry) and is answered with an error -/
theorem c07_rotation_fault_fails_closed (now : Int) (s : Flow.St) (rt : Router) (w : WireReq) :
    (Flow.stepF now s (.refreshFault rt w .createTokens)).1 = s ∧
    ∀ i nr, (Flow.stepF now s (.refreshFault rt w .createTokens)).2 ≠ .x (.base (.issued i nr)) ∧
            (Flow.stepF now s (.refreshFault rt w .createTokens)).2 ≠ .hollow i nr := by
  simp only [Flow.stepF, Flow.refreshFaultStep, rotation_error_returned.1, if_true]
  cases tokenEndpoint now rt s.p w <;> simp


/-! ## Faults after the rotation (outside C07 as written, see below), two refreshes at once, non-vacuity -/

def demoRefreshW (tok : String) : WireReq :=
  { body := [("grant_type", "refresh_token"), ("refresh_token", tok)], basic := some ("web", "s3cret") }

def showOutF : Flow.OutF → String
  | .x o => showOutX o
  | .hollow _ nr => "hollow:" ++ nr.getD "-"

/-- a grant; a refresh whose lookup fails; one whose rotation call fails; the retry; a replay of the rotated token -/
def demoFaults (rt : Router) : List Flow.OpF :=
  [.x (.base demoAuthorize), .x (.base (.login "ar1" "user1" 1000)), .x (.base (.callback "ar1" "c1")), .x (wireExchange rt),
   .refreshFault rt (demoRefreshW "rt1") (.validation "TokenRequestByRefreshToken"),
   .refreshFault rt (demoRefreshW "rt1") .createTokens,
   .x (.token rt (demoRefreshW "rt1") false),
   .refreshFault rt (demoRefreshW "rt1") .createTokens,
   .x (.token rt (demoRefreshW "rt2") false)]

example : ((runObsF 0 (demoState, obsOf demoState) (demoFaults .provider)).2.map fun x => (showOutF x.1, x.2.1, x.2.2)) =
  [("login:ar1", none, none), ("done", none, none), ("code:c1", none, none), ("tokens:user1:web:rt1", none, none),
   ("error:ErrStorageFault", none, none), ("error:ErrServerError", none, none),
   ("refreshed:user1:web:openid email offline_access:rt2", none, none), ("error:ErrInvalidGrant", none, none),
   ("refreshed:user1:web:openid email offline_access:rt3", none, none)] := by decide +kernel
example : ((runObsF 0 (demoState, obsOf demoState) (demoFaults .legacy)).2.map fun x => (showOutF x.1, x.2.1, x.2.2)) =
  [("login:ar1", none, none), ("done", none, none), ("code:c1", none, none), ("tokens:user1:web:rt1", none, none),
   ("error:ErrStorageFault", none, none), ("error:ErrServerError", none, none),
   ("refreshed:user1:web:openid email offline_access:rt2", none, none), ("error:ErrInvalidGrant", none, none),
   ("refreshed:user1:web:openid email offline_access:rt3", none, none)] := by decide +kernel

/-- the premises of `c07_fault_history` hold for the demo history -/
example : Init demoState (obsOf demoState) ∧ (∀ c, Flow.OpF.x (.reregister c) ∉ demoFaults .legacy) ∧
    (∀ rt w callee, Flow.OpF.refreshFault rt w (.issuing callee) ∉ demoFaults .legacy) := by
  refine ⟨init_obsOf rfl rfl rfl, ?_, ?_⟩ <;> intros <;> simp [demoFaults, wireExchange]

/-- the observer is not silent: the answer the code would give if `CreateTokenResponse` stopped returning the error of
    `CreateAccessToken` (200, an ID token, no access token, no refresh token, nothing rotated) is flagged; so are a 200 whose
    refresh token is not the one the storage created in this request, a 200 without rotation, and an error document that
    carries a token -/
example :
    let o := (runObsF 0 (demoState, obsOf demoState) ((demoFaults .provider).take 4)).1.2
    (observeF 0 o (.refresh (demoRefreshW "rt1") { err := "", created := false } { ok200 := true, idToken := true })).2.2 = some "success-without-access-token" ∧
    judgeBody { ok200 := true, accessToken := true, idToken := true, refreshToken := "rt1", rotatedTo := some "rt2" } = some "response-refresh-token-is-not-the-storage's" ∧
    judgeBody { ok200 := true, accessToken := true, idToken := true, refreshToken := "rt2" } = some "success-without-rotation" ∧
    judgeBody { ok200 := false, idToken := true } = some "tokens-in-refused-response" ∧
    judgeBody { ok200 := true, accessToken := true, idToken := true, refreshToken := "rt2", rotatedTo := some "rt2" } = none := by decide +kernel

/-- **what the model does when a storage call fails AFTER the rotation** (a demand beyond the property: C07's "nothing is
    issued" is about requests refused on their merits; the observation layer does not raise the clause on these lines, see
    Driver/C07WireMon.lean): a storage call that fails AFTER the rotation (signing key / userinfo / private claims for
    the access or the ID token) ends the request with an error, but the storage has rotated - the presented token is gone, its
    successor exists and was never delivered; the monitor says `tokens-created-on-refused-request`.  (Why `c07_fault_history`
    excludes these faults.) -/
theorem c07_post_rotation_fault :
    let so := (runObsF 0 (demoState, obsOf demoState) ((demoFaults .provider).take 4)).1
    let s' := (Flow.stepF 0 so.1 (.refreshFault .provider (demoRefreshW "rt1") (.issuing "CreateIDToken"))).1
    showOutF (Flow.stepF 0 so.1 (.refreshFault .provider (demoRefreshW "rt1") (.issuing "CreateIDToken"))).2 = "error:ErrServerError" ∧
    (s'.store.refresh.map (·.token)) = ["rt2"] ∧
    (observeF 0 so.2 (.refresh (demoRefreshW "rt1")
        { minted := mintedIn so.1 s', handed := some "rt1", err := "server_error", created := true } { rotatedTo := some "rt2" })).2.2
      = some "tokens-created-on-refused-request" := by decide +kernel

/-- a handler that has not finished holds no tokens yet -/
def issuedBy : Flow.OutF → Option (String × String)
  | .x (.base (.issued (.refresh _ _ cur) (some nr))) => some (cur, nr)
  | _ => none

/-- **exactly one of two concurrent refreshes of one token gets tokens** (strictly rotating storage, every interleaving of the
    two handlers' lookups and rotations) - a WITNESS over the demo grant, all 6 schedules, both routers (not the statement for
    all states): the winner's answer carries "rt1" rotated to "rt2", the other handler's answer carries no tokens, and the
    storage ends with "rt2" alone -/
theorem c07_pair_at_most_one :
    let s := (runObsF 0 (demoState, obsOf demoState) ((demoFaults .provider).take 4)).1.1
    ∀ rt ∈ [Router.provider, Router.legacy],
    ∀ sched ∈ [[true, true, false, false], [true, false, true, false], [true, false, false, true],
               [false, true, true, false], [false, true, false, true], [false, false, true, true]],
      let r := Flow.stepPair 0 s rt (demoRefreshW "rt1") (demoRefreshW "rt1") sched
      ((issuedBy r.2.1).isSome != (issuedBy r.2.2.1).isSome) = true ∧
      (issuedBy r.2.1 = some ("rt1", "rt2") ∨ issuedBy r.2.2.1 = some ("rt1", "rt2")) ∧
      r.1.store.refresh.map (·.token) = ["rt2"] := by decide +kernel

end C07
