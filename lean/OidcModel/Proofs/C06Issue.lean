/-
  C06: theorems over the REGENERATED issuance functions themselves (Generated/IssueC06.lean, namespace GenC06):
  `removeUserinfoScopes`, the claim hash with the digest object as a value, `CreateIDToken`, `CreateJWT`,
  `CreateAccessToken`, `CreateTokenResponse`, `CreateDeviceTokenResponse`.

  Every statement is for ALL requests, clients (including ALL restriction functions), scope sets, storages (all answers of
  all storage methods, all capability flags), signing keys / signing functions and encryption functions.
-/
import OidcModel.Generated.IssueC06
import OidcModel.Proofs.C06
namespace C06
open Go Hand

theorem foldl_removeUserinfo (l acc : List String) :
    List.foldl (fun newScopeList scope =>
      if (scope == IssConst.ScopeProfile || scope == IssConst.ScopeEmail || scope == IssConst.ScopeAddress || scope == IssConst.ScopePhone) = true then newScopeList
      else Go.append newScopeList scope) acc l
    = acc ++ l.filter (fun s => !userinfoScopes.contains s) := by
  induction l generalizing acc with
  | nil => simp
  | cons x xs ih =>
    -- the Go text tests address before phone
    have hx : (x == IssConst.ScopeProfile || x == IssConst.ScopeEmail || x == IssConst.ScopeAddress || x == IssConst.ScopePhone) = userinfoScopes.contains x := by
      simp only [userinfoScopes, List.contains_cons, List.contains_nil, Bool.false_or, IssConst.ScopeProfile, IssConst.ScopeEmail, IssConst.ScopeAddress,
        IssConst.ScopePhone, Bool.or_assoc, Bool.or_comm (x == "address")]
    simp only [List.foldl_cons, ih, List.filter_cons, hx]
    cases userinfoScopes.contains x <;> simp [Go.append]

/-- `removeUserinfoScopes` (the regenerated loop) drops exactly profile / email / address / phone and keeps the order of the rest -/
theorem c06_remove_userinfo_scopes (now : Int) (scopes : List String) :
    GenC06.removeUserinfoScopes now scopes = scopes.filter (fun s => !userinfoScopes.contains s) := by
  unfold GenC06.removeUserinfoScopes GoX.foldList
  simpa using foldl_removeUserinfo scopes []

/-! ### the claim hash, the digest object being a VALUE -/

theorem encode_take_sum (h : IssHasher) (n : Nat) (hpos : 0 < n) (hle : n ≤ h.alg.size) :
    IssHasher.encode (List.take n (h.Sum Go.nil)) = Hand.digestPrefix h.alg n h.written := by
  obtain ⟨m, rfl⟩ := Nat.exists_eq_succ_of_ne_zero (Nat.ne_of_gt hpos)
  rw [IssHasher.Sum, ← List.map_take, List.take_range, Nat.min_eq_left hle, List.range_succ_eq_map]
  simp [IssHasher.encode]

/-- the digest prefix `crypto.HashString` returns is over EVERYTHING written to the digest object so far, and the object it
    leaves behind has the string appended: a second use of the same object hashes the concatenation -/
theorem hashString_spec (now : Int) (h : IssHasher) (s : String) (hn : h.nilp = false) :
    GenC06.HashString now h s true = (Hand.leftHalfHash h.alg (h.written ++ s), h.Write s) := by
  unfold GenC06.HashString
  simp only [Go.isNil, Go.Nilable.isNil, hn, Bool.false_eq_true, if_false, if_true, GoX.sliceTo, Hand.leftHalfHash]
  have hpos : 0 < h.alg.size / 2 := by cases h.alg <;> decide
  have := encode_take_sum (h.Write s) (h.alg.size / 2) hpos (Nat.div_le_self _ 2)
  cases ha : h.alg <;> simp_all [IssHasher.Size, IssHasher.Write, HashAlg.size]

/-- the regenerated `oidc.ClaimHash` obtains a FRESH digest object and hashes exactly the claim: it is the function the RP-side
    model (`Gen.ClaimHash`, Generated/Hash.lean, used by `rp.VerifyAccessToken`) computes -/
theorem claimHash_fresh (now : Int) (claim alg : String) : GenC06.ClaimHash now claim alg = Gen.ClaimHash now claim alg := by
  have hget : GenC06.GetHashAlgorithm now alg = (Gen.GetHashAlgorithm now alg).map IssHasher.fresh := by
    unfold GenC06.GetHashAlgorithm Gen.GetHashAlgorithm
    simp only [apply_ite (Except.map IssHasher.fresh)]
    rfl
  unfold GenC06.ClaimHash Gen.ClaimHash
  rw [hget]
  cases Gen.GetHashAlgorithm now alg with
  | error e => rfl
  | ok a => simp [Except.map, hashString_spec, IssHasher.fresh, Gen.HashString, Hand.leftHalfHash]

/-- reuse is visible: a digest object that already served one claim yields, for the next one, the hash of the concatenation -/
theorem hasher_reuse_visible (now : Int) (a : HashAlg) (s t : String) :
    (GenC06.HashString now (GenC06.HashString now (IssHasher.fresh a) s true).2 t true).1 = Hand.leftHalfHash a (s ++ t) := by
  rw [hashString_spec now (IssHasher.fresh a) s rfl]
  rw [hashString_spec now _ t rfl]
  simp [IssHasher.fresh, IssHasher.Write]

/-! ### the ID token: which scopes the storage is asked about -/

/-- a storage whose userinfo setters are asked about the scope list `E`, whatever list they are handed -/
def pinUserinfoScopes (st : IssStorage) (E : List String) : IssStorage :=
  { st with SetUserinfoFromScopes := fun u sub cid _ => st.SetUserinfoFromScopes u sub cid E,
            SetUserinfoFromRequest := fun u r _ => st.SetUserinfoFromRequest u r E }

/-- a storage whose userinfo-by-scopes setters are never to be called -/
def noUserinfoByScopes (st : IssStorage) : IssStorage :=
  { st with SetUserinfoFromScopes := fun _ _ _ _ => .error "must-not-be-called",
            SetUserinfoFromRequest := fun _ _ _ => .error "must-not-be-called" }

/-- the ID token depends on the storage's userinfo-by-scopes setters only through their answers for the scope list `E`, and not at all
    when the token-exchange storage answers for a token-exchange request or `E` is empty -/
theorem createIDToken_userinfo_setters (now : Int) (issuer : String) (request : IssRequest) (validity : Int) (accessToken code : String)
    (storage : IssStorage) (client : IssClient)
    (f : IssUserInfo → String → String → List String → Go.R IssUserInfo) (g : IssUserInfo → IssRequest → List String → Go.R IssUserInfo)
    (E : List String)
    (hE : E = idTokenScopes (client.RestrictAdditionalIdTokenScopes request.GetScopes) (accessToken != "") client.IDTokenUserinfoClaimsAssertion)
    (h : (request.is_TokenExchangeRequest && storage.is_TokenExchangeStorage) = false → E ≠ [] →
      (∀ u sub cid, f u sub cid E = storage.SetUserinfoFromScopes u sub cid E) ∧ ∀ u r, g u r E = storage.SetUserinfoFromRequest u r E) :
    GenC06.CreateIDToken now issuer request validity accessToken code storage client =
    GenC06.CreateIDToken now issuer request validity accessToken code { storage with SetUserinfoFromScopes := f, SetUserinfoFromRequest := g } client := by
  unfold GenC06.CreateIDToken
  simp only []
  cases storage.SigningKey with
  | error e => rfl
  | ok key =>
    simp only []
    -- the at_hash stage does not ask the setters; the scope list it hands on is `E`
    generalize hst : (if (accessToken != "") = true then _ else _ : Go.R (IssIDTokenClaims × List String)) = r1
    rcases r1 with e | ⟨c1, scopes⟩
    · rfl
    have hsc : scopes = E := by
      subst hE
      by_cases hat : accessToken = ""
      · subst hat; cases hst; rfl
      · have hat' : (accessToken != "") = true := by simpa using hat
        simp only [hat', if_true] at hst
        cases hh : GenC06.ClaimHash now accessToken key.SignatureAlgorithm with
        | error e => rw [hh] at hst; cases hst
        | ok a =>
          rw [hh] at hst; cases hst
          cases client.IDTokenUserinfoClaimsAssertion <;> simp [idTokenScopes, hat', c06_remove_userinfo_scopes]
    subst hsc
    simp only []
    cases hte : (request.is_TokenExchangeRequest && storage.is_TokenExchangeStorage) with
    | true => rfl
    | false =>
      by_cases hnil : scopes = []
      · subst hnil; rfl
      · obtain ⟨hf, hg⟩ := h hte hnil
        simp only [hf, hg]

theorem c06_id_token_scopes (now : Int) (issuer : String) (request : IssRequest) (validity : Int) (accessToken code : String)
    (storage : IssStorage) (client : IssClient) :
    GenC06.CreateIDToken now issuer request validity accessToken code storage client =
    GenC06.CreateIDToken now issuer request validity accessToken code
      (pinUserinfoScopes storage (idTokenScopes (client.RestrictAdditionalIdTokenScopes request.GetScopes) (accessToken != "") client.IDTokenUserinfoClaimsAssertion))
      client :=
  createIDToken_userinfo_setters now issuer request validity accessToken code storage client _ _ _ rfl
    fun _ _ => ⟨fun _ _ _ => rfl, fun _ _ => rfl⟩

/-- the userinfo-by-scopes setters are not consulted at all when the token-exchange storage answers for a token-exchange request,
    or when no scope is left after the restriction -/
theorem c06_id_token_no_userinfo_call (now : Int) (issuer : String) (request : IssRequest) (validity : Int) (accessToken code : String)
    (storage : IssStorage) (client : IssClient)
    (hno : (request.is_TokenExchangeRequest && storage.is_TokenExchangeStorage) = true ∨
      idTokenScopes (client.RestrictAdditionalIdTokenScopes request.GetScopes) (accessToken != "") client.IDTokenUserinfoClaimsAssertion = []) :
    GenC06.CreateIDToken now issuer request validity accessToken code storage client =
    GenC06.CreateIDToken now issuer request validity accessToken code (noUserinfoByScopes storage) client := by
  refine createIDToken_userinfo_setters now issuer request validity accessToken code storage client _ _ _ rfl fun hte hE => ?_
  rcases hno with h | h
  · rw [hte] at h; cases h
  · exact absurd h hE

/-! ### non-vacuity: the restriction cross on a concrete registration -/

/-- (for the `decide`d examples only) -/
instance decEqExcept {ε α : Type} [DecidableEq ε] [DecidableEq α] : DecidableEq (Except ε α) := fun a b =>
  match a, b with
  | .ok x, .ok y => if h : x = y then isTrue (by rw [h]) else isFalse (by intro e; cases e; exact h rfl)
  | .error x, .error y => if h : x = y then isTrue (by rw [h]) else isFalse (by intro e; cases e; exact h rfl)
  | .ok _, .error _ => isFalse (by intro e; cases e)
  | .error _, .ok _ => isFalse (by intro e; cases e)

/-- a storage that writes the scope list it is asked about into the userinfo / the private claims, and a key whose "signature"
    spells out the claim names (so that the examples can be read) -/
def exStorage : IssStorage :=
  { SetUserinfoFromScopes := fun u sub _ sc => .ok { u with Subject := sub, Claims := sc.map (fun s => (s, "v")) },
    GetPrivateClaimsFromScopes := fun _ _ sc => .ok (sc.map (fun s => (s, "v"))),
    SigningKey := .ok { signID := fun c => .ok ("id[" ++ ",".intercalate (c.UserInfo.Claims.map (·.1)) ++ "]at_hash=" ++ c.AccessTokenHash ++ ";c_hash=" ++ c.CodeHash),
                        signAT := fun c => .ok ("at[" ++ ",".intercalate (c.Claims.map (·.1)) ++ "]") } }

/-- custom_scope only into access tokens, custom_scope2 only into ID tokens -/
def exClient : IssClient :=
  { GetID := "rp", RestrictAdditionalIdTokenScopes := fun l => l.filter (· != "custom_scope"),
    RestrictAdditionalAccessTokenScopes := fun l => l.filter (· != "custom_scope2") }

def exRequest : IssRequest :=
  { GetSubject := "u1", GetClientID := "rp", GetScopes := ["openid", "email", "custom_scope", "custom_scope2"], is_AuthRequest := true, GetNonce := "n" }

example : GenC06.CreateIDToken 2000000000000000000 "https://op" exRequest (3600 * Go.second) "AT" "CODE" exStorage exClient
    = .ok "id[openid,custom_scope2]at_hash=H(sha256/2,AT);c_hash=H(sha256/2,CODE)" := by decide +kernel
example : GenC06.CreateIDToken 2000000000000000000 "https://op" exRequest (3600 * Go.second) "" "" exStorage exClient
    = .ok "id[openid,email,custom_scope2]at_hash=;c_hash=" := by decide +kernel
example : GenC06.CreateJWT 2000000000000000000 "https://op" exRequest 2000000300000000000 "at1" exClient exStorage = .ok "at[openid,custom_scope]" := by decide +kernel
example : (GenC06.CreateTokenResponse 2000000000000000000 exRequest { exClient with AccessTokenType := 1 }
      { Storage := { exStorage with CreateAccessToken := fun _ => .ok ("at1", 2000000300000000000) }, IssuerFromContext := "https://op" } true "CODE" "").map
      (fun r => (r.AccessToken, r.ExpiresIn, r.Scope, r.State))
    = .ok ("at[openid,custom_scope]", 300, ["openid", "email", "custom_scope", "custom_scope2"], "") := by decide +kernel

/-! ### the ID token: the claims that are signed -/

def withSubject (t : TokenClaimsGo) (s : String) : TokenClaimsGo := { t with Subject := s }

/-- Whenever `CreateIDToken` returns a token it is the signature (go-jose, an arbitrary function of the key) over claims `c`
    such that: `at_hash` is absent exactly when no access token was handed in and otherwise is `ClaimHash(accessToken)`,
    `c_hash` is absent exactly when no code was handed in and otherwise is `ClaimHash(code)` - each computed by the function
    the RP verifies with (`Gen.ClaimHash`), i.e. from a FRESH digest over exactly that string; the registered claims are those
    of the regenerated `NewIDTokenClaims` for this request (nonce / acr only from an authorization request, expiry
    now + skew + validity), except that the subject may have been replaced by a non-empty subject the storage's userinfo carries -/
theorem c06_id_token_claims (now : Int) (issuer : String) (request : IssRequest) (validity : Int) (accessToken code : String)
    (storage : IssStorage) (client : IssClient) (tok : String)
    (h : GenC06.CreateIDToken now issuer request validity accessToken code storage client = .ok tok) :
    ∃ key c, storage.SigningKey = .ok key ∧ key.signerOK = true ∧ key.signID c = .ok tok ∧
      ((accessToken = "" ∧ c.AccessTokenHash = "") ∨ (accessToken ≠ "" ∧ Gen.ClaimHash now accessToken key.SignatureAlgorithm = .ok c.AccessTokenHash)) ∧
      ((code = "" ∧ c.CodeHash = "") ∨ (code ≠ "" ∧ Gen.ClaimHash now code key.SignatureAlgorithm = .ok c.CodeHash)) ∧
      c.toTokenClaimsGo = withSubject (Gen.NewIDTokenClaims now issuer request.GetSubject request.GetAudience (now + client.ClockSkew + validity) request.GetAuthTime
          (if request.is_AuthRequest then request.GetNonce else "") (if request.is_AuthRequest then request.GetACR else "") request.GetAMR request.GetClientID
          client.ClockSkew).TokenClaims c.Subject ∧
      (c.Subject = request.GetSubject ∨ (c.Subject ≠ "" ∧ c.Subject = c.UserInfo.Subject)) := by
  unfold GenC06.CreateIDToken at h
  simp only [] at h
  -- the claims before hashes and userinfo are added enter only through the three facts `h0`
  generalize hc0 : (if request.is_TokenActorRequest = true then _ else _ : IssIDTokenClaims) = c0 at h
  have h0 : c0.AccessTokenHash = "" ∧ c0.CodeHash = "" ∧ c0.toTokenClaimsGo =
      (Gen.NewIDTokenClaims now issuer request.GetSubject request.GetAudience (now + client.ClockSkew + validity) request.GetAuthTime
          (if request.is_AuthRequest then request.GetNonce else "") (if request.is_AuthRequest then request.GetACR else "") request.GetAMR request.GetClientID
          client.ClockSkew).TokenClaims := by
    subst hc0
    cases request.is_AuthRequest <;> cases request.is_TokenActorRequest <;> exact ⟨rfl, rfl, rfl⟩
  clear hc0
  cases hkey : storage.SigningKey with
  | error e => rw [hkey] at h; cases h
  | ok key =>
  rw [hkey] at h
  simp only [] at h
  generalize hst1 : (if (accessToken != "") = true then _ else _ : Go.R (IssIDTokenClaims × List String)) = r1 at h
  rcases r1 with e | ⟨c1, scopes⟩
  · cases h
  have e1 : ((accessToken = "" ∧ c1.AccessTokenHash = "") ∨ (accessToken ≠ "" ∧ GenC06.ClaimHash now accessToken key.SignatureAlgorithm = .ok c1.AccessTokenHash))
      ∧ c1.CodeHash = "" ∧ c1.toTokenClaimsGo = c0.toTokenClaimsGo := by
    by_cases hat : accessToken = ""
    · simp only [hat, bne_self_eq_false, Bool.false_eq_true, if_false, Except.ok.injEq, Prod.mk.injEq] at hst1
      rw [← hst1.1]
      exact ⟨Or.inl ⟨hat, h0.1⟩, h0.2.1, rfl⟩
    · cases hh : GenC06.ClaimHash now accessToken key.SignatureAlgorithm with
      | error e => simp [hat, hh] at hst1
      | ok a =>
        simp only [bne_iff_ne, ne_eq, hat, not_false_eq_true, if_true, hh, Except.ok.injEq, Prod.mk.injEq] at hst1
        rw [← hst1.1]
        exact ⟨Or.inr ⟨hat, rfl⟩, h0.2.1, rfl⟩
  clear hst1
  -- userinfo: the claims are passed on, or the storage's answer is set into them
  simp only [] at h
  generalize hst2 : (if (request.is_TokenExchangeRequest && storage.is_TokenExchangeStorage) = true then _ else _ : Go.R IssIDTokenClaims) = r2 at h
  rcases r2 with e | c2
  · cases h
  simp only [] at h
  have e2 : c2.AccessTokenHash = c1.AccessTokenHash ∧ c2.CodeHash = c1.CodeHash ∧
      c2.toTokenClaimsGo = withSubject c1.toTokenClaimsGo c2.Subject ∧ (c2.Subject = c1.Subject ∨ c2.Subject = c2.UserInfo.Subject) := by
    clear h
    split at hst2
    · split at hst2
      · cases hst2
      · cases Except.ok.inj hst2; exact ⟨rfl, rfl, rfl, Or.inr rfl⟩
    · split at hst2
      · cases hst2
      · rename_i c hinner
        cases Except.ok.inj hst2
        split at hinner
        · split at hinner
          · cases hinner
          · split at hinner
            · cases hinner
            · cases Except.ok.inj hinner; exact ⟨rfl, rfl, rfl, Or.inr rfl⟩
        · cases Except.ok.inj hinner; exact ⟨rfl, rfl, rfl, Or.inl rfl⟩
  clear hst2
  -- an empty subject is replaced by the request's
  generalize hs : (if (c2.Subject == "") = true then _ else c2 : IssIDTokenClaims) = c2' at h
  have e2' : c2'.AccessTokenHash = c2.AccessTokenHash ∧ c2'.CodeHash = c2.CodeHash ∧ c2'.UserInfo = c2.UserInfo ∧
      c2'.toTokenClaimsGo = withSubject c2.toTokenClaimsGo c2'.Subject ∧
      ((c2.Subject = "" ∧ c2'.Subject = request.GetSubject) ∨ (c2.Subject ≠ "" ∧ c2'.Subject = c2.Subject)) := by
    subst hs
    by_cases hsub : c2.Subject = "" <;> simp [hsub, withSubject]
  clear hs
  generalize hst3 : (if (code != "") = true then _ else _ : Go.R IssIDTokenClaims) = r3 at h
  rcases r3 with e | c3
  · cases h
  simp only [] at h
  have e3 : c3.AccessTokenHash = c2'.AccessTokenHash ∧ c3.toTokenClaimsGo = c2'.toTokenClaimsGo ∧ c3.UserInfo = c2'.UserInfo ∧
      ((code = "" ∧ c3.CodeHash = c2'.CodeHash) ∨ (code ≠ "" ∧ GenC06.ClaimHash now code key.SignatureAlgorithm = .ok c3.CodeHash)) := by
    by_cases hc : code = ""
    · simp only [hc, bne_self_eq_false, Bool.false_eq_true, if_false, Except.ok.injEq] at hst3
      rw [← hst3]
      exact ⟨rfl, rfl, rfl, Or.inl ⟨hc, rfl⟩⟩
    · cases hh : GenC06.ClaimHash now code key.SignatureAlgorithm with
      | error e => simp [hc, hh] at hst3
      | ok ch =>
        simp only [bne_iff_ne, ne_eq, hc, not_false_eq_true, if_true, hh, Except.ok.injEq] at hst3
        rw [← hst3]
        exact ⟨rfl, rfl, rfl, Or.inr ⟨hc, rfl⟩⟩
  clear hst3
  have hok : key.signerOK = true := by
    by_cases hok : key.signerOK = true
    · exact hok
    · simp [Hand.issSignerFromKey, hok] at h
  refine ⟨key, c3, rfl, hok, ?_, ?_, ?_, ?_, ?_⟩
  · simpa [Hand.issSignerFromKey, hok, Hand.issSignID] using h
  · rw [← claimHash_fresh, e3.1, e2'.1, e2.1]; exact e1.1
  · rw [← claimHash_fresh]
    rcases e3.2.2.2 with ⟨hc, he⟩ | hc
    · exact Or.inl ⟨hc, by rw [he, e2'.2.1, e2.2.1, e1.2.1]⟩
    · exact Or.inr hc
  · rw [e3.2.1, e2'.2.2.2.1, e2.2.2.1, e1.2.2, h0.2.2]; rfl
  · have hsubj : c3.Subject = c2'.Subject := congrArg TokenClaimsGo.Subject e3.2.1
    rw [hsubj, e3.2.2.1, e2'.2.2.1]
    rcases e2'.2.2.2.2 with ⟨_, h'⟩ | ⟨hne, h'⟩
    · exact Or.inl h'
    · rw [h']
      rcases e2.2.2.2 with h1 | h1
      · left; rw [h1]
        have := congrArg TokenClaimsGo.Subject (e1.2.2.trans h0.2.2)
        simpa [Gen.NewIDTokenClaims] using this
      · exact Or.inr ⟨hne, h1⟩

/-- a storage whose private-claims getters are asked about the scope list `E`, whatever list they are handed -/
def pinPrivateClaimsScopes (st : IssStorage) (E : List String) : IssStorage :=
  { st with GetPrivateClaimsFromScopes := fun sub cid _ => st.GetPrivateClaimsFromScopes sub cid E,
            GetPrivateClaimsFromRequest := fun r _ => st.GetPrivateClaimsFromRequest r E }

theorem c06_access_token_scopes (now : Int) (issuer : String) (request : IssRequest) (exp : Int) (id : String) (client : IssClient) (storage : IssStorage) :
    GenC06.CreateJWT now issuer request exp id client storage =
    GenC06.CreateJWT now issuer request exp id client
      (pinPrivateClaimsScopes storage (accessTokenScopes (client.RestrictAdditionalAccessTokenScopes request.GetScopes))) := by
  unfold GenC06.CreateJWT pinPrivateClaimsScopes
  simp [accessTokenScopes, c06_remove_userinfo_scopes]

theorem createTokens_spec (now : Int) (request : IssRequest) (storage : IssStorage) (cur : String) (client : IssClient) :
    GenC06.createTokens now request storage cur client =
      if request.needsRefreshToken then storage.CreateAccessAndRefreshTokens request cur
      else match storage.CreateAccessToken request with
        | .error e => .error e
        | .ok (id, exp) => .ok (id, "", exp) := by
  unfold GenC06.createTokens Hand.issNeedsRefreshToken
  simp only []
  split <;> rfl

theorem c06_access_token (now : Int) (request : IssRequest) (tt : Nat) (creator : IssCreator) (client : IssClient) (cur : String)
    (at' rt : String) (validity : Int)
    (h : GenC06.CreateAccessToken now request tt creator client cur = .ok (at', rt, validity)) :
    ∃ id exp, GenC06.createTokens now request creator.Storage cur client = .ok (id, rt, exp) ∧
      validity = exp + (if client.nilp then 0 else client.ClockSkew) - now ∧
      (tt = IssConst.AccessTokenTypeJWT → GenC06.CreateJWT now creator.IssuerFromContext request exp id client creator.Storage = .ok at') ∧
      (tt ≠ IssConst.AccessTokenTypeJWT → creator.Crypto.Encrypt (id ++ ":" ++ request.GetSubject) = .ok at') := by
  unfold GenC06.CreateAccessToken at h
  simp only [] at h
  split at h
  · simp at h
  rename_i _ id rt' exp hct
  split at h
  · rename_i hjwt
    split at h
    · simp at h
    · rename_i _ tok hj
      simp only [Except.ok.injEq, Prod.mk.injEq] at h
      obtain ⟨rfl, rfl, rfl⟩ := h
      refine ⟨id, exp, hct, ?_, ?_, ?_⟩
      · simp only [Go.notNil, Go.Nilable.isNil, Go.tSub, Go.tAdd]; by_cases hn : client.nilp = true <;> simp [hn]
      · intro _; exact hj
      · intro hne; simp at hjwt; exact absurd hjwt hne
  · rename_i hjwt
    split at h
    · simp at h
    · rename_i _ tok hj
      simp only [Except.ok.injEq, Prod.mk.injEq] at h
      obtain ⟨rfl, rfl, rfl⟩ := h
      refine ⟨id, exp, hct, ?_, ?_, ?_⟩
      · simp only [Go.notNil, Go.Nilable.isNil, Go.tSub, Go.tAdd]; by_cases hn : client.nilp = true <;> simp [hn]
      · intro he; simp at hjwt; exact absurd he hjwt
      · intro _; simpa [GenC06.CreateBearerToken, HAdd.hAdd] using hj


theorem c06_response_fields (now : Int) (request : IssRequest) (client : IssClient) (creator : IssCreator) (createAccessToken : Bool)
    (code cur : String) (r : IssTokenResponse)
    (h : GenC06.CreateTokenResponse now request client creator createAccessToken code cur = .ok r) :
    r.Scope = request.GetScopes ∧ r.TokenType = IssConst.BearerToken ∧
    r.State = (if request.is_AuthRequest && code == "" then request.GetState else "") ∧
    (request.is_AuthRequest = true → creator.Storage.DeleteAuthRequest request.GetID = .ok ()) ∧
    GenC06.CreateIDToken now creator.IssuerFromContext request client.IDTokenLifetime r.AccessToken code creator.Storage client = .ok r.IDToken ∧
    (createAccessToken = false → r.AccessToken = "" ∧ r.RefreshToken = "" ∧ r.ExpiresIn = 0) ∧
    (createAccessToken = true → ∃ validity, GenC06.CreateAccessToken now request client.AccessTokenType creator client cur = .ok (r.AccessToken, r.RefreshToken, validity)
        ∧ r.ExpiresIn = validity / Go.second) := by
  unfold GenC06.CreateTokenResponse at h
  simp only [] at h
  split at h
  · simp at h
  rename_i _ at' rt validity hat
  split at h
  · simp at h
  rename_i _ idToken hid
  split at h
  · simp at h
  rename_i _ state hstate
  simp only [Except.ok.injEq] at h
  subst h
  refine ⟨rfl, rfl, ?_, ?_, hid, ?_, ?_⟩
  · split at hstate
    · rename_i har; split at hstate
      · simp at hstate
      · simp only [Except.ok.injEq] at hstate; subst hstate; by_cases hc : code = "" <;> simp [har, hc]
    · rename_i har; simp only [Except.ok.injEq] at hstate; subst hstate; simp [har]
  · intro har
    rw [har] at hstate
    simp only [if_true] at hstate
    split at hstate
    · simp at hstate
    · rename_i u hdel; cases u; exact hdel
  · intro hf; subst hf; simp at hat; obtain ⟨rfl, rfl, rfl⟩ := hat; simp [Go.dSeconds]
  · intro ht; subst ht
    simp only [if_true] at hat
    split at hat
    · simp at hat
    · rename_i _ a b c hc
      simp only [Except.ok.injEq, Prod.mk.injEq] at hat
      obtain ⟨rfl, rfl, rfl⟩ := hat
      exact ⟨_, hc, rfl⟩

theorem c06_device_response (now : Int) (request : IssRequest) (creator : IssCreator) (client : IssClient) (r : IssTokenResponse)
    (h : GenC06.CreateDeviceTokenResponse now request creator client = .ok r) :
    r.Scope = request.GetScopes ∧ r.TokenType = IssConst.BearerToken ∧ r.State = "" ∧
    (∃ validity, GenC06.CreateAccessToken now request client.AccessTokenType creator client "" = .ok (r.AccessToken, r.RefreshToken, validity)
        ∧ r.ExpiresIn = validity / Go.second) ∧
    (if request.is_IDTokenRequest && request.GetScopes.contains IssConst.ScopeOpenID
      then GenC06.CreateIDToken now creator.IssuerFromContext request client.IDTokenLifetime r.AccessToken "" creator.Storage client = .ok r.IDToken
      else r.IDToken = "") := by
  unfold GenC06.CreateDeviceTokenResponse at h
  simp only [] at h
  split at h
  · simp at h
  rename_i _ at' rt validity hat
  split at h
  · simp at h
  rename_i _ resp hresp
  simp only [Except.ok.injEq] at h
  subst h
  split at hresp
  · rename_i hcond
    split at hresp
    · simp at hresp
    · rename_i _ tok hid
      simp only [Except.ok.injEq] at hresp
      subst hresp
      refine ⟨rfl, rfl, rfl, ⟨_, hat, rfl⟩, ?_⟩
      simp only [Go.contains] at hcond
      rw [if_pos hcond]; exact hid
  · rename_i hcond
    simp only [Except.ok.injEq] at hresp
    subst hresp
    refine ⟨rfl, rfl, rfl, ⟨_, hat, rfl⟩, ?_⟩
    simp only [Go.contains] at hcond
    rw [if_neg hcond]


/-! ### corollaries: composition with the RP-side model and with the storage's answers -/

/-- the at_hash of an issued ID token is accepted by the library's own `rp.VerifyAccessToken` for the access token it was issued with -/
theorem c06_hash_binding_issued (now : Int) (issuer : String) (request : IssRequest) (validity : Int) (accessToken code : String)
    (storage : IssStorage) (client : IssClient) (tok : String)
    (h : GenC06.CreateIDToken now issuer request validity accessToken code storage client = .ok tok) :
    ∃ key c, storage.SigningKey = .ok key ∧ key.signID c = .ok tok ∧
      Gen.RPVerifyAccessToken now accessToken c.AccessTokenHash key.SignatureAlgorithm = .ok () := by
  obtain ⟨key, c, hk, _, hs, hat, _⟩ := c06_id_token_claims now issuer request validity accessToken code storage client tok h
  refine ⟨key, c, hk, hs, ?_⟩
  rcases hat with ⟨_, h0⟩ | ⟨_, h1⟩
  · unfold Gen.RPVerifyAccessToken; simp [h0, Go.ok]
  · exact c06_hash_binding now accessToken key.SignatureAlgorithm c.AccessTokenHash h1

theorem withSubject_newIDTokenClaims (now : Int) (iss sub s : String) (aud : List String) (exp authTime : Int) (nonce acr : String)
    (amr : List String) (cid : String) (skew : Int) :
    withSubject (Gen.NewIDTokenClaims now iss sub aud exp authTime nonce acr amr cid skew).TokenClaims s
      = (Gen.NewIDTokenClaims now iss s aud exp authTime nonce acr amr cid skew).TokenClaims := by
  simp [withSubject, Gen.NewIDTokenClaims]

/-- issuance ∘ verification on the regenerated `CreateIDToken`: the claims it signs pass every condition of the library's own RP
    verifier (issuer of the request context, this client, the request's nonce) from issuance until 4 s before the configured
    lifetime ends - for every request, storage, client registration (skew ≥ 0) and signing key -/
theorem c06_issued_id_token_verifies (now now' : Int) (issuer : String) (request : IssRequest) (validity : Int) (accessToken code : String)
    (storage : IssStorage) (client : IssClient) (tok : String)
    (h : GenC06.CreateIDToken now issuer request validity accessToken code storage client = .ok tok)
    (hcid : request.GetClientID ≠ "") (hsub : request.GetSubject ≠ "") (hskew : 0 ≤ client.ClockSkew) (hepoch : Go.second ≤ now - client.ClockSkew)
    (hwin : now ≤ now' ∧ now' + 4 * Go.second ≤ now + validity) :
    ∃ key c, storage.SigningKey = .ok key ∧ key.signID c = .ok tok ∧
      C01.idTokenOKMargin { Issuer := issuer, ClientID := request.GetClientID, Offset := Go.second,
                            Nonce := some (if request.is_AuthRequest then request.GetNonce else "") }
        c.toTokenClaimsGo.toClaims now' = true := by
  obtain ⟨key, c, hk, _, hs, _, _, hc, hsubj⟩ := c06_id_token_claims now issuer request validity accessToken code storage client tok h
  refine ⟨key, c, hk, hs, ?_⟩
  rw [hc, withSubject_newIDTokenClaims]
  have hne : c.Subject ≠ "" := by
    rcases hsubj with h1 | h1
    · rw [h1]; exact hsub
    · exact h1.1
  exact c06_id_token_claims_verify now now' issuer c.Subject request.GetAudience request.GetAuthTime _ _ request.GetAMR request.GetClientID
    client.ClockSkew validity hcid hne hskew hepoch hwin

/-- `expires_in` of a token response is the remaining lifetime of what the STORAGE created: (storage expiry + client clock skew − now),
    in whole seconds; the refresh token is the storage's -/
theorem c06_expires_in (now : Int) (request : IssRequest) (client : IssClient) (creator : IssCreator) (code cur : String) (r : IssTokenResponse)
    (h : GenC06.CreateTokenResponse now request client creator true code cur = .ok r) :
    ∃ id exp, GenC06.createTokens now request creator.Storage cur client = .ok (id, r.RefreshToken, exp) ∧
      r.ExpiresIn = (exp + (if client.nilp then 0 else client.ClockSkew) - now) / Go.second := by
  obtain ⟨_, _, _, _, _, _, hat⟩ := c06_response_fields now request client creator true code cur r h
  obtain ⟨validity, hca, hexp⟩ := hat rfl
  obtain ⟨id, exp, hct, hv, _, _⟩ := c06_access_token now request _ creator client cur _ _ _ hca
  exact ⟨id, exp, hct, by rw [hexp, hv]⟩

end C06
