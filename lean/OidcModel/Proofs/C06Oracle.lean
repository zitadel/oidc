/-
  C06 — ONE fetch of the signing key per token, with the storage as a state-passing oracle whose answers may depend on the
  calls made so far (Generated/IssueC06O.lean, namespace GenC06O).  The bridges `c06o_id_token_bridge` / `c06o_jwt_bridge`
  equate `CreateIDToken` / `CreateJWT` over the oracle with the one-value-per-method translation (GenC06) on the view of the
  storage at the moment of each call; from them: signature and at_hash / c_hash of a token come from the key of its single
  fetch (`c06o_id_token_one_key`, `c06o_jwt_one_key`, `*_single_fetch`), also under any schedule of key changes between storage
  calls (`c06o_key_schedule`, `c06o_later_change_irrelevant`).  This is the module the C06 check builds.
-/
import OidcModel.Proofs.C06Keys
import OidcModel.Generated.IssueC06O

namespace C06

/-- the one-value-per-method storage that answers every call of `CreateIDToken` the way the oracle `s` answers it AT THE MOMENT
    THE CALL IS MADE: the signing key is the answer to the first call; the userinfo setters are asked after it -/
def idView (s : IssOStorage) : IssStorage :=
  { is_TokenExchangeStorage := s.is_TokenExchangeStorage,
    is_CanSetUserinfoFromRequest := s.is_CanSetUserinfoFromRequest,
    is_CanGetPrivateClaimsFromRequest := s.is_CanGetPrivateClaimsFromRequest,
    SigningKey := s.signingKeyAt s.log,
    SetUserinfoFromTokenExchangeRequest := s.setUserinfoFromTokenExchangeRequestAt (s.log ++ ["SigningKey"]),
    SetUserinfoFromScopes := s.setUserinfoFromScopesAt (s.log ++ ["SigningKey"]),
    SetUserinfoFromRequest := s.setUserinfoFromRequestAt (s.log ++ ["SigningKey"] ++ ["SetUserinfoFromScopes"]) }

theorem c06o_id_token_bridge (now : Int) (issuer : String) (request : IssRequest) (validity : Int) (accessToken code : String)
    (s : IssOStorage) (client : IssClient) :
    GenC06O.CreateIDToken now issuer request validity accessToken code s client
      = GenC06.CreateIDToken now issuer request validity accessToken code (idView s) client := by
  unfold GenC06O.CreateIDToken GenC06.CreateIDToken
  simp only [IssOStorage.SigningKey, IssOStorage.SetUserinfoFromScopes, IssOStorage.SetUserinfoFromRequest,
    IssOStorage.SetUserinfoFromTokenExchangeRequest, IssOStorage.answer, idView, Hand.issSignAny]
  generalize Hand.issNewIDTokenClaims _ _ _ _ _ _ _ _ _ _ _ = c0
  generalize (if request.is_TokenActorRequest = true then _ else c0) = c1
  cases hk : s.signingKeyAt s.log with
  | error e => rfl
  | ok k =>
    simp only [IssOStorage.stepped_log, IssOStorage.stepped_te, IssOStorage.stepped_uis, IssOStorage.stepped_uite]
    generalize (if (accessToken != "") = true then _ else _ : Go.R (IssIDTokenClaims × List String)) = X
    rcases X with e | ⟨claims, scopes⟩
    · rfl
    · simp only []
      by_cases hA : (request.is_TokenExchangeRequest && s.is_TokenExchangeStorage) = true
      · simp only [hA, ↓reduceIte]
        generalize s.setUserinfoFromTokenExchangeRequestAt _ _ _ = r
        cases r <;> rfl
      · simp only [hA]
        by_cases hS : decide (Go.len scopes > 0) = true
        · simp only [hS, ↓reduceIte]
          generalize s.setUserinfoFromScopesAt _ _ _ _ _ = r
          cases r with
          | error e => rfl
          | ok u =>
            simp only [IssOStorage.stepped_log, IssOStorage.stepped_uireq, IssOStorage.stepped_uir, List.append_assoc, List.cons_append, List.nil_append]
            by_cases hR : s.is_CanSetUserinfoFromRequest = true
            · simp only [hR, ↓reduceIte]
              generalize s.setUserinfoFromRequestAt _ _ _ _ = r
              cases r <;> rfl
            · simp only [hR]
              rfl
        · simp only [hS]
          rfl

/-- which private-claims method `CreateJWT` asks for this request and storage -/
def privMethod (s : IssOStorage) (request : IssRequest) : String :=
  if (request.is_TokenExchangeRequest && s.is_TokenExchangeStorage) = true then "GetPrivateClaimsFromTokenExchangeRequest"
  else if s.is_CanGetPrivateClaimsFromRequest = true then "GetPrivateClaimsFromRequest" else "GetPrivateClaimsFromScopes"

/-- the one-value-per-method storage that answers every call of `CreateJWT` the way the oracle answers it at the moment the call
    is made: the private claims first (if there is a client), the signing key LAST -/
def jwtView (s : IssOStorage) (client : IssClient) (request : IssRequest) : IssStorage :=
  { is_TokenExchangeStorage := s.is_TokenExchangeStorage,
    is_CanSetUserinfoFromRequest := s.is_CanSetUserinfoFromRequest,
    is_CanGetPrivateClaimsFromRequest := s.is_CanGetPrivateClaimsFromRequest,
    GetPrivateClaimsFromTokenExchangeRequest := s.getPrivateClaimsFromTokenExchangeRequestAt s.log,
    GetPrivateClaimsFromRequest := s.getPrivateClaimsFromRequestAt s.log,
    GetPrivateClaimsFromScopes := s.getPrivateClaimsFromScopesAt s.log,
    SigningKey := s.signingKeyAt (if Go.notNil client = true then s.log ++ [privMethod s request] else s.log) }

theorem c06o_jwt_bridge (now : Int) (issuer : String) (request : IssRequest) (exp : Int) (id : String) (client : IssClient) (s : IssOStorage) :
    GenC06O.CreateJWT now issuer request exp id client s = GenC06.CreateJWT now issuer request exp id client (jwtView s client request) := by
  unfold GenC06O.CreateJWT GenC06.CreateJWT
  simp only [IssOStorage.SigningKey, IssOStorage.GetPrivateClaimsFromScopes, IssOStorage.GetPrivateClaimsFromRequest,
    IssOStorage.GetPrivateClaimsFromTokenExchangeRequest, IssOStorage.answer, jwtView, privMethod, Hand.issSignAny]
  generalize Hand.issNewAccessTokenClaims _ _ _ _ _ _ _ _ = c0
  by_cases hn : Go.notNil client = true
  · simp only [hn, ↓reduceIte]
    by_cases hA : (request.is_TokenExchangeRequest && s.is_TokenExchangeStorage) = true
    · simp only [hA, ↓reduceIte]
      generalize s.getPrivateClaimsFromTokenExchangeRequestAt _ _ = r
      cases r with
      | error e => rfl
      | ok p => simp only [IssOStorage.stepped_log, IssOStorage.stepped_key]; cases s.signingKeyAt _ <;> rfl
    · simp only [hA, ↓reduceIte, Bool.false_eq_true]
      by_cases hR : s.is_CanGetPrivateClaimsFromRequest = true
      · simp only [hR, ↓reduceIte]
        generalize s.getPrivateClaimsFromRequestAt _ _ _ = r
        cases r with
        | error e => rfl
        | ok p => simp only [IssOStorage.stepped_log, IssOStorage.stepped_key]; cases s.signingKeyAt _ <;> rfl
      · simp only [hR, ↓reduceIte, Bool.false_eq_true]
        generalize s.getPrivateClaimsFromScopesAt _ _ _ _ = r
        cases r with
        | error e => rfl
        | ok p => simp only [IssOStorage.stepped_log, IssOStorage.stepped_key]; cases s.signingKeyAt _ <;> rfl
  · simp only [hn, ↓reduceIte, Bool.false_eq_true]
    cases s.signingKeyAt _ <;> rfl

/-! ### what the bridges mean: ONE fetch of the signing key per token -/

/-- ONE KEY PER ID TOKEN, whatever the storage answers to later calls: a token that `CreateIDToken` returns is signed by the answer
    `key` of ONE `SigningKey` call (the first storage call of the function, made when the history was `s.log`), and at_hash /
    c_hash are the claim hashes of the access token / code under THAT key's algorithm. -/
theorem c06o_id_token_one_key (now : Int) (issuer : String) (request : IssRequest) (validity : Int) (accessToken code : String)
    (s : IssOStorage) (client : IssClient) (tok : String)
    (h : GenC06O.CreateIDToken now issuer request validity accessToken code s client = .ok tok) :
    ∃ key c, s.signingKeyAt s.log = .ok key ∧ key.signerOK = true ∧ key.signID c = .ok tok ∧
      ((accessToken = "" ∧ c.AccessTokenHash = "") ∨ (accessToken ≠ "" ∧ Gen.ClaimHash now accessToken key.SignatureAlgorithm = .ok c.AccessTokenHash)) ∧
      ((code = "" ∧ c.CodeHash = "") ∨ (code ≠ "" ∧ Gen.ClaimHash now code key.SignatureAlgorithm = .ok c.CodeHash)) := by
  rw [c06o_id_token_bridge] at h
  obtain ⟨key, c, hk, hok, hs, hat, hc, _⟩ := c06_id_token_claims _ _ _ _ _ _ _ _ _ h
  exact ⟨key, c, hk, hok, hs, hat, hc⟩

/-- SINGLE FETCH: the ID token does not depend on what the storage would answer to a `SigningKey` call at any other moment
    (a second fetch would make it depend on the answer at a later history) -/
theorem c06o_id_token_single_fetch (now : Int) (issuer : String) (request : IssRequest) (validity : Int) (accessToken code : String)
    (s : IssOStorage) (client : IssClient) (f : List String → Go.R IssSigningKey) (hf : f s.log = s.signingKeyAt s.log) :
    GenC06O.CreateIDToken now issuer request validity accessToken code { s with signingKeyAt := f } client
      = GenC06O.CreateIDToken now issuer request validity accessToken code s client := by
  rw [c06o_id_token_bridge, c06o_id_token_bridge]
  simp only [idView, hf]

/-- the same for the JWT access token: signed by the answer of ONE `SigningKey` call, the LAST storage call of `CreateJWT` -/
theorem c06o_jwt_one_key (now : Int) (issuer : String) (request : IssRequest) (exp : Int) (id : String) (client : IssClient) (s : IssOStorage)
    (tok : String) (h : GenC06O.CreateJWT now issuer request exp id client s = .ok tok) :
    ∃ key c, s.signingKeyAt (if Go.notNil client = true then s.log ++ [privMethod s request] else s.log) = .ok key ∧
      key.signerOK = true ∧ key.signAT c = .ok tok := by
  rw [c06o_jwt_bridge] at h
  exact c06_jwt_signed _ _ _ _ _ _ _ _ h

theorem c06o_jwt_single_fetch (now : Int) (issuer : String) (request : IssRequest) (exp : Int) (id : String) (client : IssClient) (s : IssOStorage)
    (f : List String → Go.R IssSigningKey)
    (hf : f (if Go.notNil client = true then s.log ++ [privMethod s request] else s.log)
      = s.signingKeyAt (if Go.notNil client = true then s.log ++ [privMethod s request] else s.log)) :
    GenC06O.CreateJWT now issuer request exp id client { s with signingKeyAt := f } = GenC06O.CreateJWT now issuer request exp id client s := by
  rw [c06o_jwt_bridge, c06o_jwt_bridge]
  simp only [jwtView, privMethod] at hf ⊢
  simp only [hf]

/-! ### key-change events BETWEEN ANY TWO STORAGE CALLS -/

/-- a schedule of key changes at the granularity of storage calls: `(n, k)` = from the n-th storage call of the process on
    (0-based, counting the calls of ALL methods) the storage returns `k`; later entries win -/
def keyAtCall (init : IssSigningKey) (changes : List (Nat × IssSigningKey)) (n : Nat) : IssSigningKey :=
  changes.foldl (fun cur ch => if ch.1 ≤ n then ch.2 else cur) init

def scheduledKey (s : IssOStorage) (init : IssSigningKey) (changes : List (Nat × IssSigningKey)) : IssOStorage :=
  { s with signingKeyAt := fun log => .ok (keyAtCall init changes log.length) }

/-- KEY-HISTORY THEOREM at call granularity (lifts `c06_key_history`, whose events fall between issuances): for EVERY schedule of
    key changes - any number of them, between any two storage calls, in particular between the calls of one token response -
    the ID token is signed with the key that was current at the moment of its (one) fetch, and its at_hash / c_hash are hashes
    under that same key's algorithm. -/
theorem c06o_key_schedule (now : Int) (issuer : String) (request : IssRequest) (validity : Int) (accessToken code : String)
    (s : IssOStorage) (client : IssClient) (init : IssSigningKey) (changes : List (Nat × IssSigningKey)) (tok : String)
    (h : GenC06O.CreateIDToken now issuer request validity accessToken code (scheduledKey s init changes) client = .ok tok) :
    let key := keyAtCall init changes s.log.length
    key.signerOK = true ∧ ∃ c, key.signID c = .ok tok ∧
      ((accessToken = "" ∧ c.AccessTokenHash = "") ∨ (accessToken ≠ "" ∧ Gen.ClaimHash now accessToken key.SignatureAlgorithm = .ok c.AccessTokenHash)) ∧
      ((code = "" ∧ c.CodeHash = "") ∨ (code ≠ "" ∧ Gen.ClaimHash now code key.SignatureAlgorithm = .ok c.CodeHash)) := by
  obtain ⟨key, c, hk, hok, hs, hat, hc⟩ := c06o_id_token_one_key _ _ _ _ _ _ _ _ _ h
  simp only [scheduledKey, Except.ok.injEq] at hk
  subst hk
  exact ⟨hok, c, hs, hat, hc⟩

/-- ... and a change scheduled AFTER the fetch (between the fetch and the userinfo calls, or later) does not alter the token -/
theorem c06o_later_change_irrelevant (now : Int) (issuer : String) (request : IssRequest) (validity : Int) (accessToken code : String)
    (s : IssOStorage) (client : IssClient) (init k' : IssSigningKey) (changes : List (Nat × IssSigningKey)) (n : Nat) (hn : s.log.length < n) :
    GenC06O.CreateIDToken now issuer request validity accessToken code (scheduledKey s init (changes ++ [(n, k')])) client
      = GenC06O.CreateIDToken now issuer request validity accessToken code (scheduledKey s init changes) client := by
  refine c06o_id_token_single_fetch now issuer request validity accessToken code (scheduledKey s init changes) client
    (fun log => .ok (keyAtCall init (changes ++ [(n, k')]) log.length)) ?_
  simp only [scheduledKey, keyAtCall, List.foldl_append, List.foldl_cons, List.foldl_nil, Nat.not_le.2 hn, if_false]
  rfl

/-! ### non-vacuity: a rotation RS256 -> ES384 between the fetch and the userinfo call -/

def exKeyRS : IssSigningKey :=
  { SignatureAlgorithm := "RS256", ID := "sig1", signID := fun c => .ok ("RS256/sig1:at_hash=" ++ c.AccessTokenHash ++ ";c_hash=" ++ c.CodeHash) }
def exKeyES : IssSigningKey :=
  { SignatureAlgorithm := "ES384", ID := "sig2", signID := fun c => .ok ("ES384/sig2:at_hash=" ++ c.AccessTokenHash ++ ";c_hash=" ++ c.CodeHash) }

/-- the key rotates right after the first storage call: the token is entirely the OLD key's (signature and both hashes) -/
example : GenC06O.CreateIDToken 2000000000000000000 "https://op" exRequest (3600 * Go.second) "AT" "CODE"
    (scheduledKey {} exKeyRS [(1, exKeyES)]) exClient = .ok "RS256/sig1:at_hash=H(sha256/2,AT);c_hash=H(sha256/2,CODE)" := by decide +kernel
/-- the key rotated before the request: entirely the NEW key's -/
example : GenC06O.CreateIDToken 2000000000000000000 "https://op" exRequest (3600 * Go.second) "AT" "CODE"
    (scheduledKey {} exKeyRS [(0, exKeyES)]) exClient = .ok "ES384/sig2:at_hash=H(sha384/2,AT);c_hash=H(sha384/2,CODE)" := by decide +kernel

end C06
