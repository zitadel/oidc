/-
  C16, history level, stated directly over operation lists (next to `c16_state_machine`, which says the same through the monitor):
  in EVERY history of device_authorization / approve / deny / expire / poll operations - by any clients in any presentation, on
  both routers, with a storage fault (time-out or other) injected into the state lookup of any poll, with colliding user codes,
  repeated polls, … - a poll is answered with tokens only if
    * its state lookup did not fail,
    * the user approved exactly the polled device code EARLIER in the history, and the tokens name the subject of that approval,
    * the poller is the client the device code is stored for, and that device code was handed out to this client by an
      earlier device_authorization request of the history (or was in the storage before the history began).
  By induction over the operation list with two invariants about the stored device authorizations.
-/
import OidcModel.Proofs.C16

namespace C16
open Go Gen Hand DevFlow

def stateAfter (s : St) (ops : List Op) : St := ops.foldl (fun s op => (step s op).1) s

/-- every stored approval was given by an `approve` operation of the history, for that device code, by that subject -/
def ApprInv (pre : List Op) (s : St) : Prop :=
  ∀ e ∈ s.prov.devices, e.state.Done = true → ∃ t, Op.approve e.deviceCode e.state.Subject t ∈ pre

/-- every stored device authorization was there at the start (`init`) or stems from a device_authorization request of the history
    by the client it is stored for -/
def OriginInv (init : List DeviceEntry) (pre : List Op) (s : St) : Prop :=
  ∀ e ∈ s.prov.devices, (∃ e0 ∈ init, e0.deviceCode = e.deviceCode ∧ e0.state.ClientID = e.state.ClientID) ∨
    ∃ now r rnd, Op.auth now r rnd ∈ pre ∧ r.clientID = e.state.ClientID ∧ NewDeviceCode rnd.bytes = e.deviceCode

theorem mem_mapDevice {p : DevProvider} {code : String} {f : DeviceAuthorizationState → DeviceAuthorizationState} {e' : DeviceEntry}
    (h : e' ∈ (mapDevice p code f).devices) :
    ∃ e ∈ p.devices, e'.deviceCode = e.deviceCode ∧ ((e.deviceCode = code ∧ e'.state = f e.state) ∨ (e.deviceCode ≠ code ∧ e' = e)) := by
  simp only [mapDevice, List.mem_map] at h
  obtain ⟨e, he, rfl⟩ := h
  refine ⟨e, he, ?_⟩
  by_cases hc : e.deviceCode = code
  · simp [hc]
  · simp [hc]

theorem step_auth_cases (s : St) (now : Int) (r : DevHttpRequest) (rnd : DevRandom) :
    (step s (.auth now r rnd)).1 = s ∨
    ∃ resp, (step s (.auth now r rnd)).1 = { s with prov := addDevice s.prov resp } ∧ resp.clientID = r.clientID ∧
      resp.DeviceCode = NewDeviceCode rnd.bytes := by
  simp only [step]
  cases hda : deviceAuthorization now s.router { s.prov with rnd := rnd, fault := none } r with
  | error e => left; rfl
  | ok resp =>
    right
    obtain ⟨req, _, hc⟩ := deviceAuthorization_cases.1 resp hda
    obtain ⟨uc, _, _, hresp⟩ := create_ok hc
    exact ⟨resp, rfl, by rw [hresp], by rw [hresp]⟩

theorem step_poll_state (s : St) (now : Int) (r : DevHttpRequest) (f : Option String) : (step s (.poll now r f)).1 = s := by
  simp only [step]
  split <;> rfl

theorem apprInv_step {pre : List Op} {s : St} (op : Op) (h : ApprInv pre s) : ApprInv (pre ++ [op]) (step s op).1 := by
  have mono : ∀ e ∈ s.prov.devices, e.state.Done = true → ∃ t, Op.approve e.deviceCode e.state.Subject t ∈ pre ++ [op] := by
    intro e he hd
    obtain ⟨t, ht⟩ := h e he hd
    exact ⟨t, List.mem_append_left _ ht⟩
  cases op with
  | auth now r rnd =>
    rcases step_auth_cases s now r rnd with hs | ⟨resp, hs, _, _⟩
    · rw [hs]; exact mono
    · rw [hs]
      intro e he hd
      simp only [addDevice, List.mem_append, List.mem_singleton] at he
      rcases he with he | rfl
      · exact mono e he hd
      · simp at hd
  | approve code subject authTime =>
    intro e' he' hd
    obtain ⟨e, he, hcode, hcase⟩ := mem_mapDevice (by simpa [step] using he')
    rcases hcase with ⟨hc, hst⟩ | ⟨_, rfl⟩
    · exact ⟨authTime, by rw [hcode, hc, hst]; simp⟩
    · exact mono e' he hd
  | deny code =>
    intro e' he' hd
    obtain ⟨e, he, hcode, hcase⟩ := mem_mapDevice (by simpa [step] using he')
    rcases hcase with ⟨_, hst⟩ | ⟨_, rfl⟩
    · rw [hst] at hd ⊢; rw [hcode]; exact mono e he hd
    · exact mono e' he hd
  | expire code expires =>
    intro e' he' hd
    obtain ⟨e, he, hcode, hcase⟩ := mem_mapDevice (by simpa [step] using he')
    rcases hcase with ⟨_, hst⟩ | ⟨_, rfl⟩
    · rw [hst] at hd ⊢; rw [hcode]; exact mono e he hd
    · exact mono e' he hd
  | poll now r f => rw [step_poll_state]; exact mono

theorem originInv_step {init : List DeviceEntry} {pre : List Op} {s : St} (op : Op) (h : OriginInv init pre s) :
    OriginInv init (pre ++ [op]) (step s op).1 := by
  have mono : ∀ e ∈ s.prov.devices, (∃ e0 ∈ init, e0.deviceCode = e.deviceCode ∧ e0.state.ClientID = e.state.ClientID) ∨
      ∃ now r rnd, Op.auth now r rnd ∈ pre ++ [op] ∧ r.clientID = e.state.ClientID ∧ NewDeviceCode rnd.bytes = e.deviceCode := by
    intro e he
    rcases h e he with h1 | ⟨now, r, rnd, hm, h2, h3⟩
    · exact Or.inl h1
    · exact Or.inr ⟨now, r, rnd, List.mem_append_left _ hm, h2, h3⟩
  have mapped : ∀ (code : String) (f : DeviceAuthorizationState → DeviceAuthorizationState), (∀ st, (f st).ClientID = st.ClientID) →
      OriginInv init (pre ++ [op]) { s with prov := mapDevice s.prov code f } := by
    intro code f hf e' he'
    obtain ⟨e, he, hcode, hcase⟩ := mem_mapDevice he'
    rcases hcase with ⟨_, hst⟩ | ⟨_, rfl⟩
    · rw [hst, hf, hcode]; exact mono e he
    · exact mono e' he
  cases op with
  | auth now r rnd =>
    rcases step_auth_cases s now r rnd with hs | ⟨resp, hs, hcid, hdc⟩
    · rw [hs]; exact mono
    · rw [hs]
      intro e he
      simp only [addDevice, List.mem_append, List.mem_singleton] at he
      rcases he with he | rfl
      · exact mono e he
      · exact Or.inr ⟨now, r, rnd, by simp, hcid.symm, hdc.symm⟩
  | approve code subject authTime => exact mapped code _ (fun _ => rfl)
  | deny code => exact mapped code _ (fun _ => rfl)
  | expire code expires => exact mapped code _ (fun _ => rfl)
  | poll now r f => rw [step_poll_state]; exact mono

theorem invs_after (init : List DeviceEntry) (ops : List Op) : ∀ (done : List Op) (s : St), ApprInv done s → OriginInv init done s →
    ApprInv (done ++ ops) (stateAfter s ops) ∧ OriginInv init (done ++ ops) (stateAfter s ops) := by
  induction ops with
  | nil => intro done s h1 h2; simpa [stateAfter] using And.intro h1 h2
  | cons op rest ih =>
    intro done s h1 h2
    have := ih (done ++ [op]) (step s op).1 (apprInv_step op h1) (originInv_step op h2)
    simpa [stateAfter, List.append_assoc] using this

/-- **C16, history level: tokens only after approval of that very device code, only to the initiating client.**
    `s0`: any provider state in which no stored device authorization is approved yet; `pre`: ANY history. -/
theorem c16_tokens_only_after_approval (s0 : St) (h0 : ∀ e ∈ s0.prov.devices, e.state.Done = false)
    (pre : List Op) (now : Int) (r : DevHttpRequest) (f : Option String) (iss : DevIssue)
    (h : (step (stateAfter s0 pre) (.poll now r f)).2 = .issued iss) :
    f = none ∧ iss.state.ClientID = r.clientID ∧ iss.state.Denied = false ∧
    (∃ t, Op.approve r.PostForm.DeviceCode iss.state.Subject t ∈ pre) ∧
    ((∃ e0 ∈ s0.prov.devices, e0.deviceCode = r.PostForm.DeviceCode ∧ e0.state.ClientID = r.clientID) ∨
      ∃ now' r' rnd, Op.auth now' r' rnd ∈ pre ∧ r'.clientID = r.clientID ∧ NewDeviceCode rnd.bytes = r.PostForm.DeviceCode) := by
  have hinv := invs_after s0.prov.devices pre [] s0
    (fun e he hd => by rw [h0 e he] at hd; cases hd)
    (fun e he => Or.inl ⟨e, he, rfl, rfl⟩)
  simp only [List.nil_append] at hinv
  obtain ⟨happr, horig⟩ := hinv
  generalize stateAfter s0 pre = s at h happr horig
  simp only [step] at h
  cases hdt : deviceToken now s.router { s.prov with fault := f } r with
  | error e => simp [hdt] at h
  | ok i =>
    simp only [hdt, Out.issued.injEq] at h
    subst h
    obtain ⟨st, c, hst, _, hi⟩ := deviceToken_ok hdt
    obtain ⟨_, hlook, hden, hdone⟩ := checkState_ok hst
    obtain ⟨hf, e, he, hes, hecl⟩ := lookup_ok hlook
    have hmem : e ∈ s.prov.devices := List.mem_of_find?_eq_some he
    have hcode : e.deviceCode = r.PostForm.DeviceCode := by simpa using List.find?_some he
    have hstate : i.state = st := by rw [hi]; rfl
    rw [hstate, ← hes]
    refine ⟨hf, hecl, by rw [hes]; exact hden, ?_, ?_⟩
    · obtain ⟨t, ht⟩ := happr e hmem (by rw [hes]; exact hdone)
      exact ⟨t, by rw [← hcode]; exact ht⟩
    · rcases horig e hmem with ⟨e0, h1, h2, h3⟩ | ⟨now', r', rnd, h1, h2, h3⟩
      · exact Or.inl ⟨e0, h1, by rw [h2, hcode], by rw [h3]; exact hecl⟩
      · exact Or.inr ⟨now', r', rnd, h1, by rw [h2]; exact hecl, by rw [h3, hcode]⟩

/-- a storage fault injected into the state lookup of a poll - time-out or any other error, at any position of any history -
    never yields tokens -/
theorem c16_fault_never_tokens (s0 : St) (pre : List Op) (now : Int) (r : DevHttpRequest) (err : String) (iss : DevIssue) :
    (step (stateAfter s0 pre) (.poll now r (some err))).2 ≠ .issued iss := by
  intro h
  generalize stateAfter s0 pre = s at h
  simp only [step] at h
  cases hdt : deviceToken now s.router { s.prov with fault := some err } r with
  | error e => simp [hdt] at h
  | ok i =>
    obtain ⟨st, c, hst, _⟩ := deviceToken_ok hdt
    obtain ⟨_, hlook, _, _⟩ := checkState_ok hst
    obtain ⟨hf, _⟩ := lookup_ok hlook
    simp at hf

/-- polls do not consume anything: the property does not demand single use of an approved device code (RFC 8628 leaves it to the
    storage), and the library does not enforce it - a second poll after success is answered with tokens again, and the monitor
    (which only demands what the property says) accepts that -/
example : (run (demoStored .provider true) [.approve "dc1" "user1" 3, .poll 3000 (tvReq "dc1") none, .poll 3001 (tvReq "dc1") none]).2.map tag =
    ["done", "user1", "user1"] := by decide +kernel
example : judgeAll (abs (demoStored .legacy true)) (trace (demoStored .legacy true)
    [.approve "dc1" "user1" 3, .poll 3000 (tvReq "dc1") none, .poll 3001 (tvReq "dc1") none]) = [none, none, none] := by decide +kernel

end C16
