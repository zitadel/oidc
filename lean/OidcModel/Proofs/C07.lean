/-
  C07 proofs (function level) over the REGENERATED refresh-token functions of both routers: client
  binding, registered grant, scope only narrowed - and, by induction over any chain, never grows.

  Two layers (robustness against harmless rewrites of the Go text): per translated function ONE characterisation lemma
  `Gen.f args = <hand-readable spec function>` proved with the shape-independent `go_leaf` / `go_eq` / `go_spec` (GoTac.lean, GoTacEq.lean);
  everything else is derived from the spec functions and never unfolds a regenerated definition.
-/
import OidcModel.Spec.C07
import OidcModel.Proofs.C04
import OidcModel.GoTacEq
namespace C07
open Go Gen Hand Flow

def sub (a b : List String) : Prop := ∀ s, s ∈ a → s ∈ b

/-- `ValidateRefreshTokenScopes`: no scope parameter keeps the grant; otherwise every requested scope must be granted, and the
    grant is narrowed to the request -/
def scopesSpec (req : List String) (r : RefreshReq) : Go.R RefreshReq :=
  if req = [] then .ok r
  else if ∃ s ∈ req, s ∉ r.scopes then .error "ErrInvalidScope"
  else .ok { r with scopes := req }

/-- `RefreshTokenRequestByRefreshToken`: a token the storage does not resolve is invalid_grant -/
def byTokenSpec (st : Store) (tok : String) : Go.R RefreshReq :=
  match st.TokenRequestByRefreshToken tok with
  | .error _ => .error "ErrInvalidGrant"
  | .ok r => .ok r

/-- `LegacyServer.RefreshToken` (the client was verified by `withClient`) -/
def legacyRefreshSpec (s : LegacyServer) (r : ClientRequest RefreshTokenRequest) : Go.R IssueFor :=
  if s.provider.refreshSupported = false then .error "ErrUnsupportedGrantType"
  else match byTokenSpec s.provider.store r.Data.RefreshToken with
    | .error e => .error e
    | .ok r0 =>
      if r.Client.id ≠ r0.clientID then .error "ErrInvalidGrant"
      else match scopesSpec r.Data.Scopes r0 with
        | .error e => .error e
        | .ok r1 => .ok (.refresh r1 r.Client r.Data.RefreshToken)

/-- `AuthorizeRefreshClient` (Provider router): who the caller is, that its registration contains the refresh grant, and the
    grant behind the presented token -/
def authorizeRefreshSpec (now : Int) (req : RefreshTokenRequest) (p : Provider) : Go.R (RefreshReq × OPClient) :=
  if req.ClientAssertionType = Const.ClientAssertionTypeJWTAssertion then
    if p.is_JWTAuthorizationGrantExchanger = false ∨ p.pkjwtSupported = false then .error "error:auth_method private_key_jwt not supported"
    else match AuthorizePrivateJWTKey now req.ClientAssertion p with
      | .error e => .error e
      | .ok c =>
        if ValidateGrantType now c Const.GrantTypeRefreshToken = false then .error "ErrUnauthorizedClient"
        else match byTokenSpec p.store req.RefreshToken with
          | .error e => .error e
          | .ok r => .ok (r, c)
  else match p.store.GetClientByClientID req.ClientID with
    | .error e => .error e
    | .ok c =>
      if ValidateGrantType now c Const.GrantTypeRefreshToken = false then .error "ErrUnauthorizedClient"
      else if c.auth = Const.AuthMethodPrivateKeyJWT then .error "ErrInvalidClient"
      else if c.auth = Const.AuthMethodNone then
        (match byTokenSpec p.store req.RefreshToken with
         | .error e => .error e
         | .ok r => .ok (r, c))
      else if c.auth = Const.AuthMethodPost ∧ p.postSupported = false then .error "ErrInvalidClient"
      else match p.store.AuthorizeClientIDSecret req.ClientID req.ClientSecret with
        | .error _ => .error "ErrInvalidClient"
        | .ok _ =>
          match byTokenSpec p.store req.RefreshToken with
          | .error e => .error e
          | .ok r => .ok (r, c)

/-- `LegacyServer.VerifyClient` (Server router): who the caller is -/
def legacyVerifySpec (now : Int) (s : LegacyServer) (r : Request ClientCredentials) : Go.R OPClient :=
  if r.Form.Get "grant_type" = Const.GrantTypeClientCredentials then
    if s.provider.store.is_ClientCredentialsStorage = false then .error "ErrUnsupportedGrantType"
    else s.provider.store.ClientCredentials r.Data.ClientID r.Data.ClientSecret
  else if r.Data.ClientAssertionType = Const.ClientAssertionTypeJWTAssertion then
    if s.provider.is_JWTAuthorizationGrantExchanger = false ∨ s.provider.pkjwtSupported = false then .error "ErrInvalidClient"
    else AuthorizePrivateJWTKey now r.Data.ClientAssertion s.provider
  else match s.provider.store.GetClientByClientID r.Data.ClientID with
    | .error _ => .error "ErrInvalidClient"
    | .ok c =>
      if c.auth = Const.AuthMethodNone then .ok c
      else if c.auth = Const.AuthMethodPrivateKeyJWT then .error "ErrInvalidClient"
      else if c.auth = Const.AuthMethodPost ∧ s.provider.postSupported = false then .error "ErrInvalidClient"
      else match s.provider.store.AuthorizeClientIDSecret r.Data.ClientID r.Data.ClientSecret with
        | .error _ => .error "ErrInvalidClient"
        | .ok _ => .ok c

/-- `ValidateRefreshTokenRequest` (Provider router) -/
def validateRefreshSpec (now : Int) (req : RefreshTokenRequest) (p : Provider) : Go.R (RefreshReq × OPClient) :=
  if req.RefreshToken = "" then .error "ErrInvalidRequest"
  else match authorizeRefreshSpec now req p with
    | .error e => .error e
    | .ok (r, c) =>
      if c.id ≠ r.clientID then .error "ErrInvalidGrant"
      else match scopesSpec req.Scopes r with
        | .error e => .error e
        | .ok r1 => .ok (r1, c)

/-! ## Layer 1: characterisation lemmas (the only place where regenerated definitions are unfolded) -/

theorem len_zero (l : List String) : ((Go.len l) == (0 : Int)) = decide (l = []) := by
  cases l <;> simp [Go.len, HasLen.len] <;> omega

theorem any_not_contains (req granted : List String) :
    Go.any req (fun scope => !Go.contains granted scope) = decide (∃ s ∈ req, s ∉ granted) := by
  unfold Go.any Go.contains
  rw [Bool.eq_iff_iff]
  simp

theorem validateRefreshTokenScopes_eq (now : Int) (req : List String) (r : RefreshReq) :
    ValidateRefreshTokenScopes now req r = scopesSpec req r := by
  unfold ValidateRefreshTokenScopes scopesSpec
  simp only [len_zero, any_not_contains, RefreshReq.GetScopes, RefreshReq.SetCurrentScopes]
  go_leaf

theorem refreshByToken_eq (now : Int) (st : Store) (tok : String) :
    RefreshTokenRequestByRefreshToken now st tok = byTokenSpec st tok := by
  unfold RefreshTokenRequestByRefreshToken byTokenSpec
  go_leaf

theorem legacyRefreshToken_eq (now : Int) (s : LegacyServer) (r : ClientRequest RefreshTokenRequest) :
    LegacyRefreshToken now s r = legacyRefreshSpec s r := by
  unfold LegacyRefreshToken legacyRefreshSpec issueForRefresh NewResponse Hand.unimplementedGrantError
  simp only [validateRefreshTokenScopes_eq, refreshByToken_eq, Provider.Storage, Provider.GrantTypeRefreshTokenSupported, OPClient.GetID,
    RefreshReq.GetClientID]
  go_eq []

theorem authorizeClientIDSecret_eq (now : Int) (id secret : String) (st : Store) :
    AuthorizeClientIDSecret now id secret st =
      (match st.AuthorizeClientIDSecret id secret with
       | .error _ => .error "ErrInvalidClient"
       | .ok _ => .ok ()) := by
  unfold AuthorizeClientIDSecret Go.ok
  go_leaf

/- The next two equations follow the cases of the hand-written side only: in each of them `simp_all` evaluates the translated
   body along the hypotheses of the case. -/

theorem authorizeRefreshClient_eq (now : Int) (req : RefreshTokenRequest) (p : Provider) :
    AuthorizeRefreshClient now req p = authorizeRefreshSpec now req p := by
  unfold authorizeRefreshSpec
  go_spec [AuthorizeRefreshClient, authorizeClientIDSecret_eq, refreshByToken_eq, Provider.Storage,
    Provider.AuthMethodPrivateKeyJWTSupported, Provider.AuthMethodPostSupported, OPClient.AuthMethod]

theorem legacyVerifyClient_eq (now : Int) (s : LegacyServer) (r : Request ClientCredentials) :
    LegacyVerifyClient now s r = legacyVerifySpec now s r := by
  unfold legacyVerifySpec
  go_spec [LegacyVerifyClient, authorizeClientIDSecret_eq, Provider.Storage, Provider.AuthMethodPrivateKeyJWTSupported,
    Provider.AuthMethodPostSupported, OPClient.AuthMethod]

theorem validateRefreshTokenRequest_eq (now : Int) (req : RefreshTokenRequest) (p : Provider) :
    ValidateRefreshTokenRequest now req p = validateRefreshSpec now req p := by
  unfold ValidateRefreshTokenRequest validateRefreshSpec
  simp only [validateRefreshTokenScopes_eq, authorizeRefreshClient_eq, OPClient.GetID, RefreshReq.GetClientID]
  go_eq []

/-! ## Layer 2: consequences (no regenerated definition is unfolded below) -/

theorem scopesSpec_ok {req : List String} {r r' : RefreshReq} (h : scopesSpec req r = .ok r') :
    sub r'.scopes r.scopes ∧ r'.clientID = r.clientID ∧ r'.subject = r.subject ∧ r'.audience = r.audience ∧ r'.authTime = r.authTime ∧
      r'.scopes = (if req.isEmpty then r.scopes else req) := by
  unfold scopesSpec at h
  split at h
  · subst_vars
    cases h
    exact ⟨fun _ hs => hs, rfl, rfl, rfl, rfl, rfl⟩
  split at h; · cases h
  rename_i hne hin
  cases h
  refine ⟨fun s hs => Classical.byContradiction fun hn => hin ⟨s, hs, hn⟩, rfl, rfl, rfl, rfl, ?_⟩
  rw [if_neg (by simpa using hne)]

/-- scope validation only ever narrows: the result's scopes are the requested ones (a subset of the
    original) or, for an empty request, the original ones -/
theorem validateRefreshTokenScopes_ok {now req r r'} (h : ValidateRefreshTokenScopes now req r = .ok r') :
    sub r'.scopes r.scopes ∧ r'.clientID = r.clientID ∧ r'.subject = r.subject ∧ r'.audience = r.audience ∧ r'.authTime = r.authTime ∧
      r'.scopes = (if req.isEmpty then r.scopes else req) :=
  scopesSpec_ok (validateRefreshTokenScopes_eq now req r ▸ h)

theorem scopesSpec_widening {req : List String} {r : RefreshReq} (h : subset req r.scopes = false) :
    scopesSpec req r = .error "ErrInvalidScope" := by
  have hne : req ≠ [] := by rintro rfl; simp [subset] at h
  have hex : ∃ s ∈ req, s ∉ r.scopes := by simpa [subset] using h
  simp only [scopesSpec, hne, if_false, hex, if_true]

theorem byTokenSpec_ok {st : Store} {tok : String} {r : RefreshReq} (h : byTokenSpec st tok = .ok r) :
    st.TokenRequestByRefreshToken tok = .ok r := by
  unfold byTokenSpec at h
  split at h
  · cases h
  · rename_i r' hr; cases h; exact hr

theorem refreshByToken_ok {now : Int} {st : Store} {tok : String} {r : RefreshReq}
    (h : RefreshTokenRequestByRefreshToken now st tok = .ok r) : st.TokenRequestByRefreshToken tok = .ok r :=
  byTokenSpec_ok (refreshByToken_eq now st tok ▸ h)

theorem legacyRefreshSpec_ok {s : LegacyServer} {r : ClientRequest RefreshTokenRequest} {i : IssueFor} (h : legacyRefreshSpec s r = .ok i) :
    ∃ r0 r1, i = .refresh r1 r.Client r.Data.RefreshToken ∧ s.provider.refreshSupported = true ∧
      s.provider.store.TokenRequestByRefreshToken r.Data.RefreshToken = .ok r0 ∧ r.Client.id = r0.clientID ∧
      scopesSpec r.Data.Scopes r0 = .ok r1 := by
  unfold legacyRefreshSpec at h
  split at h; · cases h
  split at h; · cases h
  split at h; · cases h
  split at h; · cases h
  rename_i hsup _ r0 hr0 hid _ r1 hr1
  cases h
  exact ⟨r0, r1, rfl, by simpa using hsup, byTokenSpec_ok hr0, by simpa using hid, hr1⟩

/-- LegacyServer.RefreshToken: bound to the verified client, scopes only narrowed, old token handed over -/
theorem legacyRefreshToken_ok {now s r i} (h : LegacyRefreshToken now s r = .ok i) :
    ∃ r0 r1, i = .refresh r1 r.Client r.Data.RefreshToken ∧ s.provider.refreshSupported = true ∧
      s.provider.store.TokenRequestByRefreshToken r.Data.RefreshToken = .ok r0 ∧ r.Client.id = r0.clientID ∧
      sub r1.scopes r0.scopes ∧ r1.subject = r0.subject ∧ r1.audience = r0.audience ∧ r1.authTime = r0.authTime := by
  rw [legacyRefreshToken_eq] at h
  obtain ⟨r0, r1, hi, hsup, hlook, hid, hsc⟩ := legacyRefreshSpec_ok h
  obtain ⟨h1, _, h3, h4, h5, _⟩ := scopesSpec_ok hsc
  exact ⟨r0, r1, hi, hsup, hlook, hid, h1, h3, h4, h5⟩

/-- what the spec of `AuthorizeRefreshClient` establishes: the grant behind the token, the registered refresh grant, and HOW the
    caller was recognised (one of the three ways) -/
theorem authorizeRefreshSpec_ok {now : Int} {req : RefreshTokenRequest} {p : Provider} {r : RefreshReq} {c : OPClient}
    (h : authorizeRefreshSpec now req p = .ok (r, c)) :
    p.store.TokenRequestByRefreshToken req.RefreshToken = .ok r ∧ ValidateGrantType now c Const.GrantTypeRefreshToken = true ∧
    ((req.ClientAssertionType = Const.ClientAssertionTypeJWTAssertion ∧ p.is_JWTAuthorizationGrantExchanger = true ∧ p.pkjwtSupported = true ∧
        AuthorizePrivateJWTKey now req.ClientAssertion p = .ok c) ∨
     (req.ClientAssertionType ≠ Const.ClientAssertionTypeJWTAssertion ∧ p.store.GetClientByClientID req.ClientID = .ok c ∧
        c.auth ≠ Const.AuthMethodPrivateKeyJWT ∧
        (c.auth = Const.AuthMethodNone ∨
          ((c.auth = Const.AuthMethodPost → p.postSupported = true) ∧ p.store.AuthorizeClientIDSecret req.ClientID req.ClientSecret = .ok ())))) := by
  -- every path to `.ok (r, c)` ends in a successful `byTokenSpec`
  have last : ∀ {c' : OPClient}, (match byTokenSpec p.store req.RefreshToken with
      | .error e => .error e
      | .ok r => .ok (r, c') : Go.R (RefreshReq × OPClient)) = .ok (r, c) →
      p.store.TokenRequestByRefreshToken req.RefreshToken = .ok r ∧ c' = c := by
    intro c' h
    split at h
    · cases h
    · rename_i r' hb; cases h; exact ⟨byTokenSpec_ok hb, rfl⟩
  unfold authorizeRefreshSpec at h
  split at h
  · rename_i hty
    split at h; · cases h
    split at h; · cases h
    split at h; · cases h
    rename_i hsw _ c' hk hg
    obtain ⟨hb, rfl⟩ := last h
    simp only [not_or, Bool.not_eq_false] at hsw hg
    exact ⟨hb, hg, Or.inl ⟨hty, hsw.1, hsw.2, hk⟩⟩
  · rename_i hty
    split at h; · cases h
    split at h; · cases h
    split at h; · cases h
    rename_i _ c' hget hg hpk
    simp only [Bool.not_eq_false] at hg
    split at h
    · rename_i hn
      obtain ⟨hb, rfl⟩ := last h
      exact ⟨hb, hg, Or.inr ⟨hty, hget, hpk, Or.inl hn⟩⟩
    split at h; · cases h
    split at h; · cases h
    rename_i hpo _ _ hs
    obtain ⟨hb, rfl⟩ := last h
    refine ⟨hb, hg, Or.inr ⟨hty, hget, hpk, Or.inr ⟨fun hp => ?_, hs⟩⟩⟩
    simpa [hp] using hpo

theorem authorizeRefreshClient_ok {now req p r c} (h : AuthorizeRefreshClient now req p = .ok (r, c)) :
    p.store.TokenRequestByRefreshToken req.RefreshToken = .ok r ∧ Const.GrantTypeRefreshToken ∈ c.grants := by
  rw [authorizeRefreshClient_eq] at h
  obtain ⟨h1, h2, _⟩ := authorizeRefreshSpec_ok h
  exact ⟨h1, (C04.validateGrantType_iff (now := now)).1 h2⟩

theorem validateRefreshSpec_ok {now : Int} {req : RefreshTokenRequest} {p : Provider} {r' : RefreshReq} {c : OPClient}
    (h : validateRefreshSpec now req p = .ok (r', c)) :
    ∃ r, req.RefreshToken ≠ "" ∧ authorizeRefreshSpec now req p = .ok (r, c) ∧ c.id = r.clientID ∧ scopesSpec req.Scopes r = .ok r' := by
  unfold validateRefreshSpec at h
  split at h; · cases h
  split at h; · cases h
  split at h; · cases h
  split at h; · cases h
  rename_i ht _ r c' ha hid _ r1 hv
  cases h
  exact ⟨r, ht, ha, by simpa using hid, hv⟩

/-- Provider router: a refresh goes through only for the token's own client, registered for the grant,
    and only narrows the scope -/
theorem validateRefreshTokenRequest_ok {now req p r' c} (h : ValidateRefreshTokenRequest now req p = .ok (r', c)) :
    ∃ r, p.store.TokenRequestByRefreshToken req.RefreshToken = .ok r ∧ c.id = r.clientID ∧
      Const.GrantTypeRefreshToken ∈ c.grants ∧ sub r'.scopes r.scopes ∧ r'.subject = r.subject ∧
      r'.audience = r.audience ∧ r'.authTime = r.authTime := by
  rw [validateRefreshTokenRequest_eq] at h
  obtain ⟨r, _, ha, hid, hv⟩ := validateRefreshSpec_ok h
  obtain ⟨h1, h2, _⟩ := authorizeRefreshSpec_ok ha
  obtain ⟨s1, _, s3, s4, s5, _⟩ := scopesSpec_ok hv
  exact ⟨r, h1, hid, (C04.validateGrantType_iff (now := now)).1 h2, s1, s3, s4, s5⟩

/-- over ANY chain of scope requests the granted scope never grows -/
theorem scope_chain_narrows (now : Int) (reqs : List (List String)) (r0 : RefreshReq) :
    ∀ r, (reqs.foldlM (fun (r : RefreshReq) req => ValidateRefreshTokenScopes now req r) r0 : Go.R RefreshReq) = .ok r →
      sub r.scopes r0.scopes := by
  induction reqs generalizing r0 with
  | nil => intro r h; simp [List.foldlM, pure, Except.pure] at h; subst h; exact fun _ hs => hs
  | cons q qs ih =>
    intro r h
    simp only [List.foldlM, bind, Except.bind] at h
    split at h
    · simp at h
    · rename_i r1 hr1
      have h1 := (validateRefreshTokenScopes_ok hr1).1
      have h2 := ih r1 r h
      exact fun s hs => h1 s (h2 s hs)

end C07
