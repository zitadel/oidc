/-
  C17 request isolation.  Several requests are served by ONE handler closure of `rp.AuthURLHandler` /
  `rp.CodeExchangeHandler` under an ARBITRARY schedule (Model/RPAlias.lean: slice headers over a memory of backing
  arrays, Go's `append`).  The regenerated aliasing fact `GenAlias.*_optsOrigin` (harness/cmd/factgen/alias_c17.go) says
  where the handler's option slice comes from.

  * `isolation`: when the slice is allocated per request, then for EVERY schedule, every growth policy of `append` and
    every per-request path, what each `AuthURL` / `CodeExchange` call reads is exactly the functional list of the
    request's OWN options - the list the translated handlers (Generated/RPHandlers.lean) compute with `Go.append`.
    The proof is one invariant (`Inv`: every request reads its own options from an array nobody else writes to), kept by
    every step of every request (`step_inv`, `run_inv`).
  * `c17_exchange_isolated`, `c17_authurl_isolated`: the same, stated about the regenerated facts (`exchange_origin`,
    `authurl_origin`, and site by site `exchange_sites_perRequest`, `authurl_sites_perRequest`).
  * (Proofs/C17IsoPkce.lean) `c17_request_isolation`, `c17_authurl_challenge_isolation`: what this means for the
    property's PKCE clauses, stated with the regenerated handlers' own functions.
  This module does not import the translated handlers: when a change makes the slice shared, it is
  `exchange_origin` / `authurl_origin` that stop checking, whatever happens to the translation of the handler.
  * `shared_slice_swaps`: non-vacuity of the model - with a captured slice that has spare capacity (seeded C17-G /
    C20-H / C17-B) a schedule exists under which a request sends the OTHER request's verifier.
-/
import OidcModel.Model.RPAlias
import OidcModel.Generated.RPAlias

namespace C17Iso
open RPAlias

/-! ### the functional reading, extended at the end -/

theorem logicalOf_snoc_append (acc : List Opt) (d : List Op) (x : Opt) :
    logicalOf acc (d ++ [.append x]) = logicalOf acc d ++ [x] := by
  induction d generalizing acc with
  | nil => rfl
  | cons o t ih => cases o <;> simp [logicalOf, ih]

theorem logicalOf_snoc_use (acc : List Opt) (d : List Op) : logicalOf acc (d ++ [.use]) = logicalOf acc d := by
  induction d generalizing acc with
  | nil => rfl
  | cons o t ih => cases o <;> simp [logicalOf, ih]

theorem sentOf_snoc_append (acc : List Opt) (d : List Op) (x : Opt) : sentOf acc (d ++ [.append x]) = sentOf acc d := by
  induction d generalizing acc with
  | nil => rfl
  | cons o t ih => cases o <;> simp [sentOf, ih]

theorem sentOf_snoc_use (acc : List Opt) (d : List Op) : sentOf acc (d ++ [.use]) = sentOf acc d ++ [logicalOf acc d] := by
  induction d generalizing acc with
  | nil => rfl
  | cons o t ih => cases o <;> simp [sentOf, logicalOf, ih]

theorem read_congr (m m' : Mem) (h : Hdr) (hc : ∀ i, i < h.len → m'.cell h.arr i = m.cell h.arr i) :
    m'.read h = m.read h := by
  unfold Mem.read
  apply List.map_congr_left
  intro i hi
  exact hc i (List.mem_range.1 hi)

/-- `append`, read back: the old elements (wherever they now live) and the new one -/
theorem read_snoc (m m' : Mem) (h : Hdr) (a c : Nat) (x : Opt) (hold : ∀ i, i < h.len → m'.cell a i = m.cell h.arr i)
    (hnew : m'.cell a h.len = x) : m'.read ⟨a, h.len + 1, c⟩ = m.read h ++ [x] := by
  simp only [Mem.read, List.range_succ, List.map_append, List.map_cons, List.map_nil, hnew]
  congr 1
  exact List.map_congr_left fun i hi => hold i (List.mem_range.1 hi)

theorem read_base (base : List Opt) (m : Mem) (a c : Nat) (hc : ∀ i, m.cell a i = base.getD i []) :
    m.read ⟨a, base.length, c⟩ = base := by
  unfold Mem.read
  apply List.ext_getElem
  · simp
  · intro i h1 h2
    simp [hc, List.getD_eq_getElem?_getD, h2]

/-! ### the invariant: every request reads its own options from an array nobody else WRITES to -/

/-- the origins for which isolation holds: a slice allocated per request, or a slice of the enclosing function whose capacity
    equals its length (`make([]T, n)`, never appended to): every `append` to it reallocates, nobody ever writes to the shared array -/
def safeOrigin : SliceOrigin → Bool
  | .perRequest => true
  | .captured (some 0) => true
  | .captured _ => false

/-- array 0 (the converted custom parameters the handler was created with) is never written; a request's header refers either to
    array 0 WITHOUT spare capacity or to an array of its own -/
structure Inv (base : List Opt) (progs : Nat → List Op) (s : Sys) : Prop where
  next : 1 ≤ s.mem.next
  zero : ∀ i, s.mem.cell 0 i = base.getD i []
  prog : ∀ i, (s.reqs i).done ++ (s.reqs i).todo = progs i
  sent : ∀ i, (s.reqs i).sent = sentOf base (s.reqs i).done
  start : ∀ i, (s.reqs i).hdr = none → (s.reqs i).done = []
  bound : ∀ i h, (s.reqs i).hdr = some h → (h.arr = 0 → h.cap ≤ h.len) ∧ h.arr < s.mem.next
  read : ∀ i h, (s.reqs i).hdr = some h → s.mem.read h = logicalOf base (s.reqs i).done
  sep : ∀ i j h h', i ≠ j → (s.reqs i).hdr = some h → (s.reqs j).hdr = some h' → 1 ≤ h.arr → h.arr ≠ h'.arr

theorem init_inv (base : List Opt) (progs : Nat → List Op) : Inv base progs (init base progs) where
  next := Nat.le_refl 1
  zero := fun _ => by simp [init]
  prog := fun _ => rfl
  sent := fun _ => rfl
  start := fun _ _ => rfl
  bound := fun i h hh => by simp [init] at hh
  read := fun i h hh => by simp [init] at hh
  sep := fun i j h h' _ hh => by simp [init] at hh

/-- the request `k` moves: its record becomes `r'` with the header `h'`, the memory `m'`; nothing else changes.  The
    obligations that are the same for every kind of step are discharged here once. -/
theorem frame {base : List Opt} {progs : Nat → List Op} {s : Sys} (hI : Inv base progs s) (k : Nat) (m' : Mem) (r' : Req)
    (h' : Hdr) (hr' : r'.hdr = some h') (hnext : s.mem.next ≤ m'.next)
    -- cells of array 0 and of arrays other requests refer to are untouched
    (hcells : ∀ a i, a < s.mem.next → (a = 0 ∨ ∀ h, (s.reqs k).hdr = some h → a ≠ h.arr) → m'.cell a i = s.mem.cell a i)
    (hprog : r'.done ++ r'.todo = progs k)
    (hsent : r'.sent = sentOf base r'.done)
    (hcap : h'.arr = 0 → h'.cap ≤ h'.len) (hlt : h'.arr < m'.next) (hread : m'.read h' = logicalOf base r'.done)
    -- the new header refers to the request's own old array, to a brand-new one, or to the shared one
    (horig : (∃ h, (s.reqs k).hdr = some h ∧ h'.arr = h.arr) ∨ s.mem.next ≤ h'.arr ∨ h'.arr = 0) :
    Inv base progs { mem := m', reqs := fun j => if j = k then r' else s.reqs j } where
  next := Nat.le_trans hI.next hnext
  zero := fun i => by
    show m'.cell 0 i = _
    rw [hcells 0 i hI.next (Or.inl rfl)]
    exact hI.zero i
  prog := fun i => by
    by_cases hik : i = k
    · simp only [hik, if_true]; exact hprog
    · simp only [hik, if_false]; exact hI.prog i
  sent := fun i => by
    by_cases hik : i = k
    · simp only [hik, if_true]; exact hsent
    · simp only [hik, if_false]; exact hI.sent i
  start := fun i => by
    by_cases hik : i = k
    · simp only [hik, if_true]; exact fun hh => nomatch hr'.symm.trans hh
    · simp only [hik, if_false]; exact hI.start i
  bound := fun i h => by
    by_cases hik : i = k
    · simp only [hik, if_true]; intro hh; cases hr'.symm.trans hh; exact ⟨hcap, hlt⟩
    · simp only [hik, if_false]; intro hh
      exact ⟨(hI.bound i h hh).1, Nat.lt_of_lt_of_le (hI.bound i h hh).2 hnext⟩
  read := fun i h => by
    by_cases hik : i = k
    · simp only [hik, if_true]; intro hh; cases hr'.symm.trans hh; exact hread
    · simp only [hik, if_false]; intro hh
      rw [← hI.read i h hh]
      apply read_congr
      intro n _
      apply hcells h.arr n (hI.bound i h hh).2
      by_cases h0 : h.arr = 0
      · exact Or.inl h0
      · exact Or.inr (fun hk hhk => hI.sep i k h hk hik hh hhk (Nat.pos_of_ne_zero h0))
  sep := fun i j h h' hij => by
    by_cases hik : i = k
    · have hjk : j ≠ k := fun e => hij (hik.trans e.symm)
      simp only [hik, if_true, hjk, if_false]
      intro hh hh' hpos
      cases hr'.symm.trans hh
      rcases horig with ⟨h0, hh0, he⟩ | hge | hz
      · rw [he]; exact hI.sep k j h0 h' (fun e => hjk e.symm) hh0 hh' (by rw [← he]; exact hpos)
      · exact fun e => absurd (hI.bound j h' hh').2 (by rw [← e]; exact Nat.not_lt.2 hge)
      · rw [hz] at hpos; exact absurd hpos (by decide)
    · by_cases hjk : j = k
      · simp only [hik, if_false, hjk, if_true]
        intro hh hh' hpos
        cases hr'.symm.trans hh'
        rcases horig with ⟨h0, hh0, he⟩ | hge | hz
        · rw [he]; exact hI.sep i k h h0 hik hh hh0 hpos
        · exact fun e => absurd (hI.bound i h hh).2 (by rw [e]; exact Nat.not_lt.2 hge)
        · rw [hz]; exact fun e => absurd hpos (by rw [e]; decide)
      · simp only [hik, if_false, hjk]
        exact hI.sep i j h h' hij

theorem step_inv {base : List Opt} {progs : Nat → List Op} {s : Sys} (o : SliceOrigin) (ho : safeOrigin o = true)
    (grow : Nat → Nat) (u : Nat)
    (hI : Inv base progs s) (k : Nat) : Inv base progs (step o base grow u s k) := by
  have hpos : s.mem.next = 0 → ∀ c l : Nat, c ≤ l := fun e => absurd hI.next (by omega)
  unfold step stepReq
  cases hh : (s.reqs k).hdr with
  | none =>
    cases o with
    | perRequest =>
      -- `opts := make(...)` + copy: a brand-new array
      simp only [initOp]
      refine frame hI k _ _ _ rfl (Nat.le_succ _) (fun a i ha _ => if_neg (Nat.ne_of_lt ha)) (hI.prog k) (hI.sent k)
        (fun e => hpos e _ _) (Nat.lt_succ_self _) ?_ (Or.inr (Or.inl (Nat.le_refl _)))
      rw [hI.start k hh]
      exact read_base base _ _ _ (fun i => by simp)
    | captured sp =>
      -- `opts := shared`: the array of the enclosing function, capacity = length
      have hsp : sp = some 0 := by
        cases sp with
        | none => simp [safeOrigin] at ho
        | some n => cases n with
          | zero => rfl
          | succ n => simp [safeOrigin] at ho
      subst hsp
      simp only [initOp, spareOf]
      refine frame hI k _ _ _ rfl (Nat.le_refl _) (fun _ _ _ _ => rfl) (hI.prog k) (hI.sent k)
        (fun _ => Nat.le_refl _) hI.next ?_ (Or.inr (Or.inr rfl))
      rw [hI.start k hh]
      exact read_base base _ _ _ hI.zero
  | some h =>
    obtain ⟨hcap0, hlt⟩ := hI.bound k h hh
    cases ht : (s.reqs k).todo with
    | nil =>
      simp only []
      exact frame hI k _ _ h hh (Nat.le_refl _) (fun _ _ _ _ => rfl) (hI.prog k) (hI.sent k) hcap0 hlt (hI.read k h hh)
        (Or.inl ⟨h, hh, rfl⟩)
    | cons op rest =>
      have hprogk := hI.prog k
      rw [ht] at hprogk
      have hprog' : ((s.reqs k).done ++ [op]) ++ rest = progs k := by simpa [List.append_assoc] using hprogk
      cases op with
      | use =>
        simp only []
        refine frame hI k _ _ h rfl (Nat.le_refl _) (fun _ _ _ _ => rfl) hprog' ?_ hcap0 hlt ?_ (Or.inl ⟨h, hh, rfl⟩)
        · simp only [sentOf_snoc_use, hI.sent k, hI.read k h hh]
        · rw [logicalOf_snoc_use]; exact hI.read k h hh
      | append x =>
        have hsent' : (s.reqs k).sent = sentOf base ((s.reqs k).done ++ [.append x]) := by
          rw [sentOf_snoc_append]; exact hI.sent k
        simp only [appendOp]
        by_cases hcap : h.len < h.cap
        · -- in place: only possible in the request's OWN array (the shared one has no spare capacity)
          have harr : h.arr ≠ 0 := fun e => absurd (hcap0 e) (Nat.not_le.2 hcap)
          simp only [hcap, if_true]
          refine frame hI k _ _ _ rfl (Nat.le_refl _) ?_ hprog' hsent' (fun e => absurd e harr) hlt ?_ (Or.inl ⟨h, hh, rfl⟩)
          · intro a i _ hne
            have : a ≠ h.arr := by
              rcases hne with h0 | hne
              · rw [h0]; exact fun e => harr e.symm
              · exact hne h hh
            simp [this]
          · rw [logicalOf_snoc_append, ← hI.read k h hh]
            exact read_snoc _ _ h _ _ x (fun i hi => by simp [Nat.ne_of_lt hi]) (by simp)
        · -- no room: a brand-new array
          simp only [hcap, if_false]
          refine frame hI k _ _ _ rfl (Nat.le_succ _) (fun a i ha _ => if_neg (Nat.ne_of_lt ha)) hprog' hsent'
            (fun e => hpos e _ _) (Nat.lt_succ_self _) ?_ (Or.inr (Or.inl (Nat.le_refl _)))
          rw [logicalOf_snoc_append, ← hI.read k h hh]
          exact read_snoc _ _ h _ _ x (fun i hi => by simp [Nat.ne_of_lt hi]) (by simp)

theorem run_inv {base : List Opt} {progs : Nat → List Op} (o : SliceOrigin) (ho : safeOrigin o = true)
    (grow : Nat → Nat) (u : Nat) (sched : List Nat) (s : Sys)
    (hI : Inv base progs s) : Inv base progs (run o base grow u s sched) := by
  induction sched generalizing s with
  | nil => exact hI
  | cons k t ih => exact ih _ (step_inv o ho grow u hI k)

/-- REQUEST ISOLATION (slice level), for every safe origin: the handler allocates its option slice per request, OR it hands every
    request the same slice of the enclosing function whose capacity equals its length (every append reallocates): for EVERY
    schedule of the requests' steps, every growth policy of `append`, and every path each request takes, a request has executed a
    prefix of ITS OWN path and every `AuthURL` / `CodeExchange` call read exactly the functional list of that request's own options. -/
theorem isolation_safe (o : SliceOrigin) (ho : safeOrigin o = true) (base : List Opt) (progs : Nat → List Op) (grow : Nat → Nat)
    (u : Nat) (sched : List Nat) (i : Nat) :
    let r := (run o base grow u (init base progs) sched).reqs i
    r.done ++ r.todo = progs i ∧ r.sent = sentOf base r.done :=
  let hI := run_inv o ho grow u sched _ (init_inv base progs)
  ⟨hI.prog i, hI.sent i⟩

/-- the per-request case (the code as it is) -/
theorem isolation (base : List Opt) (progs : Nat → List Op) (grow : Nat → Nat) (u : Nat) (sched : List Nat) (i : Nat) :
    let r := (run .perRequest base grow u (init base progs) sched).reqs i
    r.done ++ r.todo = progs i ∧ r.sent = sentOf base r.done :=
  isolation_safe .perRequest rfl base progs grow u sched i

/-- a slice site inside the closure is harmless: appends and reads go to a safe slice, an index WRITE only to a per-request one
    (an index write through a captured slice writes the shared array, whatever its capacity) -/
def safeSite (s : SliceSite) : Bool :=
  if s.kind == "index" then s.origin == .perRequest else safeOrigin s.origin

/-- characterisation of the regenerated aliasing facts: both handlers hand `AuthURL` / `CodeExchange` a slice of a safe origin
    (allocated inside the closure), and every append / index write inside the closures is harmless -/
theorem exchange_origin : safeOrigin GenAlias.CodeExchangeHandler_optsOrigin = true := by decide +kernel
theorem authurl_origin : safeOrigin GenAlias.AuthURLHandler_optsOrigin = true := by decide +kernel
theorem exchange_sites_perRequest : ∀ s ∈ GenAlias.CodeExchangeHandler_sliceSites, safeSite s = true := by decide +kernel
theorem authurl_sites_perRequest : ∀ s ∈ GenAlias.AuthURLHandler_sliceSites, safeSite s = true := by decide +kernel

theorem c17_exchange_isolated (base : List Opt) (progs : Nat → List Op) (grow : Nat → Nat) (u : Nat) (sched : List Nat) (i : Nat) :
    let r := (run GenAlias.CodeExchangeHandler_optsOrigin base grow u (init base progs) sched).reqs i
    r.done ++ r.todo = progs i ∧ r.sent = sentOf base r.done :=
  isolation_safe _ exchange_origin base progs grow u sched i

theorem c17_authurl_isolated (base : List Opt) (progs : Nat → List Op) (grow : Nat → Nat) (u : Nat) (sched : List Nat) (i : Nat) :
    let r := (run GenAlias.AuthURLHandler_optsOrigin base grow u (init base progs) sched).reqs i
    r.done ++ r.todo = progs i ∧ r.sent = sentOf base r.done :=
  isolation_safe _ authurl_origin base progs grow u sched i

/-- a shared slice with spare capacity (what seeded C17-G / C20-H / C17-B do): request 0 obtains the slice and appends its
    verifier, request 1 does the same, request 0 reads - and sends request 1's verifier -/
theorem shared_slice_swaps :
    ((run (.captured (some 2)) [] (fun _ => 0) 0
        (init [] fun j => if j = 0 then [.append [("code_verifier", "vA")], .use] else [.append [("code_verifier", "vB")], .use])
        [0, 0, 1, 1, 0]).reqs 0).sent = [[[("code_verifier", "vB")]]] := by decide +kernel

/-- the same schedule with a per-request slice: request 0 sends its own verifier -/
example :
    ((run .perRequest [] (fun _ => 0) 0
        (init [] fun j => if j = 0 then [.append [("code_verifier", "vA")], .use] else [.append [("code_verifier", "vB")], .use])
        [0, 0, 1, 1, 0]).reqs 0).sent = [[[("code_verifier", "vA")]]] := by decide +kernel

/-- a captured slice WITHOUT spare capacity is harmless in this schedule (append always reallocates) -/
example :
    ((run (.captured (some 0)) [] (fun _ => 0) 0
        (init [] fun j => if j = 0 then [.append [("code_verifier", "vA")], .use] else [.append [("code_verifier", "vB")], .use])
        [0, 0, 1, 1, 0]).reqs 0).sent = [[[("code_verifier", "vA")]]] := by decide +kernel

end C17Iso
