/-
  C05 - theorems about the COMPLETE endpoint decision function `EP.endpointDecision` (Model/EndpointFlow.lean), which only wires
  regenerated definitions (Generated/Endpoint.lean, EndpointCaps.lean, TokenEndpoint.lean, Device.lean, RPVerifier.lean):
  whatever the request, the registrations, the flags, the storage capabilities, the stored grants and the answers of every oracle
  (url.QueryUnescape, the JWT parsers, the grant logic behind authentication), the monitor `C05.judge` accepts the model's own
  response - a success names a client whose registration one of the request's credentials fits, for a grant that is registered
  for it and enabled; a refusal on the token endpoint is an OAuth error document with a status ≥ 400.
  `c05_auth_required_partial` states this under `Assumptions`, whose fields name the paths on which the code omits a check (findings
  F-C05e, F-C05g, F-C05h); `c05_*_witness` are concrete requests on those paths and `c05_auth_required_fails_unrestricted` shows the
  hypotheses cannot be dropped.
-/
import OidcModel.Proofs.C05
import OidcModel.Model.EndpointFlow
import OidcModel.GoTac
import OidcModel.Proofs.C05Shape
namespace C05
open Go Gen Hand Flow

def cfgOf (x : EPProvider) : Cfg :=
  { base := { issuer := x.issuer, clients := x.storage.base.clients, jwtMaxAgeIAT := 3600 * Go.second, jwtOffset := Go.second },
    post := x.config.AuthMethodPost, pkjwt := x.config.AuthMethodPrivateKeyJWT, refresh := x.config.GrantTypeRefreshToken,
    capCC := x.storage.is_ClientCredentialsStorage, capTE := x.storage.is_TokenExchangeStorage,
    capDevice := x.storage.is_DeviceAuthorizationStorage }

def specEndpoint (e : EP.Endpoint) (r : EPRequest) : Endpoint :=
  match e with
  | .token => .token (grantOf r)
  | .introspect => .introspect
  | .revoke => .revoke
  | .deviceAuthorization => .deviceAuthorization

def obsOf : EPResp → Obs
  | .ok (.tokens _ c) => { status := 200, success := true, actor := c }
  | .ok (.introspection a c) => { status := 200, success := a, actor := c }
  | .ok (.revoked c) => { status := 200, success := true, actor := c }
  | .ok (.deviceCodes c) => { status := 200, success := true, actor := c }
  | .json _ s => { status := s.toNat, errorDoc := true }
  | .text _ s => { status := s.toNat }

theorem getClient_find {x : EPProvider} {id : String} {c : OPClient} (h : x.storage.base.GetClientByClientID id = .ok c) :
    (cfgOf x).base.clients.find? (·.id == c.id) = some c := by
  obtain ⟨h1, h2⟩ := getClient_ok h
  rw [h2]; exact h1

theorem getClient_of_find {s : Store} {id : String} {c : OPClient} (h : s.clients.find? (·.id == id) = some c) :
    s.GetClientByClientID id = .ok c := by
  unfold Store.GetClientByClientID; rw [h]

theorem credsFit_iff {c : Cfg} {now : Int} {cl : OPClient} {k : Creds} :
    credsFit c now cl k = true ↔
      (cl.auth = "private_key_jwt" ∧ ∃ t, k.assertion = some t ∧
        C14.provesClient c.base.issuer c.base.jwtMaxAgeIAT c.base.jwtOffset (C04.registry c.base.clients) t now = some cl.id) ∨
      (∃ p, k.primary = some p ∧ p.clientID = cl.id ∧
        (cl.auth = "none" ∨
          (cl.auth ≠ "private_key_jwt" ∧ p.secret = cl.secret ∧ (cl.auth = "client_secret_post" → c.post = true)))) := by
  unfold credsFit credentialFits C04.callerIs
  by_cases hn : cl.auth = "none"
  · cases k.assertion <;> cases k.primary <;> simp [hn]
  · by_cases hk : cl.auth = "private_key_jwt"
    · cases k.assertion <;> cases k.primary <;> simp [hk]
    · cases k.assertion <;> cases k.primary <;> simp [hn, hk, and_assoc]
      all_goals (intros; exact Decidable.imp_iff_not_or.symm)

/-- a correct secret fits the registration (the POST flag as far as the caller has checked it) -/
theorem fits_of_secret {x : EPProvider} {now : Int} {k : Creds} {id sec : String} {cl : OPClient}
    (hp : k.primary = some { clientID := id, secret := sec })
    (hget : x.storage.base.GetClientByClientID id = .ok cl)
    (hsec : x.storage.base.AuthorizeClientIDSecret id sec = .ok ())
    (hpost : cl.auth = Const.AuthMethodPost → x.config.AuthMethodPost = true) :
    credsFit (cfgOf x) now cl k = true := by
  obtain ⟨c, hc, hauth, hs⟩ := secret_ok hsec
  obtain ⟨hf, hid⟩ := getClient_ok hget
  cases hc.symm.trans hf
  refine credsFit_iff.2 (.inr ⟨_, hp, hid.symm, .inr ⟨?_, hs.symm, hpost⟩⟩)
  rcases hauth with h | h <;> (rw [h]; decide)

theorem fits_of_public {x : EPProvider} {now : Int} {k : Creds} {id sec : String} {cl : OPClient}
    (hp : k.primary = some { clientID := id, secret := sec })
    (hget : x.storage.base.GetClientByClientID id = .ok cl) (hnone : cl.auth = Const.AuthMethodNone) :
    credsFit (cfgOf x) now cl k = true :=
  credsFit_iff.2 (.inr ⟨_, hp, (getClient_ok hget).2.symm, .inl hnone⟩)

/-- the storage's secret check (`EPStorage.AuthorizeClientIDSecret`): a registered client whose stored secret is the presented one
    and - unless the storage only compares secrets - which is registered for a secret method -/
theorem epSecret_ok {s : EPStorage} {id sec : String} (h : s.AuthorizeClientIDSecret id sec = .ok ()) :
    ∃ c, s.base.clients.find? (·.id == id) = some c ∧ c.secret = sec ∧
      (s.secretCompareOnly = true ∨ c.auth = Const.AuthMethodBasic ∨ c.auth = Const.AuthMethodPost) := by
  unfold EPStorage.AuthorizeClientIDSecret at h
  split at h
  · rename_i hl
    split at h
    · rename_i c hc
      split at h
      · rename_i hs
        exact ⟨c, hc, by simpa using hs, Or.inl hl⟩
      · simp at h
    · simp at h
  · obtain ⟨c, hc, hauth, hs⟩ := secret_ok h
    exact ⟨c, hc, hs, Or.inr hauth⟩

theorem epSecret_strict {s : EPStorage} (hS : s.secretCompareOnly = false) (id sec : String) :
    s.AuthorizeClientIDSecret id sec = s.base.AuthorizeClientIDSecret id sec := by
  simp [EPStorage.AuthorizeClientIDSecret, hS]

/-- registrations without a secret method have no stored secret (what a storage that only compares secrets must be given so
    that a non-empty secret identifies a client registered for a secret method) -/
def NoStraySecrets (x : EPProvider) : Prop :=
  ∀ c ∈ x.storage.base.clients, (c.auth = Const.AuthMethodNone ∨ c.auth = Const.AuthMethodPrivateKeyJWT) → c.secret = ""

/-- an assertion the regenerated verifier accepts proves (in the monitor's sense) the client it names as issuer -/
theorem provesClient_of_verify {x : EPProvider} {now : Int} {t : Token} {j : Claims}
    (h : VerifyJWTAssertion now t (x.asProvider now).JWTProfileVerifier = .ok j) :
    C14.provesClient (cfgOf x).base.issuer (cfgOf x).base.jwtMaxAgeIAT (cfgOf x).base.jwtOffset (C04.registry (cfgOf x).base.clients) t now
      = some j.iss := by
  have hks : ((x.asProvider now).JWTProfileVerifier).keySet.kind = .nilSet := rfl
  have hsound := C14.c14_assertion_sound hks h
  obtain ⟨p, c0, hp, _, _, _, _, hsig⟩ := C14.verifyJWTAssertion_paths hks h
  obtain ⟨_, s, _, _, _, _, _, hc⟩ := C01.checkSignature_ok hsig
  obtain ⟨_, hmid, hcl⟩ := C01.parseToken_ok hp
  subst hc
  -- the monitor does not look at the signature algorithm `CheckSignature` records in the claims
  have : C14.assertionOK (cfgOf x).base.issuer (cfgOf x).base.jwtMaxAgeIAT (cfgOf x).base.jwtOffset true
      (C04.registry (cfgOf x).base.clients) t now c0 = none := hsound
  simp [C14.provesClient, hmid, hcl, this, Claims.SetSignatureAlgorithm]

theorem fits_of_assertion {x : EPProvider} {now : Int} {k : Creds} {t : Token} {cl : OPClient} {j : Claims}
    (ha : k.assertion = some t)
    (hv : VerifyJWTAssertion now t (x.asProvider now).JWTProfileVerifier = .ok j)
    (hget : x.storage.base.GetClientByClientID j.iss = .ok cl) (hpk : cl.auth = Const.AuthMethodPrivateKeyJWT) :
    credsFit (cfgOf x) now cl k = true :=
  credsFit_iff.2 (.inl ⟨hpk, t, ha, (getClient_ok hget).2 ▸ provesClient_of_verify hv⟩)

theorem epVerify_ok {now : Int} {o : EPOracles} {s : String} {v : JWTProfileVerifier} {tr : EPJWTTokenRequest}
    (h : Hand.epVerifyJWTAssertion now o s v = .ok tr) :
    ∃ j, VerifyJWTAssertion now (o.tokenOf s) v = .ok j ∧ tr.Issuer = j.iss := by
  unfold Hand.epVerifyJWTAssertion at h
  split at h
  · rename_i c hc; simp at h; subst h; exact ⟨c, hc, rfl⟩
  · simp at h

theorem registered_of_verify {x : EPProvider} {now : Int} {t : Token} {j : Claims}
    (h : VerifyJWTAssertion now t (x.asProvider now).JWTProfileVerifier = .ok j) :
    ∃ key, (j.iss, key) ∈ x.storage.base.keyRegistry := by
  have hks : ((x.asProvider now).JWTProfileVerifier).keySet.kind = .nilSet := rfl
  have hsound := C14.c14_assertion_sound hks h
  unfold C14.assertionOK at hsound
  split at hsound
  · simp at hsound
  · rename_i hacc
    obtain ⟨-, _, _, _, _, -, -, -, ⟨key, hmem, -⟩, -⟩ := C02.acceptedOK_none hacc
    simp only [C14.clientKeys, List.mem_map, List.mem_filter] at hmem
    obtain ⟨⟨id, k'⟩, ⟨hin, hid⟩, rfl⟩ := hmem
    simp at hid; subst hid
    exact ⟨k', hin⟩

theorem find_of_registered {x : EPProvider} {id : String} {key : JWK} (h : (id, key) ∈ x.storage.base.keyRegistry) :
    ∃ c, x.storage.base.clients.find? (·.id == id) = some c := by
  simp only [Store.keyRegistry, List.mem_flatMap, List.mem_map] at h
  obtain ⟨c, hc, k, _, hk⟩ := h
  simp at hk
  cases hf : x.storage.base.clients.find? (·.id == id) with
  | some c' => exact ⟨c', rfl⟩
  | none =>
    have := List.find?_eq_none.1 hf c hc
    simp [hk.1] at this

/-- an OAuth error document with an error status -/
def ErrDoc (resp : EPResp) : Prop := ∃ e s, resp = .json e s ∧ s ≥ 400

/-- a token response for grant `g` naming client `actor` is justified -/
def TokensOK (c : Cfg) (now : Int) (k : Creds) (g actor : String) : Prop :=
  if g = Const.GrantTypeBearer then
    ∃ t, k.grantAssertion = some t ∧
      C14.provesClient c.base.issuer c.base.jwtMaxAgeIAT c.base.jwtOffset (C04.registry c.base.clients) t now = some actor
  else ∃ cl, c.base.clients.find? (·.id == actor) = some cl ∧
    (if g = Const.GrantTypeClientCredentials then
      c.capCC = true ∧ Const.GrantTypeClientCredentials ∈ cl.grants ∧ ∃ p, k.primary = some p ∧ p.clientID = cl.id ∧ cl.secret = p.secret
     else credsFit c now cl k = true ∧ grantEnabled c g = true ∧ g ∈ cl.grants)

def GoodToken (ok : String → Prop) : EPResp → Prop
  | .ok (.tokens _ a) => ok a
  | .ok _ => False
  | .json _ s => s ≥ 400
  | .text _ _ => False

def TokShape : EPResp → Prop
  | .ok (.tokens _ _) => True
  | .json _ s => s ≥ 400
  | _ => False

def GoodIntrospect (c : Cfg) (now : Int) (k : Creds) : EPResp → Prop
  | .ok (.introspection true a) => ∃ cl, c.base.clients.find? (·.id == a) = some cl ∧ cl.auth ≠ Const.AuthMethodNone ∧ credsFit c now cl k = true
  | .ok (.introspection false _) => True
  | .ok _ => False
  | _ => True

def GoodRevoke (c : Cfg) (now : Int) (k : Creds) : EPResp → Prop
  | .ok (.revoked a) => ∃ cl, c.base.clients.find? (·.id == a) = some cl ∧ credsFit c now cl k = true
  | .ok _ => False
  | _ => True

def GoodDevice (c : Cfg) : EPResp → Prop
  | .ok (.deviceCodes a) => ∃ cl, c.base.clients.find? (·.id == a) = some cl ∧ Const.GrantTypeDeviceCode ∈ cl.grants ∧ c.capDevice = true
  | .ok _ => False
  | .json _ s => s ≥ 400
  | .text _ s => s ≥ 400

theorem GoodToken.of_errDoc {ok : String → Prop} {resp : EPResp} (h : ErrDoc resp) : GoodToken ok resp := by
  obtain ⟨e, s, rfl, hs⟩ := h; exact hs

theorem GoodIntrospect.of_errDoc {c : Cfg} {now : Int} {k : Creds} {resp : EPResp} (h : ErrDoc resp) : GoodIntrospect c now k resp := by
  obtain ⟨e, s, rfl, _⟩ := h; trivial

theorem GoodRevoke.of_errDoc {c : Cfg} {now : Int} {k : Creds} {resp : EPResp} (h : ErrDoc resp) : GoodRevoke c now k resp := by
  obtain ⟨e, s, rfl, _⟩ := h; trivial

theorem GoodDevice.of_errDoc {c : Cfg} {resp : EPResp} (h : ErrDoc resp) : GoodDevice c resp := by
  obtain ⟨e, s, rfl, hs⟩ := h; exact hs

theorem GoodToken.mono {p q : String → Prop} {resp : EPResp} (h : GoodToken p resp) (hpq : ∀ a, p a → q a) : GoodToken q resp := by
  match resp, h with
  | .ok (.tokens _ a), h => exact hpq a h
  | .json _ _, h => exact h

theorem GoodToken.shape {ok : String → Prop} {resp : EPResp} (h : GoodToken ok resp) : TokShape resp := by
  match resp, h with
  | .ok (.tokens _ _), _ => trivial
  | .json _ _, h => exact h

theorem judge_token {c : Cfg} {now : Int} {k : Creds} {g : String} {resp : EPResp} (h : GoodToken (TokensOK c now k g) resp) :
    judge c now (.token g) k (obsOf resp) = none := by
  match resp, h with
  | .json _ s, h =>
    simp only [GoodToken] at h
    have : ¬ (s.toNat < 400) := by omega
    simp [judge, obsOf, this]
  | .ok (.tokens _ a), h =>
    simp only [GoodToken, TokensOK] at h
    simp only [judge, obsOf]
    by_cases hj : g = Const.GrantTypeBearer
    · simp only [hj, if_true] at h
      obtain ⟨t, ht, hp⟩ := h
      simp [hj, Const.GrantTypeBearer, ht, hp]
    · simp only [hj, if_false] at h
      obtain ⟨cl, hf, h⟩ := h
      have hj' : (g == "urn:ietf:params:oauth:grant-type:jwt-bearer") = false := by simpa [Const.GrantTypeBearer] using hj
      by_cases hcc : g = Const.GrantTypeClientCredentials
      · simp only [hcc, if_true] at h
        obtain ⟨hcap, hgr, p, hp, hid, hs⟩ := h
        have hgr' : "client_credentials" ∈ cl.grants := by simpa [Const.GrantTypeClientCredentials] using hgr
        subst hcc
        simp [Const.GrantTypeClientCredentials, hf, hcap, hgr', hp, hid, hs] at hj' ⊢
      · simp only [hcc, if_false] at h
        obtain ⟨hfit, hen, hgr⟩ := h
        have hcc' : (g == "client_credentials") = false := by simpa [Const.GrantTypeClientCredentials] using hcc
        simp [hj', hf, hcc', hfit, hen, hgr]

theorem judge_introspect {c : Cfg} {now : Int} {k : Creds} {resp : EPResp} (h : GoodIntrospect c now k resp) :
    judge c now .introspect k (obsOf resp) = none := by
  match resp, h with
  | .json _ s, _ => simp [judge, obsOf]
  | .text _ s, _ => simp [judge, obsOf]
  | .ok (.introspection false a), _ => simp [judge, obsOf]
  | .ok (.introspection true a), h =>
    obtain ⟨cl, hf, hn, hfit⟩ := h
    have hn' : (cl.auth == "none") = false := by simpa [Const.AuthMethodNone] using hn
    simp [judge, obsOf, hf, hn', hfit]

theorem judge_revoke {c : Cfg} {now : Int} {k : Creds} {resp : EPResp} (h : GoodRevoke c now k resp) :
    judge c now .revoke k (obsOf resp) = none := by
  match resp, h with
  | .json _ s, _ => simp [judge, obsOf]
  | .text _ s, _ => simp [judge, obsOf]
  | .ok (.revoked a), h =>
    obtain ⟨cl, hf, hfit⟩ := h
    simp [judge, obsOf, hf, hfit]

theorem judge_device {c : Cfg} {resp : EPResp} {now : Int} {k : Creds} (h : GoodDevice c resp) :
    judge c now .deviceAuthorization k (obsOf resp) = none := by
  match resp, h with
  | .json _ s, h =>
    simp only [GoodDevice] at h
    simp [judge, obsOf]; omega
  | .text _ s, h =>
    simp only [GoodDevice] at h
    simp [judge, obsOf]; omega
  | .ok (.deviceCodes a), h =>
    obtain ⟨cl, hf, hg, hcap⟩ := h
    have hg' : "urn:ietf:params:oauth:grant-type:device_code" ∈ cl.grants := by simpa [Const.GrantTypeDeviceCode] using hg
    simp [judge, obsOf, hf, hg', hcap]

/-! ## the status mapping (regenerated RequestError / WriteError / RevocationError) -/

theorem requestError_errDoc (now : Int) (r : EPRequest) (err : String) : ErrDoc (GenEP.RequestError now r err) := by
  rw [SpecEP.RequestError_eq]; unfold SpecEP.RequestError
  simp only []
  split
  · exact ⟨_, _, rfl, by decide⟩
  · exact ⟨_, _, rfl, by decide⟩

theorem decodeStatus_ge {e : String} {se : EPStatusError} (h : Hand.epDecodeStatus e = some se) : se.statusCode ≥ 400 := by
  unfold Hand.epDecodeStatus at h
  repeat' (split at h)
  all_goals (first | (simp only [Option.some.injEq] at h; subst h; simp) | simp at h)

theorem writeError_errDoc (now : Int) (r : EPRequest) (err : String) : ErrDoc (GenEP.WriteError now r err) := by
  rw [SpecEP.WriteError_eq]; unfold SpecEP.WriteError; simp only [SpecEP.writeError_eq]; unfold SpecEP.writeError
  try simp only []
  split
  · rename_i hs
    refine ⟨_, _, rfl, ?_⟩
    unfold Hand.epIsStatusError at hs
    unfold Hand.epStatusErrorOf
    cases hd : Hand.epDecodeStatus err with
    | none => simp [hd] at hs
    | some se => simpa using decodeStatus_ge hd
  · split
    · exact ⟨_, _, rfl, by decide⟩
    · exact ⟨_, _, rfl, by decide⟩

theorem goodToken_requestError (ok : String → Prop) (now : Int) (r : EPRequest) (err : String) :
    GoodToken ok (GenEP.RequestError now r err) := .of_errDoc (requestError_errDoc ..)

theorem goodToken_writeError (ok : String → Prop) (now : Int) (r : EPRequest) (err : String) :
    GoodToken ok (GenEP.WriteError now r err) := .of_errDoc (writeError_errDoc ..)

theorem goodRevoke_revocationRequestError (c : Cfg) (now : Int) (k : Creds) (r : EPRequest) (err : String) :
    GoodRevoke c now k (GenEP.RevocationRequestError now r err) := by
  rw [SpecEP.RevocationRequestError_eq]; unfold SpecEP.RevocationRequestError; trivial

theorem GoodToken.issue {ok : String → Prop} {x : EPProvider} {g c : String} {d : EPDone} (hd : Hand.epIssue x g c = .ok d)
    (h : ok c) : GoodToken ok (.ok d) := by
  unfold Hand.epIssue at hd
  split at hd <;> cases hd
  exact h

theorem resp_ite {P : EPResp → Prop} {c : Prop} [Decidable c] {a b : EPResp} (ha : c → P a) (hb : ¬ c → P b) :
    P (if c then a else b) := by
  by_cases hc : c
  · rw [if_pos hc]; exact ha hc
  · rw [if_neg hc]; exact hb hc

/-! ## request parsing: what the regenerated parsers extract is what the request presents (`credsOf`) -/

theorem decode_ok {d : EPDecoder} {v : EPValues} {f : EPForm} (h : d.Decode v = .ok f) :
    f.ClientID = v.last "client_id" ∧ f.ClientSecret = v.last "client_secret" ∧ f.ClientAssertion = v.last "client_assertion" ∧
    f.Assertion = v.last "assertion" := by
  unfold EPDecoder.Decode at h
  split at h
  · simp at h
  · simp at h; subst h; exact ⟨rfl, rfl, rfl, rfl⟩

/-- the secret-type credential of a request with a Basic header (`if clientID, clientSecret, ok := r.BasicAuth(); ok {..}`) -/
theorem primary_basic {o : EPOracles} {r : EPRequest} {u p id sec : String} (hb : r.basic = some (u, p))
    (hu : o.unescape u = .ok id) (hp : o.unescape p = .ok sec) :
    (credsOf o r).primary = some { clientID := id, secret := sec } := by
  unfold credsOf; simp [hb, hu, hp]

/-- ... and of a request without one -/
theorem primary_form {o : EPOracles} {r : EPRequest} (hb : r.basic = none) :
    (credsOf o r).primary = some { clientID := r.Form.last "client_id", secret := r.Form.last "client_secret" } := by
  unfold credsOf; simp [hb]

/-- `ParseAuthenticatedTokenRequest` (code and refresh grant of the Provider router) -/
theorem parseAuthenticated_ok {now : Int} {o : EPOracles} {r : EPRequest} {d : EPDecoder} {f0 f : EPForm}
    (h : GenEP.ParseAuthenticatedTokenRequest now o r d f0 = .ok f) :
    (credsOf o r).primary = some { clientID := f.ClientID, secret := f.ClientSecret } ∧
    f.ClientAssertion = r.Form.last "client_assertion" := by
  rw [SpecEP.ParseAuthenticatedTokenRequest_eq] at h; unfold SpecEP.ParseAuthenticatedTokenRequest at h
  split at h; · cases h
  split at h; · cases h
  rename_i f1 hdec
  obtain ⟨h1, h2, h3, _⟩ := decode_ok hdec
  rcases hb : r.basic with _ | ⟨u, p⟩ <;> simp [EPRequest.BasicAuth, hb] at h
  · subst h; exact ⟨h1 ▸ h2 ▸ primary_form hb, h3⟩
  · split at h; · cases h
    rename_i id hu
    split at h; · cases h
    rename_i sec hp
    cases h
    exact ⟨primary_basic hb hu hp, h3⟩

@[simp] theorem store_getClient (s : EPStorage) (id : String) : s.store.GetClientByClientID id = s.base.GetClientByClientID id := rfl
@[simp] theorem store_authSecret (s : EPStorage) (id sec : String) : s.store.AuthorizeClientIDSecret id sec = s.base.AuthorizeClientIDSecret id sec := rfl
@[simp] theorem asProvider_post (now : Int) (x : EPProvider) : (x.asProvider now).postSupported = x.config.AuthMethodPost := rfl
@[simp] theorem asProvider_store (now : Int) (x : EPProvider) : (x.asProvider now).store = x.storage.store := rfl

/-- tokens of a grant that authenticates the client itself -/
theorem tokensOK_of_fit {c : Cfg} {now : Int} {k : Creds} {g actor : String} {cl : OPClient}
    (hb : g ≠ Const.GrantTypeBearer) (hcc : g ≠ Const.GrantTypeClientCredentials)
    (hf : c.base.clients.find? (·.id == actor) = some cl) (hfit : credsFit c now cl k = true)
    (hen : grantEnabled c g = true) (hg : g ∈ cl.grants) : TokensOK c now k g actor := by
  unfold TokensOK
  rw [if_neg hb]
  exact ⟨cl, hf, by rw [if_neg hcc]; exact ⟨hfit, hen, hg⟩⟩

theorem fits_of_authAs {x : EPProvider} {now : Int} {o : EPOracles} {r : EPRequest} {f : EPForm} {c : OPClient}
    (hf : (credsOf o r).primary = some { clientID := f.ClientID, secret := f.ClientSecret } ∧
      f.ClientAssertion = r.Form.last "client_assertion")
    (h : AuthAs now (x.asProvider now) f.ClientID f.ClientSecret (o.tokenOf f.ClientAssertion) c) :
    (cfgOf x).base.clients.find? (·.id == c.id) = some c ∧ credsFit (cfgOf x) now c (credsOf o r) = true := by
  rcases h with ⟨j, hv, hget, hpk⟩ | ⟨hget, hauth⟩
  · exact ⟨getClient_find hget, fits_of_assertion (congrArg (fun a => some (o.tokenOf a)) hf.2.symm) hv hget hpk⟩
  · refine ⟨getClient_find hget, ?_⟩
    rcases hauth with hnone | ⟨hpost, hsec⟩
    · exact fits_of_public hf.1 hget hnone
    · exact fits_of_secret hf.1 hget hsec hpost

theorem goodToken_codeExchange {x : EPProvider} {now : Int} {o : EPOracles} {r : EPRequest} :
    GoodToken (TokensOK (cfgOf x) now (credsOf o r) Const.GrantTypeCode) (GenEP.CodeExchange now o r x) := by
  rw [SpecEP.CodeExchange_eq]; unfold SpecEP.CodeExchange
  split; · exact goodToken_requestError ..
  rename_i f hparse
  refine resp_ite (fun _ => goodToken_requestError ..) fun _ => ?_
  split; · exact goodToken_requestError ..
  rename_i a c hval
  split; · exact goodToken_requestError ..
  rename_i d hd
  refine .issue hd ?_
  rw [SpecEP.ParseAccessTokenRequest_eq] at hparse; unfold SpecEP.ParseAccessTokenRequest at hparse
  simp only [] at hparse
  split at hparse; · cases hparse
  rename_i f' hpa
  cases hparse
  obtain ⟨_, _, hgrant, _, _, _, hauth⟩ := C04.validateAccessTokenRequest_ok hval
  obtain ⟨hfind, hfit⟩ := fits_of_authAs (parseAuthenticated_ok hpa) (authAs_of_authenticated hauth)
  exact tokensOK_of_fit (by decide) (by decide) hfind hfit rfl hgrant

theorem goodToken_refreshTokenExchange {x : EPProvider} {now : Int} {o : EPOracles} {r : EPRequest} :
    GoodToken (fun a => x.config.GrantTypeRefreshToken = true → TokensOK (cfgOf x) now (credsOf o r) Const.GrantTypeRefreshToken a)
      (GenEP.RefreshTokenExchange now o r x) := by
  rw [SpecEP.RefreshTokenExchange_eq]; unfold SpecEP.RefreshTokenExchange
  split; · exact goodToken_requestError ..
  rename_i f hparse
  split; · exact goodToken_requestError ..
  rename_i rr c hval
  split; · exact goodToken_requestError ..
  rename_i d hd
  refine .issue hd fun hen => ?_
  rw [SpecEP.ParseRefreshTokenRequest_eq] at hparse; unfold SpecEP.ParseRefreshTokenRequest at hparse
  simp only [] at hparse
  split at hparse; · cases hparse
  rename_i f' hpa
  cases hparse
  obtain ⟨hauth, hgrant⟩ := validateRefresh_auth hval
  obtain ⟨hfind, hfit⟩ := fits_of_authAs (parseAuthenticated_ok hpa) hauth
  exact tokensOK_of_fit (by decide) (by decide) hfind hfit hen hgrant

theorem clientCredentials_ok {s : Store} {id sec : String} {c : OPClient} (h : s.ClientCredentials id sec = .ok c) :
    s.clients.find? (·.id == id) = some c ∧ c.id = id ∧ c.secret = sec ∧ Const.GrantTypeClientCredentials ∈ c.grants := by
  unfold Store.ClientCredentials at h
  split at h
  · rename_i c' hc
    split at h
    · rename_i hcond
      simp at h; subst h
      simp at hcond
      exact ⟨hc, Store.find_id hc, hcond.2, hcond.1⟩
    · simp at h
  · simp at h

theorem parseClientCredentialsRequest_ok {now : Int} {o : EPOracles} {r : EPRequest} {d : EPDecoder} {f : EPForm}
    (h : GenEP.ParseClientCredentialsRequest now o r d = .ok f) :
    (credsOf o r).primary = some { clientID := f.ClientID, secret := f.ClientSecret } := by
  rw [SpecEP.ParseClientCredentialsRequest_eq] at h; unfold SpecEP.ParseClientCredentialsRequest at h
  split at h; · cases h
  split at h; · cases h
  rename_i f1 hdec
  obtain ⟨h1, h2, _, _⟩ := decode_ok hdec
  rcases hb : r.basic with _ | ⟨u, p⟩ <;> simp [EPRequest.BasicAuth, hb] at h
  · subst h; exact h1 ▸ h2 ▸ primary_form hb
  · split at h; · cases h
    rename_i id hu
    split at h; · cases h
    rename_i sec hp
    cases h
    exact primary_basic hb hu hp

theorem validateClientCredentialsRequest_ok {now : Int} {f : EPForm} {x : EPProvider} {tr : String} {c : OPClient}
    (h : GenEP.ValidateClientCredentialsRequest now f x = .ok (tr, c)) :
    x.storage.is_ClientCredentialsStorage = true ∧ x.storage.base.ClientCredentials f.ClientID f.ClientSecret = .ok c := by
  rw [SpecEP.ValidateClientCredentialsRequest_eq] at h; unfold SpecEP.ValidateClientCredentialsRequest at h
  obtain ⟨hcap, h⟩ := guard_ok h
  split at h; · cases h
  rename_i c' hauth
  split at h; · cases h
  cases h
  exact ⟨by simpa [EPProvider.Storage] using hcap, (authorizeClientCredentialsClient_ok hauth).1⟩

theorem goodToken_clientCredentialsExchange {x : EPProvider} {now : Int} {o : EPOracles} {r : EPRequest} :
    GoodToken (TokensOK (cfgOf x) now (credsOf o r) Const.GrantTypeClientCredentials) (GenEP.ClientCredentialsExchange now o r x) := by
  rw [SpecEP.ClientCredentialsExchange_eq]; unfold SpecEP.ClientCredentialsExchange
  split; · exact goodToken_requestError ..
  rename_i f hparse
  split; · exact goodToken_requestError ..
  rename_i tr c hval
  split; · exact goodToken_requestError ..
  rename_i d hd
  refine .issue hd ?_
  obtain ⟨hcap, hcc⟩ := validateClientCredentialsRequest_ok hval
  obtain ⟨hfind, hid, hsec, hgr⟩ := clientCredentials_ok hcc
  refine ⟨c, hid ▸ hfind, hcap, hgr, _, parseClientCredentialsRequest_ok hparse, hid.symm, hsec⟩

def NoEmptyID (x : EPProvider) : Prop := ∀ c ∈ x.storage.base.clients, c.id ≠ ""

theorem genAuthorizeSecret_ok {now : Int} {id sec : String} {s : EPStorage} (h : GenEP.AuthorizeClientIDSecret now id sec s = .ok ()) :
    s.AuthorizeClientIDSecret id sec = .ok () := by
  rw [SpecEP.AuthorizeClientIDSecret_eq] at h; unfold SpecEP.AuthorizeClientIDSecret at h
  split at h <;> simp_all

theorem parseTokenExchangeRequest_ok {now : Int} {o : EPOracles} {r : EPRequest} {d : EPDecoder} {f : EPForm} {id sec : String}
    (h : GenEP.ParseTokenExchangeRequest now o r d = .ok (f, id, sec)) :
    (r.basic = none ∧ id = "") ∨ (credsOf o r).primary = some { clientID := id, secret := sec } := by
  rw [SpecEP.ParseTokenExchangeRequest_eq] at h; unfold SpecEP.ParseTokenExchangeRequest at h
  split at h; · cases h
  split at h; · cases h
  rcases hb : r.basic with _ | ⟨u, p⟩ <;> simp [EPRequest.BasicAuth, hb] at h
  · exact .inl ⟨rfl, h.2.1⟩
  · split at h; · cases h
    rename_i id' hu
    split at h; · cases h
    rename_i sec' hp
    cases h
    exact .inr (primary_basic hb hu hp)

/-- `AuthorizeTokenExchangeClient` of the Provider router looks at the client's registered method only for client_secret_post -/
theorem authorizeTokenExchangeClient_ep_ok {now : Int} {id sec : String} {x : EPProvider} {c : OPClient}
    (h : GenEP.AuthorizeTokenExchangeClient now id sec x = .ok c) :
    x.storage.AuthorizeClientIDSecret id sec = .ok () ∧ x.storage.base.GetClientByClientID id = .ok c ∧
      (c.auth = Const.AuthMethodPost → x.config.AuthMethodPost = true) := by
  rw [SpecEP.AuthorizeTokenExchangeClient_eq] at h; unfold SpecEP.AuthorizeTokenExchangeClient at h
  split at h; · cases h
  rename_i hsec
  split at h; · cases h
  rename_i c' hget
  obtain ⟨hpost, h⟩ := guard_ok h
  cases h
  refine ⟨genAuthorizeSecret_ok hsec, hget, fun ha => ?_⟩
  simpa [OPClient.AuthMethod, ha, SpecEP.AuthMethodPostSupported_eq, SpecEP.AuthMethodPostSupported] using hpost

theorem validateTokenExchangeRequest_ok {now : Int} {f : EPForm} {id sec : String} {x : EPProvider} {er : EPExchangeReq} {c : OPClient}
    (h : GenEP.ValidateTokenExchangeRequest now f id sec x = .ok (er, c)) :
    GenEP.AuthorizeTokenExchangeClient now id sec x = .ok c ∧ Const.GrantTypeTokenExchange ∈ c.grants ∧
      x.storage.is_TokenExchangeStorage = true := by
  rw [SpecEP.ValidateTokenExchangeRequest_eq] at h; unfold SpecEP.ValidateTokenExchangeRequest at h
  obtain ⟨_, h⟩ := guard_ok h
  obtain ⟨_, h⟩ := guard_ok h
  obtain ⟨_, h⟩ := guard_ok h
  split at h; · cases h
  rename_i c' hauth
  obtain ⟨hgrant, h⟩ := guard_ok h
  obtain ⟨_, h⟩ := guard_ok h
  obtain ⟨_, h⟩ := guard_ok h
  obtain ⟨_, h⟩ := guard_ok h
  split at h; · cases h
  rename_i er' hcreate
  cases h
  refine ⟨hauth, C04.validateGrantType_iff.1 (by simpa using hgrant), ?_⟩
  unfold Hand.epCreateTokenExchangeRequest at hcreate
  exact by simpa using (guard_ok hcreate).1

theorem goodToken_tokenExchange {x : EPProvider} {now : Int} {o : EPOracles} {r : EPRequest} :
    GoodToken (fun a => NoEmptyID x → x.storage.secretCompareOnly = false →
        TokensOK (cfgOf x) now (credsOf o r) Const.GrantTypeTokenExchange a) (GenEP.TokenExchange now o r x) := by
  rw [SpecEP.TokenExchange_eq]; unfold SpecEP.TokenExchange
  split; · exact goodToken_requestError ..
  rename_i f id sec hparse
  split; · exact goodToken_requestError ..
  rename_i er c hval
  split; · exact goodToken_requestError ..
  rename_i d hd
  refine .issue hd fun hW hS => ?_
  obtain ⟨hauth, hgr, hcap⟩ := validateTokenExchangeRequest_ok hval
  obtain ⟨hsec, hget, hpost⟩ := authorizeTokenExchangeClient_ep_ok hauth
  rw [epSecret_strict hS] at hsec
  have hprim : (credsOf o r).primary = some { clientID := id, secret := sec } := by
    rcases parseTokenExchangeRequest_ok hparse with ⟨_, hid⟩ | hp
    · -- without a Basic header the function authenticates the empty client id
      obtain ⟨hf, hid0⟩ := getClient_ok hget
      exact absurd (hid0.trans hid) (hW c (List.mem_of_find?_eq_some hf))
    · exact hp
  exact tokensOK_of_fit (by decide) (by decide) (getClient_find hget) (fits_of_secret hprim hget hsec hpost)
    (by simp [grantEnabled, cfgOf, hcap, Const.GrantTypeTokenExchange]) hgr

theorem jwtProfileVerifier_eq (now : Int) (x : EPProvider) : x.JWTProfileVerifier = (x.asProvider now).JWTProfileVerifier := rfl

/-- tokens of the jwt-bearer grant: for the issuer of a verified `assertion` parameter -/
theorem tokensOK_bearer {x : EPProvider} {now : Int} {o : EPOracles} {r : EPRequest} {a : String} {tr : EPJWTTokenRequest}
    (ha : a = r.Form.last "assertion") (hver : Hand.epVerifyJWTAssertion now o a x.JWTProfileVerifier = .ok tr) :
    TokensOK (cfgOf x) now (credsOf o r) Const.GrantTypeBearer tr.Issuer := by
  rw [jwtProfileVerifier_eq now] at hver
  obtain ⟨j, hv, hiss⟩ := epVerify_ok hver
  unfold TokensOK
  rw [if_pos rfl, hiss]
  exact ⟨o.tokenOf (r.Form.last "assertion"), rfl, ha ▸ provesClient_of_verify hv⟩

theorem goodToken_jwtProfile {x : EPProvider} {now : Int} {o : EPOracles} {r : EPRequest} :
    GoodToken (TokensOK (cfgOf x) now (credsOf o r) Const.GrantTypeBearer) (GenEP.JWTProfile now o r x) := by
  rw [SpecEP.JWTProfile_eq]; unfold SpecEP.JWTProfile
  split; · exact goodToken_requestError ..
  rename_i f hparse
  split; · exact goodToken_requestError ..
  rename_i tr hver
  split; · exact goodToken_requestError ..
  simp only []
  split; · exact goodToken_requestError ..
  rename_i d hd
  refine .issue hd ?_
  rw [SpecEP.ParseJWTProfileGrantRequest_eq] at hparse; unfold SpecEP.ParseJWTProfileGrantRequest at hparse
  split at hparse; · cases hparse
  split at hparse; · cases hparse
  rename_i f1 hdec
  cases hparse
  exact (tokensOK_bearer (decode_ok hdec).2.2.2 hver : TokensOK _ _ _ _ tr.Issuer)

/-! ## `ClientIDFromRequest` (Provider router: device authorization, device token, introspection) -/

theorem clientJWTAuth_ok {now : Int} {o : EPOracles} {ca : EPForm} {p : EPProvider} {id : String}
    (h : GenEP.ClientJWTAuth now o ca p = .ok id) :
    ∃ j, VerifyJWTAssertion now (o.tokenOf ca.ClientAssertion) (p.asProvider now).JWTProfileVerifier = .ok j ∧ id = j.iss := by
  rw [SpecEP.ClientJWTAuth_eq] at h; unfold SpecEP.ClientJWTAuth at h
  obtain ⟨_, h⟩ := guard_ok h
  split at h; · cases h
  rename_i tr hver
  cases h
  exact epVerify_ok hver

theorem clientBasicAuth_ok {now : Int} {o : EPOracles} {r : EPRequest} {s : EPStorage} {id : String}
    (h : GenEP.ClientBasicAuth now o r s = .ok id) :
    ∃ sec, (credsOf o r).primary = some { clientID := id, secret := sec } ∧ s.AuthorizeClientIDSecret id sec = .ok () := by
  rw [SpecEP.ClientBasicAuth_eq] at h; unfold SpecEP.ClientBasicAuth at h
  rcases hb : r.basic with _ | ⟨u, p⟩ <;> simp [EPRequest.BasicAuth, hb] at h
  split at h; · cases h
  rename_i id' hu
  split at h; · cases h
  rename_i sec hp
  split at h; · cases h
  rename_i hsec
  cases h
  exact ⟨sec, primary_basic hb hu hp, hsec⟩

theorem clientBasicAuth_noCredentials {now : Int} {o : EPOracles} {r : EPRequest} {s : EPStorage} {err : String}
    (h : GenEP.ClientBasicAuth now o r s = .error err) (hn : Hand.epErrorsIs err "ErrNoClientCredentials" = true) : r.basic = none := by
  rw [SpecEP.ClientBasicAuth_eq] at h; unfold SpecEP.ClientBasicAuth at h
  rcases hb : r.basic with _ | ⟨u, p⟩
  · rfl
  simp [EPRequest.BasicAuth, hb] at h
  exfalso
  repeat' (split at h)
  all_goals (first | (cases h; done) | (cases h; revert hn; decide +kernel))

/-- `checkPrivateKeyJWTClient`: the client exists and is registered for private_key_jwt -/
theorem checkPrivateKeyJWTClient_ok {now : Int} {id : String} {s : EPStorage} (h : GenEP.checkPrivateKeyJWTClient now id s = .ok ()) :
    ∃ cl, s.base.GetClientByClientID id = .ok cl ∧ cl.auth = Const.AuthMethodPrivateKeyJWT := by
  rw [SpecEP.checkPrivateKeyJWTClient_eq] at h; unfold SpecEP.checkPrivateKeyJWTClient at h
  simp only [EPStorage.GetClientByClientID] at h
  split at h; · simp at h
  rename_i cl hget
  by_cases hpk : cl.auth = Const.AuthMethodPrivateKeyJWT
  · exact ⟨cl, hget, hpk⟩
  · simp [OPClient.AuthMethod, hpk] at h

/-- `checkAuthMethodPost`: a client registered for client_secret_post passes only when the method is enabled -/
theorem checkAuthMethodPost_ok {now : Int} {id : String} {p : EPProvider} (h : GenEP.checkAuthMethodPost now id p = .ok ()) :
    ∀ cl, p.storage.base.GetClientByClientID id = .ok cl → cl.auth = Const.AuthMethodPost → p.config.AuthMethodPost = true := by
  intro cl hget hpost
  rw [SpecEP.checkAuthMethodPost_eq] at h; unfold SpecEP.checkAuthMethodPost at h
  simp only [EPProvider.is_has_AuthMethodPostSupported, SpecEP.AuthMethodPostSupported_eq, SpecEP.AuthMethodPostSupported, EPProvider.Storage, EPStorage.GetClientByClientID,
    Bool.not_true, Bool.false_or] at h
  cases hflag : p.config.AuthMethodPost with
  | true => rfl
  | false =>
    simp [hflag, hget, OPClient.AuthMethod, hpost] at h

/-- the three ways `ClientIDFromRequest` yields a client id -/
theorem clientIDFromRequest_ok {now : Int} {o : EPOracles} {r : EPRequest} {p : EPProvider} {id : String} {auth : Bool}
    (h : GenEP.ClientIDFromRequest now o r p = .ok (id, auth)) :
    (auth = true ∧ ∃ j, VerifyJWTAssertion now (o.tokenOf (r.Form.last "client_assertion")) (p.asProvider now).JWTProfileVerifier = .ok j ∧ id = j.iss ∧
        GenEP.checkPrivateKeyJWTClient now id p.storage = .ok ())
    ∨ (auth = true ∧ (∃ sec, (credsOf o r).primary = some { clientID := id, secret := sec } ∧ p.storage.AuthorizeClientIDSecret id sec = .ok ()) ∧
        ∀ cl, p.storage.base.GetClientByClientID id = .ok cl → cl.auth = Const.AuthMethodPost → p.config.AuthMethodPost = true)
    ∨ (auth = false ∧ (credsOf o r).primary = some { clientID := id, secret := r.Form.last "client_secret" }) := by
  rw [SpecEP.ClientIDFromRequest_eq] at h; unfold SpecEP.ClientIDFromRequest at h
  split at h; · cases h
  split at h; · cases h
  rename_i data hdec
  obtain ⟨h1, _, h3, _⟩ := decode_ok hdec
  simp only [] at h
  rcases ite_ok h with ⟨_, h⟩ | ⟨_, h⟩
  · split at h; · cases h
    rename_i id' hjwt
    split at h; · cases h
    rename_i hpk
    cases h
    obtain ⟨j, hv, hid⟩ := clientJWTAuth_ok hjwt
    exact .inl ⟨rfl, j, by simpa [EPForm.ClientAssertionParams, h3] using hv, hid, hpk⟩
  · split at h
    · rename_i id' hba
      split at h; · cases h
      rename_i hpost
      cases h
      exact .inr (.inl ⟨rfl, clientBasicAuth_ok hba, checkAuthMethodPost_ok hpost⟩)
    · rename_i err hba
      obtain ⟨hno, h⟩ := guard_ok h
      obtain ⟨_, h⟩ := guard_ok h
      cases h
      exact .inr (.inr ⟨rfl, h1 ▸ primary_form (clientBasicAuth_noCredentials hba (by simpa using hno))⟩)

theorem assertion_client {x : EPProvider} {now : Int} {o : EPOracles} {r : EPRequest} {j : Claims}
    (hv : VerifyJWTAssertion now (o.tokenOf (r.Form.last "client_assertion")) (x.asProvider now).JWTProfileVerifier = .ok j)
    (hpk : GenEP.checkPrivateKeyJWTClient now j.iss x.storage = .ok ()) :
    ∃ cl, (cfgOf x).base.clients.find? (·.id == j.iss) = some cl ∧ cl.auth ≠ Const.AuthMethodNone ∧
      credsFit (cfgOf x) now cl (credsOf o r) = true := by
  obtain ⟨cl, hget, hpkj⟩ := checkPrivateKeyJWTClient_ok hpk
  exact ⟨cl, (getClient_ok hget).1, by rw [hpkj]; decide, fits_of_assertion rfl hv hget hpkj⟩

theorem secret_client {x : EPProvider} {now : Int} {k : Creds} {id sec : String}
    (hP : ∀ cl, x.storage.base.GetClientByClientID id = .ok cl → cl.auth = Const.AuthMethodPost → x.config.AuthMethodPost = true)
    (hp : k.primary = some { clientID := id, secret := sec }) (hsec : x.storage.AuthorizeClientIDSecret id sec = .ok ())
    (hS : x.storage.secretCompareOnly = true → sec ≠ "" ∧ NoStraySecrets x) :
    ∃ cl, (cfgOf x).base.clients.find? (·.id == id) = some cl ∧ cl.auth ≠ Const.AuthMethodNone ∧ credsFit (cfgOf x) now cl k = true := by
  obtain ⟨c, hc, hs, hauth⟩ := epSecret_ok hsec
  have hget := getClient_of_find hc
  have hmeth : ¬ (c.auth = Const.AuthMethodNone ∨ c.auth = Const.AuthMethodPrivateKeyJWT) := by
    rcases hauth with hl | h | h
    · -- the storage only compares: the presented secret is not empty, so the client has a stored secret
      obtain ⟨hne, hstray⟩ := hS hl
      exact fun ha => hne (hs ▸ hstray c (List.mem_of_find?_eq_some hc) ha)
    · rw [h]; decide
    · rw [h]; decide
  exact ⟨c, hc, fun ha => hmeth (.inl ha),
    credsFit_iff.2 (.inr ⟨_, hp, (Store.find_id hc).symm, .inr ⟨fun ha => hmeth (.inr ha), hs.symm, hP c hget⟩⟩)⟩

/-- a client authenticated through `ClientIDFromRequest`: registered, not public, and a credential of the request fits -/
theorem authenticated_clientID {now : Int} {o : EPOracles} {r : EPRequest} {x : EPProvider} {id : String}
    (h : GenEP.ClientIDFromRequest now o r x = .ok (id, true)) (hS : x.storage.secretCompareOnly = false) :
    ∃ cl, (cfgOf x).base.clients.find? (·.id == id) = some cl ∧ cl.auth ≠ Const.AuthMethodNone ∧
      credsFit (cfgOf x) now cl (credsOf o r) = true := by
  rcases clientIDFromRequest_ok h with ⟨_, j, hv, rfl, hpk⟩ | ⟨_, ⟨sec, hp, hsec⟩, hpost⟩ | ⟨hfalse, _⟩
  · exact assertion_client hv hpk
  · exact secret_client hpost hp hsec fun hl => absurd hl (by simp [hS])
  · cases hfalse

/-- hypothesis of the `_partial` theorem for the device_code grant of the Provider router, which does not look at the client's
    registered grant types when it issues tokens (finding F-C05e): stored device authorizations belong to clients registered for the grant -/
def DeviceGrantsRegistered (x : EPProvider) : Prop :=
  ∀ d ∈ x.storage.devices, ∀ c, x.storage.base.clients.find? (·.id == d.state.ClientID) = some c → Const.GrantTypeDeviceCode ∈ c.grants

theorem checkDeviceState_ok {now : Int} {clientID code : String} {x : EPProvider} {st : DeviceAuthorizationState}
    (h : Hand.epCheckDeviceState now clientID code x = .ok st) :
    x.storage.is_DeviceAuthorizationStorage = true ∧ ∃ d ∈ x.storage.devices, d.state.ClientID = clientID := by
  unfold Hand.epCheckDeviceState at h; rw [SpecDev.CheckDeviceAuthorizationState_eq] at h; unfold SpecDev.CheckDeviceAuthorizationState at h; simp only [SpecDev.assertDeviceStorage_eq] at h; unfold SpecDev.assertDeviceStorage at h
  simp only [DevProvider.Storage, EPProvider.dev] at h
  split at h; · simp at h
  rename_i st0 hassert
  have hcap : x.storage.is_DeviceAuthorizationStorage = true := by
    cases hc : x.storage.is_DeviceAuthorizationStorage with
    | true => rfl
    | false => simp [hc] at hassert
  simp [hcap] at hassert; subst hassert
  split at h
  · split at h <;> simp at h
  · rename_i st1 hget
    refine ⟨hcap, ?_⟩
    unfold DevStore.GetDeviceAuthorizatonState at hget
    simp only [] at hget
    split at hget
    · rename_i e hf
      split at hget
      · rename_i hcl
        exact ⟨e, List.mem_of_find?_eq_some hf, by simpa using hcl⟩
      · simp at hget
    · simp at hget

theorem goodToken_deviceAccessToken {x : EPProvider} {now : Int} {o : EPOracles} {r : EPRequest} :
    GoodToken (fun a => DeviceGrantsRegistered x → x.storage.secretCompareOnly = false →
        TokensOK (cfgOf x) now (credsOf o r) Const.GrantTypeDeviceCode a) (GenEP.DeviceAccessToken now o r x) := by
  rw [SpecEP.DeviceAccessToken_eq]; unfold SpecEP.DeviceAccessToken
  split; · exact goodToken_requestError ..
  rename_i d hd
  rw [SpecEP.deviceAccessToken_eq] at hd; unfold SpecEP.deviceAccessToken at hd
  split at hd; · cases hd
  rename_i id auth hcid
  split at hd; · cases hd
  split at hd; · cases hd
  rename_i st hst
  split at hd; · cases hd
  rename_i client hget
  obtain ⟨hauth, hd⟩ := guard_ok hd
  split at hd; · cases hd
  rename_i d' hd'
  cases hd
  refine .issue hd' fun hD hS => ?_
  simp only [EPProvider.Storage, EPStorage.GetClientByClientID] at hget
  obtain ⟨hcap, dv, hdv, hdc⟩ := checkDeviceState_ok hst
  have hgr : Const.GrantTypeDeviceCode ∈ client.grants := hD dv hdv client (by rw [hdc]; exact (getClient_ok hget).1)
  have hfit : credsFit (cfgOf x) now client (credsOf o r) = true := by
    cases auth with
    | true =>
      obtain ⟨cl, hf, _, hfit⟩ := authenticated_clientID hcid hS
      cases (getClient_ok hget).1.symm.trans hf; exact hfit
    | false =>
      rcases clientIDFromRequest_ok hcid with ⟨ht, _⟩ | ⟨ht, _⟩ | ⟨_, hp⟩
      · cases ht
      · cases ht
      · exact fits_of_public hp hget (by simpa [OPClient.AuthMethod] using hauth)
  exact tokensOK_of_fit (by decide) (by decide) (getClient_find hget) hfit
    (by simp [grantEnabled, cfgOf, hcap, Const.GrantTypeDeviceCode]) hgr

@[simp] theorem credsOf_parsed (o : EPOracles) (r : EPRequest) : credsOf o r.parsed = credsOf o r := rfl
@[simp] theorem grantOf_parsed (r : EPRequest) : grantOf r.parsed = grantOf r := rfl

/-- hypothesis of the `_partial` theorem for finding F-C05g: every client registered for the client_credentials grant authenticates
    with a secret (and, if by client_secret_post, that method is enabled) - then the storage's secret comparison, to which a
    `grant_type=client_credentials` parameter switches VerifyClient at ANY endpoint, is the authentication it is registered for -/
def CCClientsBySecret (x : EPProvider) : Prop :=
  ∀ c ∈ x.storage.base.clients, Const.GrantTypeClientCredentials ∈ c.grants →
    c.auth ≠ Const.AuthMethodPrivateKeyJWT ∧ (c.auth = Const.AuthMethodPost → x.config.AuthMethodPost = true)

/-- What the code needs in order to satisfy the monitor: each hypothesis names the paths on which it omits a check
    (findings F-C05e, F-C05g and F-C05h, see `c05_*_witness`); on every other path the theorem holds without it.
    * `device`  - F-C05e: the device_code grant of the Provider router does not consult the client's registered grant types
    * `ccParam` - F-C05g: `grant_type=client_credentials` in a revocation request switches VerifyClient to the storage's ClientCredentials;
      harmless when every client registered for that grant authenticates with a secret (`CCClientsBySecret`)
    * `noEmpty` - registered client ids are not empty (token exchange of the Provider router ignores the form's client_id)
    * `compareOnly` - F-C05h: the Provider router takes a successful `Storage.AuthorizeClientIDSecret` as authentication without
      looking at the client's registered method (introspection, revocation, token exchange, device_code grant); with a storage
      that only compares secrets (example/server/storage) the EMPTY secret of a public / private_key_jwt client passes
    * `stray` - Server router, introspection, same kind of storage: the "client must be authenticated" guard (a secret or an
      assertion is present) is enough provided registrations without a secret method have no stored secret
    (client_secret_post while POST is disabled, and an assertion of a client that is not registered for private_key_jwt, are
    refused by the code: no hypothesis is needed for them, see the examples after `c05_cc_param_witness`.) -/
structure Assumptions (rt : Router) (x : EPProvider) (e : EP.Endpoint) (r : EPRequest) : Prop where
  device : rt = .provider → e = .token → grantOf r = Const.GrantTypeDeviceCode → DeviceGrantsRegistered x
  noEmpty : rt = .provider → e = .token → grantOf r = Const.GrantTypeTokenExchange → NoEmptyID x
  ccParam : rt = .legacy → e = .revoke → grantOf r = Const.GrantTypeClientCredentials → CCClientsBySecret x
  compareOnly : rt = .provider → (e = .introspect ∨ e = .revoke ∨
      (e = .token ∧ (grantOf r = Const.GrantTypeTokenExchange ∨ grantOf r = Const.GrantTypeDeviceCode))) → x.storage.secretCompareOnly = false
  stray : rt = .legacy → e = .introspect → x.storage.secretCompareOnly = true → NoStraySecrets x

theorem Assumptions.parsed {rt : Router} {x : EPProvider} {e : EP.Endpoint} {r : EPRequest} (h : Assumptions rt x e r) :
    Assumptions rt x e r.parsed := ⟨h.device, h.noEmpty, h.ccParam, h.compareOnly, h.stray⟩

/-- the grant switch of the Provider router: dispatch, flag / capability checks, and every grant handler -/
theorem goodToken_exchange {x : EPProvider} {now : Int} {o : EPOracles} {r : EPRequest} :
    GoodToken (fun a => Assumptions .provider x .token r → TokensOK (cfgOf x) now (credsOf o r) (grantOf r) a)
      (GenEP.Exchange now o r x) := by
  rw [SpecEP.Exchange_eq]; unfold SpecEP.Exchange
  simp only []
  refine resp_ite (fun h => ?_) fun _ => ?_
  · have h' : grantOf r = Const.GrantTypeCode := eq_of_beq h
    exact goodToken_codeExchange.mono fun a ha _ => h' ▸ ha
  refine resp_ite (fun h => ?_) fun _ => ?_
  · have h' : grantOf r = Const.GrantTypeRefreshToken := eq_of_beq h
    refine resp_ite (fun hen => ?_) fun _ => goodToken_requestError ..
    refine goodToken_refreshTokenExchange.mono fun a ha _ => h' ▸ ha ?_
    simpa [SpecEP.GrantTypeRefreshTokenSupported_eq, SpecEP.GrantTypeRefreshTokenSupported] using hen
  refine resp_ite (fun h => ?_) fun _ => ?_
  · have h' : grantOf r = Const.GrantTypeBearer := eq_of_beq h
    exact resp_ite (fun _ => goodToken_jwtProfile.mono fun a ha _ => h' ▸ ha) fun _ => goodToken_requestError ..
  refine resp_ite (fun h => ?_) fun _ => ?_
  · have h' : grantOf r = Const.GrantTypeTokenExchange := eq_of_beq h
    refine resp_ite (fun _ => ?_) fun _ => goodToken_requestError ..
    exact goodToken_tokenExchange.mono fun a ha hyp =>
      h' ▸ ha (hyp.noEmpty rfl rfl h') (hyp.compareOnly rfl (.inr (.inr ⟨rfl, .inl h'⟩)))
  refine resp_ite (fun h => ?_) fun _ => ?_
  · have h' : grantOf r = Const.GrantTypeClientCredentials := eq_of_beq h
    exact resp_ite (fun _ => goodToken_clientCredentialsExchange.mono fun a ha _ => h' ▸ ha) fun _ => goodToken_requestError ..
  refine resp_ite (fun h => ?_) fun _ => ?_
  · have h' : grantOf r = Const.GrantTypeDeviceCode := eq_of_beq h
    refine resp_ite (fun _ => ?_) fun _ => goodToken_requestError ..
    exact goodToken_deviceAccessToken.mono fun a ha hyp =>
      h' ▸ ha (hyp.device rfl rfl h') (hyp.compareOnly rfl (.inr (.inr ⟨rfl, .inr h'⟩)))
  exact resp_ite (fun _ => goodToken_requestError ..) fun _ => goodToken_requestError ..

theorem goodIntrospect_introspected {c : Cfg} {now : Int} {k : Creds} {resp : EPIntrospection}
    (h : resp.Active = true → ∃ cl, c.base.clients.find? (·.id == resp.caller) = some cl ∧ cl.auth ≠ Const.AuthMethodNone ∧
      credsFit c now cl k = true) : GoodIntrospect c now k (Hand.epIntrospected resp) := by
  obtain ⟨_ | _, caller⟩ := resp
  · trivial
  · exact h rfl

theorem setIntrospection_caller {s : EPStorage} {resp resp' : EPIntrospection} {tid sub cid : String}
    (h : s.SetIntrospectionFromToken resp tid sub cid = .ok resp') : resp'.caller = cid := by
  unfold EPStorage.SetIntrospectionFromToken at h
  split at h <;> cases h
  rfl

theorem goodIntrospect_introspect {x : EPProvider} {now : Int} {o : EPOracles} {r : EPRequest}
    (hS : x.storage.secretCompareOnly = false) :
    GoodIntrospect (cfgOf x) now (credsOf o r) (GenEP.Introspect now o r x) := by
  rw [SpecEP.Introspect_eq]; unfold SpecEP.Introspect
  simp only []
  split; · trivial
  rename_i token clientID hparse
  split; · exact goodIntrospect_introspected fun h => nomatch h
  split; · exact goodIntrospect_introspected fun h => nomatch h
  rename_i resp hset
  refine goodIntrospect_introspected fun _ => ?_
  rw [show resp.caller = clientID from setIntrospection_caller hset]
  rw [SpecEP.ParseTokenIntrospectionRequest_eq] at hparse; unfold SpecEP.ParseTokenIntrospectionRequest at hparse
  split at hparse; · cases hparse
  rename_i id auth hcid
  obtain ⟨hauth, hparse⟩ := guard_ok hparse
  split at hparse; · cases hparse
  cases hparse
  cases auth with
  | false => simp at hauth
  | true => exact authenticated_clientID hcid hS

theorem parseTokenRevocationRequest_ok {x : EPProvider} {now : Int} {o : EPOracles} {r : EPRequest} {tok hint id : String}
    (h : GenEP.ParseTokenRevocationRequest now o r x = .ok (tok, hint, id)) (hS : x.storage.secretCompareOnly = false) :
    ∃ cl, (cfgOf x).base.clients.find? (·.id == id) = some cl ∧ credsFit (cfgOf x) now cl (credsOf o r) = true := by
  rw [SpecEP.ParseTokenRevocationRequest_eq] at h; unfold SpecEP.ParseTokenRevocationRequest at h
  split at h; · cases h
  split at h; · cases h
  rename_i req hdec
  obtain ⟨h1, h2, h3, _⟩ := decode_ok hdec
  rcases ite_ok h with ⟨_, h⟩ | ⟨_, h⟩
  · obtain ⟨_, h⟩ := guard_ok h
    split at h; · cases h
    rename_i tr hver
    split at h; · cases h
    rename_i hpk
    cases h
    rw [jwtProfileVerifier_eq now, h3] at hver
    obtain ⟨j, hv, hiss⟩ := epVerify_ok hver
    rw [hiss] at hpk ⊢
    obtain ⟨cl, hf, _, hfit⟩ := assertion_client hv hpk
    exact ⟨cl, hf, hfit⟩
  · rcases hb : r.basic with _ | ⟨u, p⟩ <;> simp only [EPRequest.BasicAuth, hb, Bool.false_eq_true, if_false, if_true] at h
    · -- no Basic header: the form names the client; a public client needs no secret
      have hprim := h1 ▸ h2 ▸ primary_form (o := o) hb
      obtain ⟨_, h⟩ := guard_ok h
      split at h; · cases h
      rename_i client hget
      simp only [EPProvider.Storage, EPStorage.GetClientByClientID] at hget
      rcases ite_ok h with ⟨_, h⟩ | ⟨_, h⟩
      · obtain ⟨hnone, h⟩ := guard_ok h
        cases h
        exact ⟨client, (getClient_ok hget).1, fits_of_public hprim hget (by simpa [OPClient.AuthMethod] using hnone)⟩
      · obtain ⟨hpost, h⟩ := guard_ok h
        split at h; · cases h
        rename_i hsec
        cases h
        refine ⟨client, (getClient_ok hget).1,
          fits_of_secret hprim hget (epSecret_strict hS _ _ ▸ genAuthorizeSecret_ok hsec) fun ha => ?_⟩
        simpa [OPClient.AuthMethod, ha, SpecEP.AuthMethodPostSupported_eq, SpecEP.AuthMethodPostSupported] using hpost
    · split at h; · cases h
      rename_i id' hu
      split at h; · cases h
      rename_i sec hp
      split at h; · cases h
      rename_i hsec
      split at h; · cases h
      rename_i hpost
      cases h
      obtain ⟨cl, hf, _, hfit⟩ := secret_client (now := now) (checkAuthMethodPost_ok hpost) (primary_basic hb hu hp)
        (genAuthorizeSecret_ok hsec) fun hl => absurd hl (by simp [hS])
      exact ⟨cl, hf, hfit⟩

theorem goodRevoke_revoke {x : EPProvider} {now : Int} {o : EPOracles} {r : EPRequest}
    (hS : x.storage.secretCompareOnly = false) :
    GoodRevoke (cfgOf x) now (credsOf o r) (GenEP.Revoke now o r x) := by
  rw [SpecEP.Revoke_eq]; unfold SpecEP.Revoke
  split; · exact goodRevoke_revocationRequestError ..
  rename_i tok hint id hparse
  have hok := parseTokenRevocationRequest_ok hparse hS
  have hdone : GoodRevoke (cfgOf x) now (credsOf o r) (Hand.epRevoked id Go.nil) := hok
  simp only []
  repeat' split
  all_goals first
    | exact goodRevoke_revocationRequestError ..
    | exact hdone

theorem createDeviceAuthorization_ok {now : Int} {req : EPForm} {id : String} {x : EPProvider} {d : EPDone}
    (h : Hand.epCreateDeviceAuthorization now req id x = .ok d) :
    x.storage.is_DeviceAuthorizationStorage = true ∧ d = .deviceCodes id := by
  unfold Hand.epCreateDeviceAuthorization at h
  obtain ⟨hcap, h⟩ := guard_ok h
  split at h <;> cases h
  exact ⟨by simpa using hcap, rfl⟩

theorem goodDevice_deviceAuthorizationHandler {x : EPProvider} {now : Int} {o : EPOracles} {r : EPRequest} :
    GoodDevice (cfgOf x) (GenEP.DeviceAuthorizationHandler now o x r) := by
  rw [SpecEP.DeviceAuthorizationHandler_eq]; unfold SpecEP.DeviceAuthorizationHandler
  split; · exact .of_errDoc (requestError_errDoc ..)
  rename_i d hd
  rw [SpecEP.DeviceAuthorization_eq] at hd; unfold SpecEP.DeviceAuthorization at hd
  split at hd; · cases hd
  rename_i req hparse
  split at hd; · cases hd
  rename_i resp hcreate
  cases hd
  obtain ⟨hcap, rfl⟩ := createDeviceAuthorization_ok hcreate
  rw [SpecEP.ParseDeviceCodeRequest_eq] at hparse; unfold SpecEP.ParseDeviceCodeRequest at hparse
  split at hparse; · cases hparse
  split at hparse; · cases hparse
  rename_i client hget
  obtain ⟨hgrant, hparse⟩ := guard_ok hparse
  split at hparse; · cases hparse
  cases hparse
  exact ⟨client, (getClient_ok hget).1, C04.validateGrantType_iff.1 (by simpa using hgrant), hcap⟩

/-! ## Server router: `withClient` = parseClientCredentials + LegacyServer.VerifyClient + the registered-grant check -/

theorem parseClientCredentials_ok {now : Int} {o : EPOracles} {s : EPWebServer} {r : EPRequest} {cc : EPForm}
    (h : GenEP.parseClientCredentials now o s r = .ok cc) :
    (credsOf o r).primary = some { clientID := cc.ClientID, secret := cc.ClientSecret } ∧
    cc.ClientAssertion = r.Form.last "client_assertion" := by
  rw [SpecEP.parseClientCredentials_eq] at h; unfold SpecEP.parseClientCredentials at h
  split at h; · simp at h
  split at h; · simp at h
  rename_i f1 hdec
  obtain ⟨h1, h2, h3, _⟩ := decode_ok hdec
  -- every branch of the two guards is either an error or returns the (overridden) record
  rcases hb : r.basic with _ | ⟨u, p⟩ <;> simp [EPRequest.BasicAuth, hb] at h
  · have hprim := h1 ▸ h2 ▸ primary_form (o := o) hb
    repeat' (split at h)
    all_goals first
      | (cases h; done)
      | (simp at h; subst h; exact ⟨hprim, h3⟩)
  · repeat' (split at h)
    all_goals first
      | (cases h; done)
      | (simp at h; subst h; exact ⟨primary_basic hb (by assumption) (by assumption), h3⟩)

/-- `LegacyServer.authenticateResourceClient`: an assertion, when present, decides
    alone (ClientJWTAuth + the private_key_jwt registration check); otherwise the storage's secret check + the POST-method check -/
theorem authenticateResourceClient_ok {now : Int} {o : EPOracles} {s : EPLegacyServer} {cc : EPForm} {id : String} :
    GenEP.authenticateResourceClient now o s cc = .ok id →
    (cc.ClientAssertion ≠ "" ∧ s.provider.is_ClientJWTProfile = true ∧
        GenEP.ClientJWTAuth now o ({ ClientAssertion := cc.ClientAssertion } : EPForm) s.provider = .ok id ∧
        GenEP.checkPrivateKeyJWTClient now id s.provider.Storage = .ok ())
    ∨ (cc.ClientAssertion = "" ∧ id = cc.ClientID ∧ s.provider.Storage.AuthorizeClientIDSecret cc.ClientID cc.ClientSecret = .ok () ∧
        GenEP.checkAuthMethodPost now cc.ClientID s.provider = .ok ()) := by
  rw [SpecEP.authenticateResourceClient_eq]; unfold SpecEP.authenticateResourceClient
  go_leaf

/-- what `withClient` knows about the client it hands to a handler, for a request whose `grant_type` parameter is `g` -/
def Verified (x : EPProvider) (now : Int) (k : Creds) (g : String) (c : OPClient) : Prop :=
  (cfgOf x).base.clients.find? (·.id == c.id) = some c ∧
  ((g = Const.GrantTypeClientCredentials ∧ x.storage.is_ClientCredentialsStorage = true ∧ Const.GrantTypeClientCredentials ∈ c.grants ∧
      ∃ p, k.primary = some p ∧ p.clientID = c.id ∧ c.secret = p.secret)
   ∨ (g ≠ Const.GrantTypeClientCredentials ∧ credsFit (cfgOf x) now c k = true))

theorem verifyRequestClient_ok {x : EPProvider} {now : Int} {o : EPOracles} {r : EPRequest} {c : OPClient}
    (h : GenEP.verifyRequestClient now o (EP.webServer x) r = .ok c) :
    Verified x now (credsOf o r) (grantOf r) c := by
  rw [SpecEP.verifyRequestClient_eq] at h; unfold SpecEP.verifyRequestClient at h
  split at h; · cases h
  rename_i cc hparse
  have hform := parseClientCredentials_ok hparse
  unfold Hand.epVerifyClient at h
  split at h
  · rename_i c' hv
    cases h
    rcases legacyVerifyClient_ok hv with ⟨hg, hcap, hcc⟩ | ⟨hg, hauth⟩
    · -- grant_type=client_credentials: VerifyClient is the storage's ClientCredentials
      obtain ⟨hfind, hid, hsec, hgr⟩ := clientCredentials_ok hcc
      exact ⟨hid ▸ hfind, .inl ⟨hg, hcap, hgr, _, hform.1, hid.symm, hsec⟩⟩
    · obtain ⟨hfind, hfit⟩ := fits_of_authAs hform hauth
      exact ⟨hfind, .inr ⟨hg, hfit⟩⟩
  · split at h <;> cases h

/-- `withClient` answers with an error document, or hands the request to its handler together with a verified client that is
    registered for the request's `grant_type` (when the request carries one) -/
theorem withClient_cases {x : EPProvider} {now : Int} {o : EPOracles} {r : EPRequest} {handler : EPRequest → OPClient → EPResp}
    (P : EPResp → Prop) (herr : ∀ err, P (GenEP.WriteError now r err))
    (hok : ∀ client, Verified x now (credsOf o r) (grantOf r) client → (grantOf r ≠ "" → grantOf r ∈ client.grants) → P (handler r client)) :
    P (GenEP.withClient now o (EP.webServer x) handler r) := by
  rw [SpecEP.withClient_eq]; unfold SpecEP.withClient
  split; · exact herr _
  rename_i client hv
  simp only []
  refine resp_ite (fun _ => resp_ite (fun _ => herr _) fun hgr => ?_) fun hempty => ?_
  · exact hok client (verifyRequestClient_ok hv) fun _ => C04.validateGrantType_iff.1 (by simpa [grantOf] using hgr)
  · exact hok client (verifyRequestClient_ok hv) fun hne => absurd (by simpa [grantOf] using hempty) hne

theorem tokensOK_of_verified {x : EPProvider} {now : Int} {k : Creds} {g : String} {c : OPClient}
    (hv : Verified x now k g c) (hg : g ∈ c.grants) (hne : g ≠ Const.GrantTypeBearer) (hen : grantEnabled (cfgOf x) g = true) :
    TokensOK (cfgOf x) now k g c.id := by
  unfold TokensOK
  simp only [hne, if_false]
  refine ⟨c, hv.1, ?_⟩
  rcases hv.2 with ⟨hcc, hcap, hgr, hp⟩ | ⟨hncc, hfit⟩
  · simp only [hcc, if_true]
    exact ⟨by simpa [cfgOf] using hcap, hgr, hp⟩
  · simp only [hncc, if_false]
    exact ⟨hfit, hen, hg⟩

theorem goodToken_withClient {x : EPProvider} {now : Int} {o : EPOracles} {r : EPRequest} {handler : EPRequest → OPClient → EPResp}
    {g : String} (hg : grantOf r = g)
    (hh : ∀ c, GoodToken (fun a => a = c.id ∧ grantEnabled (cfgOf x) g = true) (handler r c))
    (hne : g ≠ "" := by decide) (hb : g ≠ Const.GrantTypeBearer := by decide) :
    GoodToken (TokensOK (cfgOf x) now (credsOf o r) (grantOf r)) (GenEP.withClient now o (EP.webServer x) handler r) := by
  subst hg
  refine withClient_cases _ (fun _ => goodToken_writeError ..) fun c hv hreg => ?_
  exact (hh c).mono fun a ⟨ha, hen⟩ => ha ▸ tokensOK_of_verified hv (hreg hne) hb hen

theorem goodToken_codeExchangeHandler {x : EPProvider} {now : Int} {o : EPOracles} {r : EPRequest} {c : OPClient} :
    GoodToken (fun a => a = c.id ∧ grantEnabled (cfgOf x) Const.GrantTypeCode = true)
      (GenEP.codeExchangeHandler now o (EP.webServer x) r c) := by
  rw [SpecEP.codeExchangeHandler_eq]; unfold SpecEP.codeExchangeHandler
  split; · exact goodToken_writeError ..
  refine resp_ite (fun _ => goodToken_writeError ..) fun _ => ?_
  refine resp_ite (fun _ => goodToken_writeError ..) fun _ => ?_
  split; · exact goodToken_writeError ..
  rename_i resp hresp
  unfold Hand.epLegacyCodeExchange at hresp
  split at hresp
  · exact .issue hresp ⟨rfl, rfl⟩
  · cases hresp

theorem goodToken_refreshTokenHandler {x : EPProvider} {now : Int} {o : EPOracles} {r : EPRequest} {c : OPClient} :
    GoodToken (fun a => a = c.id ∧ grantEnabled (cfgOf x) Const.GrantTypeRefreshToken = true)
      (GenEP.refreshTokenHandler now o (EP.webServer x) r c) := by
  rw [SpecEP.refreshTokenHandler_eq]; unfold SpecEP.refreshTokenHandler
  split; · exact goodToken_writeError ..
  refine resp_ite (fun _ => goodToken_writeError ..) fun _ => ?_
  split; · exact goodToken_writeError ..
  rename_i resp hresp
  unfold Hand.epLegacyRefreshToken at hresp
  split at hresp
  · rename_i i hi
    refine .issue hresp ⟨rfl, ?_⟩
    rw [SpecTok.LegacyRefreshToken_eq] at hi; unfold SpecTok.LegacyRefreshToken at hi
    simpa [grantEnabled, cfgOf, Const.GrantTypeRefreshToken, Provider.GrantTypeRefreshTokenSupported, EP.webServer,
      EPProvider.asProvider, SpecEP.GrantTypeRefreshTokenSupported_eq, SpecEP.GrantTypeRefreshTokenSupported] using (guard_ok hi).1
  · cases hresp

theorem goodToken_tokenExchangeHandler {x : EPProvider} {now : Int} {o : EPOracles} {r : EPRequest} {c : OPClient} :
    GoodToken (fun a => a = c.id ∧ grantEnabled (cfgOf x) Const.GrantTypeTokenExchange = true)
      (GenEP.tokenExchangeHandler now o (EP.webServer x) r c) := by
  rw [SpecEP.tokenExchangeHandler_eq]; unfold SpecEP.tokenExchangeHandler
  split; · exact goodToken_writeError ..
  iterate 6 refine resp_ite (fun _ => goodToken_writeError ..) fun _ => ?_
  split; · exact goodToken_writeError ..
  rename_i resp hresp
  rw [SpecEP.LegacyTokenExchange_eq] at hresp; unfold SpecEP.LegacyTokenExchange at hresp
  obtain ⟨hcap, hresp⟩ := guard_ok hresp
  split at hresp; · cases hresp
  split at hresp; · cases hresp
  rename_i d hd
  cases hresp
  refine .issue hd ⟨rfl, ?_⟩
  simpa [grantEnabled, cfgOf, Const.GrantTypeTokenExchange, EP.webServer, SpecEP.GrantTypeTokenExchangeSupported_eq,
    SpecEP.GrantTypeTokenExchangeSupported] using hcap

theorem goodToken_deviceTokenHandler {x : EPProvider} {now : Int} {o : EPOracles} {r : EPRequest} {c : OPClient} :
    GoodToken (fun a => a = c.id ∧ grantEnabled (cfgOf x) Const.GrantTypeDeviceCode = true)
      (GenEP.deviceTokenHandler now o (EP.webServer x) r c) := by
  rw [SpecEP.deviceTokenHandler_eq]; unfold SpecEP.deviceTokenHandler
  split; · exact goodToken_writeError ..
  refine resp_ite (fun _ => goodToken_writeError ..) fun _ => ?_
  split; · exact goodToken_writeError ..
  rename_i resp hresp
  rw [SpecEP.LegacyDeviceToken_eq] at hresp; unfold SpecEP.LegacyDeviceToken at hresp
  obtain ⟨hcap, hresp⟩ := guard_ok hresp
  split at hresp; · cases hresp
  split at hresp; · cases hresp
  rename_i d hd
  cases hresp
  refine .issue hd ⟨rfl, ?_⟩
  simpa [grantEnabled, cfgOf, Const.GrantTypeDeviceCode, EP.webServer, SpecEP.GrantTypeDeviceCodeSupported_eq,
    SpecEP.GrantTypeDeviceCodeSupported] using hcap

theorem goodToken_clientCredentialsHandler {x : EPProvider} {now : Int} {o : EPOracles} {r : EPRequest} {c : OPClient} :
    GoodToken (fun a => a = c.id ∧ grantEnabled (cfgOf x) Const.GrantTypeClientCredentials = true)
      (GenEP.clientCredentialsHandler now o (EP.webServer x) r c) := by
  rw [SpecEP.clientCredentialsHandler_eq]; unfold SpecEP.clientCredentialsHandler
  refine resp_ite (fun _ => goodToken_writeError ..) fun _ => ?_
  split; · exact goodToken_writeError ..
  split; · exact goodToken_writeError ..
  rename_i resp hresp
  rw [SpecEP.LegacyClientCredentialsExchange_eq] at hresp; unfold SpecEP.LegacyClientCredentialsExchange at hresp
  obtain ⟨hcap, hresp⟩ := guard_ok hresp
  split at hresp; · cases hresp
  split at hresp; · cases hresp
  rename_i d hd
  cases hresp
  refine .issue hd ⟨rfl, ?_⟩
  simpa [grantEnabled, cfgOf, Const.GrantTypeClientCredentials, EP.webServer, EPProvider.Storage] using hcap

theorem goodToken_jwtProfileHandler {x : EPProvider} {now : Int} {o : EPOracles} {r : EPRequest} :
    GoodToken (TokensOK (cfgOf x) now (credsOf o r) Const.GrantTypeBearer) (GenEP.jwtProfileHandler now o (EP.webServer x) r) := by
  rw [SpecEP.jwtProfileHandler_eq]; unfold SpecEP.jwtProfileHandler
  split; · exact goodToken_writeError ..
  rename_i f hdec
  refine resp_ite (fun _ => goodToken_writeError ..) fun _ => ?_
  split; · exact goodToken_writeError ..
  rename_i resp hresp
  rw [SpecEP.LegacyJWTProfile_eq] at hresp; unfold SpecEP.LegacyJWTProfile at hresp
  obtain ⟨_, hresp⟩ := guard_ok hresp
  split at hresp; · cases hresp
  rename_i tr hver
  split at hresp; · cases hresp
  simp only [] at hresp
  split at hresp; · cases hresp
  rename_i d hd
  cases hresp
  refine .issue hd ?_
  rw [SpecEP.decodeRequest_eq] at hdec; unfold SpecEP.decodeRequest at hdec
  split at hdec; · cases hdec
  simp only [Bool.false_eq_true, if_false] at hdec
  split at hdec; · cases hdec
  rename_i f1 hd1
  cases hdec
  exact (tokensOK_bearer (decode_ok hd1).2.2.2 hver : TokensOK _ _ _ _ tr.Issuer)

theorem goodToken_tokensHandler {x : EPProvider} {now : Int} {o : EPOracles} {r : EPRequest} :
    GoodToken (TokensOK (cfgOf x) now (credsOf o r) (grantOf r)) (GenEP.tokensHandler now o (EP.webServer x) r) := by
  rw [SpecEP.tokensHandler_eq]; unfold SpecEP.tokensHandler
  split; · exact goodToken_writeError ..
  simp only []
  refine resp_ite (fun h => goodToken_withClient (eq_of_beq h) fun _ => goodToken_codeExchangeHandler) fun _ => ?_
  refine resp_ite (fun h => goodToken_withClient (eq_of_beq h) fun _ => goodToken_refreshTokenHandler) fun _ => ?_
  refine resp_ite (fun h => goodToken_withClient (eq_of_beq h) fun _ => goodToken_clientCredentialsHandler) fun _ => ?_
  refine resp_ite (fun h => ?_) fun _ => ?_
  · rw [show grantOf r = Const.GrantTypeBearer from eq_of_beq h]; exact goodToken_jwtProfileHandler
  refine resp_ite (fun h => goodToken_withClient (eq_of_beq h) fun _ => goodToken_tokenExchangeHandler) fun _ => ?_
  refine resp_ite (fun h => goodToken_withClient (eq_of_beq h) fun _ => goodToken_deviceTokenHandler) fun _ => ?_
  exact resp_ite (fun _ => goodToken_writeError ..) fun _ => goodToken_writeError ..

theorem goodIntrospect_introspectionHandler {x : EPProvider} {now : Int} {o : EPOracles} {r : EPRequest}
    (hStray : x.storage.secretCompareOnly = true → NoStraySecrets x) :
    GoodIntrospect (cfgOf x) now (credsOf o r) (GenEP.introspectionHandler now o (EP.webServer x) r) := by
  rw [SpecEP.introspectionHandler_eq]; unfold SpecEP.introspectionHandler
  split; · exact .of_errDoc (writeError_errDoc ..)
  rename_i cc hparse
  obtain ⟨hprim, hass⟩ := parseClientCredentials_ok hparse
  -- "client must be authenticated": past this guard the request carries a secret or an assertion
  refine resp_ite (fun _ => .of_errDoc (writeError_errDoc ..)) fun hguard => ?_
  split; · exact .of_errDoc (writeError_errDoc ..)
  refine resp_ite (fun _ => .of_errDoc (writeError_errDoc ..)) fun _ => ?_
  split; · exact .of_errDoc (writeError_errDoc ..)
  rename_i resp hresp
  rw [SpecEP.LegacyIntrospect_eq] at hresp; unfold SpecEP.LegacyIntrospect at hresp
  split at hresp; · cases hresp
  rename_i clientID hauth
  simp only [Hand.epNewRequest] at hauth
  simp only [] at hresp
  rcases ite_ok hresp with ⟨_, hresp⟩ | ⟨_, hresp⟩
  · cases hresp; exact goodIntrospect_introspected fun h => nomatch h
  split at hresp
  · cases hresp; exact goodIntrospect_introspected fun h => nomatch h
  rename_i resp' hset
  cases hresp
  refine goodIntrospect_introspected fun _ => ?_
  rw [show resp'.caller = clientID from setIntrospection_caller hset]
  rcases authenticateResourceClient_ok hauth with ⟨_, _, hjwt, hpk⟩ | ⟨ha, rfl, hsec, hpost⟩
  · obtain ⟨j, hv, rfl⟩ := clientJWTAuth_ok hjwt
    exact assertion_client (hass ▸ hv) hpk
  · have hne : cc.ClientSecret ≠ "" := fun he => hguard (by simp [he, ha])
    exact secret_client (checkAuthMethodPost_ok hpost) hprim hsec fun hl => ⟨hne, hStray hl⟩

/-- `LegacyServer.Revocation`: whichever way the token is resolved, the revocation is performed for the client of the request -/
theorem legacyRevocation_ok {now : Int} {s : EPLegacyServer} {r : ClientRequest EPForm} {d : EPDone} :
    GenEP.LegacyRevocation now s r = .ok d → d = .revoked r.Client.id := by
  rw [SpecEP.LegacyRevocation_eq]; unfold SpecEP.LegacyRevocation
  simp only []
  repeat' split
  all_goals (intro h; cases h)
  all_goals rfl

theorem goodRevoke_revocationHandler {x : EPProvider} {now : Int} {o : EPOracles} {r : EPRequest} {c : OPClient}
    (hv : Verified x now (credsOf o r) (grantOf r) c) (hcc : grantOf r = Const.GrantTypeClientCredentials → CCClientsBySecret x) :
    GoodRevoke (cfgOf x) now (credsOf o r) (GenEP.revocationHandler now o (EP.webServer x) r c) := by
  rw [SpecEP.revocationHandler_eq]; unfold SpecEP.revocationHandler
  split; · exact .of_errDoc (writeError_errDoc ..)
  split; · exact .of_errDoc (writeError_errDoc ..)
  split; · exact .of_errDoc (writeError_errDoc ..)
  rename_i resp hresp
  cases legacyRevocation_ok hresp
  refine ⟨c, hv.1, ?_⟩
  rcases hv.2 with ⟨hg, _, hgr, p, hp, hid, hsec⟩ | ⟨_, hfit⟩
  · -- `grant_type=client_credentials` in a revocation request: the storage compared the secret (F-C05g)
    obtain ⟨hnpk, hpost⟩ := hcc hg c (List.mem_of_find?_eq_some hv.1) hgr
    exact credsFit_iff.2 (.inr ⟨p, hp, hid, .inr ⟨hnpk, hsec.symm, hpost⟩⟩)
  · exact hfit

theorem goodDevice_deviceAuthorizationHandler_legacy {x : EPProvider} {now : Int} {o : EPOracles} {r : EPRequest} {c : OPClient}
    {k : Creds} {g : String} (hv : Verified x now k g c) :
    GoodDevice (cfgOf x) (GenEP.deviceAuthorizationHandler now o (EP.webServer x) r c) := by
  rw [SpecEP.deviceAuthorizationHandler_eq]; unfold SpecEP.deviceAuthorizationHandler
  split; · exact .of_errDoc (writeError_errDoc ..)
  split; · exact .of_errDoc (writeError_errDoc ..)
  rename_i resp hresp
  rw [SpecEP.LegacyDeviceAuthorization_eq] at hresp; unfold SpecEP.LegacyDeviceAuthorization at hresp
  obtain ⟨hgrant, hresp⟩ := guard_ok hresp
  split at hresp; · cases hresp
  rename_i resp' hcreate
  cases hresp
  obtain ⟨hcap, rfl⟩ := createDeviceAuthorization_ok hcreate
  exact ⟨c, hv.1, C04.validateGrantType_iff.1 (by simpa [Hand.epNewClientRequest] using hgrant), hcap⟩

/-- which regenerated handler answers which endpoint, read from the regenerated route tables -/
theorem decision_eq (now : Int) (rt : Router) (x : EPProvider) (o : EPOracles) (e : EP.Endpoint) (r : EPRequest) :
    EP.endpointDecision now rt x o e r =
      match rt, e with
      | .provider, .token => GenEP.Exchange now o r.parsed x
      | .provider, .introspect => GenEP.Introspect now o r x
      | .provider, .revoke => GenEP.Revoke now o r x
      | .provider, .deviceAuthorization => GenEP.DeviceAuthorizationHandler now o x r
      | .legacy, .token => GenEP.tokensHandler now o (EP.webServer x) r
      | .legacy, .introspect => GenEP.introspectionHandler now o (EP.webServer x) r
      | .legacy, .revoke => GenEP.withClient now o (EP.webServer x) (GenEP.revocationHandler now o (EP.webServer x)) r
      | .legacy, .deviceAuthorization =>
        GenEP.withClient now o (EP.webServer x) (GenEP.deviceAuthorizationHandler now o (EP.webServer x)) r := by
  cases rt <;> cases e <;>
    simp [EP.endpointDecision, EP.routes, EP.routeKey, GenEP.providerRoutes, GenEP.serverRoutes, EP.handlerOf,
      SpecEP.tokenHandler_eq, SpecEP.tokenHandler, SpecEP.providerIntrospectionHandler_eq, SpecEP.providerIntrospectionHandler,
      SpecEP.providerRevocationHandler_eq, SpecEP.providerRevocationHandler]

theorem goodToken_decision (now : Int) (rt : Router) (x : EPProvider) (o : EPOracles) (r : EPRequest) :
    GoodToken (fun a => Assumptions rt x .token r → TokensOK (cfgOf x) now (credsOf o r) (grantOf r) a)
      (EP.endpointDecision now rt x o .token r) := by
  cases rt <;> simp only [decision_eq]
  · exact (goodToken_exchange (r := r.parsed)).mono fun a ha h => ha h.parsed
  · exact goodToken_tokensHandler.mono fun a ha _ => ha

theorem goodIntrospect_decision (now : Int) (rt : Router) (x : EPProvider) (o : EPOracles) (r : EPRequest)
    (h : Assumptions rt x .introspect r) :
    GoodIntrospect (cfgOf x) now (credsOf o r) (EP.endpointDecision now rt x o .introspect r) := by
  cases rt <;> simp only [decision_eq]
  · exact goodIntrospect_introspect (h.compareOnly rfl (.inl rfl))
  · exact goodIntrospect_introspectionHandler (h.stray rfl rfl)

theorem goodRevoke_decision (now : Int) (rt : Router) (x : EPProvider) (o : EPOracles) (r : EPRequest) (h : Assumptions rt x .revoke r) :
    GoodRevoke (cfgOf x) now (credsOf o r) (EP.endpointDecision now rt x o .revoke r) := by
  cases rt <;> simp only [decision_eq]
  · exact goodRevoke_revoke (h.compareOnly rfl (.inr (.inl rfl)))
  · exact withClient_cases _ (fun _ => .of_errDoc (writeError_errDoc ..)) fun c hv _ =>
      goodRevoke_revocationHandler hv (h.ccParam rfl rfl)

theorem goodDevice_decision (now : Int) (rt : Router) (x : EPProvider) (o : EPOracles) (r : EPRequest) :
    GoodDevice (cfgOf x) (EP.endpointDecision now rt x o .deviceAuthorization r) := by
  cases rt <;> simp only [decision_eq]
  · exact goodDevice_deviceAuthorizationHandler
  · exact withClient_cases _ (fun _ => .of_errDoc (writeError_errDoc ..)) fun c hv _ =>
      goodDevice_deviceAuthorizationHandler_legacy hv

/-- **C05 (partial: outside the findings left on record).**  For BOTH routers, EVERY provider configuration (flags, storage
    capabilities), every set of registrations, stored codes / refresh tokens / device authorizations, every request (all strings,
    Basic header and form in any combination, grant_type anywhere) and every answer of the oracles (url.QueryUnescape, the JWT
    parsers, the grant logic behind authentication), the monitor accepts the response of the regenerated endpoint layer:
    a success (tokens / active introspection / revocation / device codes) names a client such that one credential of the request
    fits its registration, the grant is registered for it and enabled; a refusal on the token endpoint is an OAuth error document
    with a status ≥ 400; a refusal of a device authorization never has a 2xx status. -/
theorem c05_auth_required_partial (now : Int) (rt : Router) (x : EPProvider) (o : EPOracles) (e : EP.Endpoint) (r : EPRequest)
    (h : Assumptions rt x e r) :
    judge (cfgOf x) now (specEndpoint e r) (credsOf o r) (obsOf (EP.endpointDecision now rt x o e r)) = none := by
  cases e
  · exact judge_token ((goodToken_decision now rt x o r).mono fun a ha => ha h)
  · exact judge_introspect (goodIntrospect_decision now rt x o r h)
  · exact judge_revoke (goodRevoke_decision now rt x o r h)
  · exact judge_device (goodDevice_decision now rt x o r)

/-- **C05, error documents.**  On the token endpoint of either router every response is a token response or an OAuth error document
    (JSON with an `error` member: `RequestError` / `WriteError`) whose status is ≥ 400 - for every request, configuration, store and
    oracle; no hypothesis.  (Status of a `StatusError`: the endpoint layer itself only attaches 400 / 401 / 500; StatusErrors of
    other codes handed out by a storage are outside the model, see Model/Endpoint.lean `epDecodeStatus`.) -/
theorem c05_error_document (now : Int) (rt : Router) (x : EPProvider) (o : EPOracles) (r : EPRequest) :
    TokShape (EP.endpointDecision now rt x o .token r) := by
  exact (goodToken_decision now rt x o r).shape

/-! ## the known findings: concrete witnesses -/

namespace Witness
def postClient : OPClient := { id := "post", secret := "s3", auth := Const.AuthMethodPost, grants := [Const.GrantTypeCode, Const.GrantTypeDeviceCode] }
def pubClient : OPClient := { id := "pub", auth := Const.AuthMethodNone, grants := [Const.GrantTypeCode] }
def pkClient : OPClient := { id := "pk", secret := "", auth := Const.AuthMethodPrivateKeyJWT, grants := [Const.GrantTypeCode, Const.GrantTypeClientCredentials] }

/-- POST authentication disabled, a client registered for client_secret_post, its secret in a Basic header (refused, example below) -/
def postProvider : EPProvider := { storage := { base := { clients := [postClient] } } }
def postRequest : EPRequest := { basic := some ("post", "s3"), Form := { kv := [("token", "at1")] }, PostForm := { kv := [("token", "at1")] } }

/-- F-C05e: an approved device authorization of a client that is not registered for the device_code grant -/
def deviceProvider : EPProvider :=
  { storage := { base := { clients := [pubClient] }, is_DeviceAuthorizationStorage := true,
                 devices := [{ deviceCode := "dc1", state := { ClientID := "pub", Done := true } }] } }
def deviceRequest : EPRequest :=
  { Form := { kv := [("grant_type", Const.GrantTypeDeviceCode), ("device_code", "dc1"), ("client_id", "pub")] },
    PostForm := { kv := [("grant_type", Const.GrantTypeDeviceCode), ("device_code", "dc1"), ("client_id", "pub")] } }

/-- F-C05g: `grant_type=client_credentials` in a revocation request of the Server router; the private_key_jwt client has the
    client_credentials grant and (like every private_key_jwt client) an empty secret -/
def ccProvider : EPProvider := { storage := { base := { clients := [pkClient] }, is_ClientCredentialsStorage := true } }
def ccRequest : EPRequest :=
  { Form := { kv := [("grant_type", Const.GrantTypeClientCredentials), ("client_id", "pk"), ("token", "at1")] },
    PostForm := { kv := [("grant_type", Const.GrantTypeClientCredentials), ("client_id", "pk"), ("token", "at1")] } }

def wkKey : JWK := { KeyID := "wk1", Use := "sig", kty := .rsa, keyNo := 7 }
/-- a client registered for client_secret_basic that also has a registered key -/
def webkeyClient : OPClient := { id := "webkey", secret := "s-wk", auth := Const.AuthMethodBasic, grants := [Const.GrantTypeCode], keys := [wkKey] }
def opIssuer := "https://op.example"
def wkClaims : Claims := { iss := "webkey", sub := "webkey", aud := [opIssuer], exp := 2000000600, iat := 2000000000 }
def wkPayload : Payload := { bytes := 1, claims := some wkClaims }
def wkHdr : JHeader := { Algorithm := "RS256", KeyID := "wk1" }
def wkSig : JSig := { Header := wkHdr, signer := some 7, signedAlg := "RS256", signedBytes := 1, signedHdr := wkHdr }
/-- a genuine assertion of `webkey`, signed with its registered key -/
def wkAssertion : Token := { segs := 3, middle := some wkPayload, jws := some { Signatures := [wkSig], payload := wkPayload } }
def wkNow : Int := 2000000100 * Go.second
def wkOracles : EPOracles := { tokenOf := fun s => if s == "assertion-of-webkey" then wkAssertion else default }
/-- an assertion of a client that is not registered for private_key_jwt, at the introspection endpoint (refused, example below) -/
def keysProvider : EPProvider := { issuer := opIssuer, storage := { base := { clients := [webkeyClient] } } }
def keysRequest : EPRequest :=
  { Form := { kv := [("client_assertion", "assertion-of-webkey"), ("client_assertion_type", Const.ClientAssertionTypeJWTAssertion), ("token", "at1")] },
    PostForm := { kv := [("client_assertion", "assertion-of-webkey"), ("client_assertion_type", Const.ClientAssertionTypeJWTAssertion), ("token", "at1")] } }
end Witness

open Witness in
theorem c05_device_grant_witness :
    judge (cfgOf deviceProvider) 0 (.token Const.GrantTypeDeviceCode) (credsOf {} deviceRequest)
        (obsOf (EP.endpointDecision 0 .provider deviceProvider {} .token deviceRequest))
      = some "grant-not-registered" := by
  decide +kernel

open Witness in
theorem c05_cc_param_witness :
    judge (cfgOf ccProvider) 0 .revoke (credsOf {} ccRequest)
        (obsOf (EP.endpointDecision 0 .legacy ccProvider {} .revoke ccRequest))
      = some "secret-accepted-for-a-private_key_jwt-client" := by
  decide +kernel

/-- `postRequest` (a client_secret_post client while POST is disabled) and `keysRequest` (an assertion of a client registered for
    client_secret_basic) are refused with an error status on both routers -/
example : [Router.provider, Router.legacy].all (fun rt =>
    let o := obsOf (EP.endpointDecision 0 rt Witness.postProvider {} .introspect Witness.postRequest)
    !o.success && decide (o.status ≥ 400)) = true := by decide +kernel
example : [Router.provider, Router.legacy].all (fun rt =>
    let o := obsOf (EP.endpointDecision Witness.wkNow rt Witness.keysProvider Witness.wkOracles .introspect Witness.keysRequest)
    !o.success && decide (o.status ≥ 400)) = true := by decide +kernel

/-- the witnesses refute the unrestricted statement: `c05_auth_required_partial` cannot lose its hypotheses -/
theorem c05_auth_required_fails_unrestricted :
    ¬ ∀ (now : Int) (rt : Router) (x : EPProvider) (o : EPOracles) (e : EP.Endpoint) (r : EPRequest),
        judge (cfgOf x) now (specEndpoint e r) (credsOf o r) (obsOf (EP.endpointDecision now rt x o e r)) = none := by
  intro h
  have := h 0 .provider Witness.deviceProvider {} .token Witness.deviceRequest
  rw [show specEndpoint EP.Endpoint.token Witness.deviceRequest = Endpoint.token Const.GrantTypeDeviceCode from rfl, c05_device_grant_witness] at this
  exact absurd this (by decide)

/-! ## non-vacuity: for every endpoint of both routers a concrete request that is SERVED and accepted by the monitor, and a
    provider that meets the hypotheses of the partial theorem -/

namespace Demo
open Witness
def web : OPClient :=
  { id := "web", secret := "s-web", auth := Const.AuthMethodBasic,
    grants := [Const.GrantTypeCode, Const.GrantTypeRefreshToken, Const.GrantTypeClientCredentials, Const.GrantTypeTokenExchange, Const.GrantTypeDeviceCode] }
def pub : OPClient := { id := "pub", auth := Const.AuthMethodNone, grants := [Const.GrantTypeCode, Const.GrantTypeDeviceCode] }
def pk : OPClient := { id := "webkey", auth := Const.AuthMethodPrivateKeyJWT, grants := [Const.GrantTypeCode], keys := [wkKey] }
def provider : EPProvider :=
  { issuer := opIssuer,
    config := { AuthMethodPost := true, AuthMethodPrivateKeyJWT := true, GrantTypeRefreshToken := true },
    storage := { base := { clients := [web, pub, pk],
                           authReqs := [{ id := "ar1", clientID := "web", redirectURI := "https://rp.example/cb", done := true, subject := "u1" },
                                        { id := "ar2", clientID := "pub", redirectURI := "https://rp.example/cb", done := true, subject := "u1",
                                          challenge := some { Challenge := "S256(v1)", Method := "S256" } }],
                           codes := [("c1", "ar1"), ("c2", "ar2")],
                           refresh := [{ token := "rt1", clientID := "web", subject := "u1" }] },
                 devices := [{ deviceCode := "dc1", state := { ClientID := "pub", Done := true } }],
                 is_TokenExchangeStorage := true, is_ClientCredentialsStorage := true, is_DeviceAuthorizationStorage := true } }
def req (basic : Option (String × String)) (kv : List (String × String)) : EPRequest := { basic := basic, Form := { kv := kv }, PostForm := { kv := kv } }
def webBasic : Option (String × String) := some ("web", "s-web")
def served (now : Int) (rt : Router) (o : EPOracles) (e : EP.Endpoint) (r : EPRequest) : Bool :=
  let resp := EP.endpointDecision now rt provider o e r
  (obsOf resp).success && (judge (cfgOf provider) now (specEndpoint e r) (credsOf o r) (obsOf resp)).isNone

def both (now : Int) (o : EPOracles) (e : EP.Endpoint) (r : EPRequest) : Bool := served now .provider o e r && served now .legacy o e r
def refusedBoth (now : Int) (x : EPProvider) (r : EPRequest) : Bool :=
  [Router.provider, Router.legacy].all fun rt =>
    let resp := EP.endpointDecision now rt x {} .token r
    !(obsOf resp).success && decide ((obsOf resp).status ≥ 400) && (judge (cfgOf x) now (specEndpoint .token r) (credsOf {} r) (obsOf resp)).isNone

def codeReq := req webBasic [("grant_type", "authorization_code"), ("code", "c1"), ("redirect_uri", "https://rp.example/cb")]
def pkceReq := req none [("grant_type", "authorization_code"), ("code", "c2"), ("redirect_uri", "https://rp.example/cb"), ("code_verifier", "v1"), ("client_id", "pub")]
def refreshReq := req webBasic [("grant_type", "refresh_token"), ("refresh_token", "rt1")]
def ccReq := req webBasic [("grant_type", "client_credentials")]
def teReq := req webBasic [("grant_type", Const.GrantTypeTokenExchange), ("subject_token", "rt1"), ("subject_token_type", Gen.RefreshTokenType)]
def jwtReq := req none [("grant_type", Const.GrantTypeBearer), ("assertion", "assertion-of-webkey")]
def deviceReq := req none [("grant_type", Const.GrantTypeDeviceCode), ("device_code", "dc1"), ("client_id", "pub")]
def tokenReq := req webBasic [("token", "at1")]
def daReq := req none [("client_id", "pub"), ("scope", "openid")]
end Demo

open Demo in
example : both 0 {} .token codeReq = true ∧ both 0 {} .token pkceReq = true ∧ both 0 {} .token refreshReq = true := by decide +kernel
open Demo in
example : both 0 {} .token ccReq = true ∧ both 0 {} .token teReq = true ∧ both 0 {} .token deviceReq = true := by decide +kernel
open Demo in
example : both Witness.wkNow Witness.wkOracles .token jwtReq = true := by decide +kernel
open Demo in
example : both 0 {} .introspect tokenReq = true ∧ both 0 {} .revoke tokenReq = true ∧ both 0 {} .deviceAuthorization daReq = true := by decide +kernel

/-- refusals on both routers: wrong secret, no credential, a grant that is switched off (400 unsupported_grant_type) -/
example : Demo.refusedBoth 0 Demo.provider (Demo.req (some ("web", "wrong")) [("grant_type", "authorization_code"), ("code", "c1"), ("redirect_uri", "https://rp.example/cb")]) = true := by decide +kernel
example : Demo.refusedBoth 0 Demo.provider (Demo.req none [("grant_type", "refresh_token"), ("refresh_token", "rt1"), ("client_id", "web")]) = true := by decide +kernel
example : Demo.refusedBoth 0 { Demo.provider with config := {} } Demo.refreshReq = true := by decide +kernel

/-- the demo provider meets every hypothesis of the partial theorem (for any router, endpoint and request without the
    `grant_type=client_credentials` parameter at revocation) -/
example (rt : Router) (e : EP.Endpoint) (r : EPRequest) (h : grantOf r ≠ Const.GrantTypeClientCredentials) : Assumptions rt Demo.provider e r where
  device := fun _ _ _ => by
    intro d hd c hf
    have hd' : d = { deviceCode := "dc1", state := { ClientID := "pub", Done := true } } := by simpa [Demo.provider] using hd
    subst hd'
    have : Demo.provider.storage.base.clients.find? (·.id == "pub") = some Demo.pub := by decide
    rw [this] at hf; cases hf; decide
  noEmpty := fun _ _ _ => by
    intro c hc
    have : c = Demo.web ∨ c = Demo.pub ∨ c = Demo.pk := by simpa [Demo.provider] using hc
    rcases this with rfl | rfl | rfl <;> decide
  ccParam := fun _ _ hg => absurd hg h
  compareOnly := fun _ _ => rfl
  stray := fun _ _ hl => by simp [Demo.provider] at hl

/-- the regenerated route tables register the expected handler for the token endpoint of the Provider router and the revocation
    endpoint of the Server router (a re-wiring breaks `decision_eq`) -/
example : (GenEP.providerRoutes.find? (·.1 == "o.TokenEndpoint().Relative()")).map (·.2) = some "tokenHandler(o)" := by decide +kernel
example : (GenEP.serverRoutes.find? (·.1 == "s.endpoints.Revocation")).map (·.2) = some "s.withClient(s.revocationHandler)" := by decide +kernel

/-- **C05, tokens.**  Whenever the token endpoint of either router answers with tokens for client `c` (grant types other than
    jwt-bearer and client_credentials, whose "client" is the assertion's issuer resp. authenticated by the storage): `c` is a
    registered client, some credential of the request fits its registration, the grant is enabled in the provider and registered
    for the client. -/
theorem c05_tokens_only_authenticated (now : Int) (rt : Router) (x : EPProvider) (o : EPOracles) (r : EPRequest)
    (h : Assumptions rt x .token r) {g c : String} (hresp : EP.endpointDecision now rt x o .token r = .ok (.tokens g c))
    (hb : grantOf r ≠ Const.GrantTypeBearer) (hcc : grantOf r ≠ Const.GrantTypeClientCredentials) :
    ∃ cl, x.storage.base.clients.find? (·.id == c) = some cl ∧ credsFit (cfgOf x) now cl (credsOf o r) = true ∧
      grantEnabled (cfgOf x) (grantOf r) = true ∧ grantOf r ∈ cl.grants := by
  have hg := goodToken_decision now rt x o r
  rw [hresp] at hg
  have := hg h
  simp only [TokensOK, hb, hcc, if_false] at this
  exact this

/-! ## "no secret and no assertion ⇒ refused" at the introspection endpoint of the Server router, WHATEVER the storage answers
    (the guard `cc.ClientSecret == "" && cc.ClientAssertion == ""` of `webServer.introspectionHandler`; the storage's
    `AuthorizeClientIDSecret` is never consulted for such a request) -/

/-- the request presents neither a secret (Basic password resp. `client_secret`, as `credsOf` reads them) nor a `client_assertion` -/
def NoCredentials (o : EPOracles) (r : EPRequest) : Prop :=
  (∀ p, (credsOf o r).primary = some p → p.secret = "") ∧ r.Form.last "client_assertion" = ""

theorem c05_no_credentials_refused (now : Int) (x : EPProvider) (o : EPOracles) (r : EPRequest) (h : NoCredentials o r) :
    ∃ e s, EP.endpointDecision now .legacy x o .introspect r = .json e s ∧ s ≥ 400 := by
  simp only [decision_eq, SpecEP.introspectionHandler_eq]; unfold SpecEP.introspectionHandler
  split; · exact writeError_errDoc ..
  rename_i cc hparse
  obtain ⟨hprim, hass⟩ := parseClientCredentials_ok hparse
  refine resp_ite (fun _ => writeError_errDoc ..) fun hguard => absurd ?_ hguard
  have h1 : cc.ClientSecret = "" := h.1 _ hprim
  have h2 : cc.ClientAssertion = "" := hass.trans h.2
  simp [h1, h2]

/-- a request without a secret whose `client_assertion` proves nobody fits only a registration that needs no credential: a
    public client, or a client whose registered secret is the empty string -/
theorem credsFit_no_credentials {c : Cfg} {now : Int} {cl : OPClient} {k : Creds} (hfit : credsFit c now cl k = true)
    (hs : ∀ p, k.primary = some p → p.secret = "")
    (ha : ∀ t, k.assertion = some t →
      C14.provesClient c.base.issuer c.base.jwtMaxAgeIAT c.base.jwtOffset (C04.registry c.base.clients) t now = none) :
    cl.auth = "none" ∨ (cl.auth ≠ "private_key_jwt" ∧ cl.secret = "") := by
  rcases credsFit_iff.1 hfit with ⟨_, t, ht, hp⟩ | ⟨p, hp, _, hn | ⟨hk, hsec, _⟩⟩
  · rw [ha t ht] at hp; cases hp
  · exact .inl hn
  · exact .inr ⟨hk, hsec ▸ hs p hp⟩

/-- **"no secret and no assertion ⇒ refused", revocation of both routers** (Server router: `withClient` = `verifyRequestClient` /
    `parseClientCredentials` / `VerifyClient` in front of `revocationHandler`): a revocation performed for a request that carries
    neither a secret nor a proving assertion acted for a client that is registered as public (or whose registered secret is empty) -/
theorem c05_no_credentials_only_public (now : Int) (rt : Router) (x : EPProvider) (o : EPOracles) (r : EPRequest)
    (h : Assumptions rt x .revoke r) (hno : NoCredentials o r)
    (hjunk : C14.provesClient x.issuer (3600 * Go.second) Go.second (C04.registry x.storage.base.clients) (o.tokenOf "") now = none)
    {c : String} (hresp : EP.endpointDecision now rt x o .revoke r = .ok (.revoked c)) :
    ∃ cl, x.storage.base.clients.find? (·.id == c) = some cl ∧ (cl.auth = "none" ∨ (cl.auth ≠ "private_key_jwt" ∧ cl.secret = "")) := by
  have hg := goodRevoke_decision now rt x o r h
  rw [hresp] at hg
  obtain ⟨cl, hf, hfit⟩ := hg
  refine ⟨cl, hf, credsFit_no_credentials hfit hno.1 ?_⟩
  rintro _ ⟨⟩
  rw [hno.2]; exact hjunk

/-- the oracle hypothesis of `c05_no_credentials_only_public` is satisfiable: what the default parser oracle makes of the empty
    string proves no client of the demo provider -/
example : C14.provesClient Demo.provider.issuer (3600 * Go.second) Go.second (C04.registry Demo.provider.storage.base.clients)
    (({} : EPOracles).tokenOf "") 0 = none := by decide +kernel

/-! finding F-C05h (hypothesis `compareOnly` of `c05_auth_required_partial`): with a storage whose `AuthorizeClientIDSecret` only
    compares the stored secret, the Provider router answers a PUBLIC client that sends `Authorization: Basic base64("pub:")`
    with an active introspection document -/
namespace Witness
def compareProvider : EPProvider := { storage := { base := { clients := [pubClient, pkClient] }, secretCompareOnly := true } }
def tokenForm (kv : List (String × String)) : EPValues := { kv := ("token", "at1") :: kv }
def emptyBasic (id : String) : EPRequest := { basic := some (id, ""), Form := tokenForm [], PostForm := tokenForm [] }
/-- the partially filled presentation: `client_id` and `client_assertion_type`, but neither an assertion nor a secret -/
def typeOnly (id : String) : EPRequest :=
  { Form := tokenForm [("client_id", id), ("client_assertion_type", Const.ClientAssertionTypeJWTAssertion)],
    PostForm := tokenForm [("client_id", id), ("client_assertion_type", Const.ClientAssertionTypeJWTAssertion)] }
end Witness

open Witness in
theorem c05_compare_only_witness :
    judge (cfgOf compareProvider) 0 .introspect (credsOf {} (emptyBasic "pub"))
        (obsOf (EP.endpointDecision 0 .provider compareProvider {} .introspect (emptyBasic "pub")))
      = some "unauthenticated-introspection" := by
  decide +kernel

/-- the Server router refuses the same storage's public and private_key_jwt clients at introspection: Basic header with an empty
    password, `client_id` alone, and `client_id` + `client_assertion_type` without an assertion (concrete instances of
    `c05_no_credentials_refused`; they stop evaluating to `true` when the guard of `introspectionHandler` looks at another field) -/
example : [Witness.emptyBasic "pub", Witness.emptyBasic "pk", Witness.typeOnly "pub", Witness.typeOnly "pk",
      { Form := Witness.tokenForm [("client_id", "pub")], PostForm := Witness.tokenForm [("client_id", "pub")] }].all (fun r =>
    let o := obsOf (EP.endpointDecision 0 .legacy Witness.compareProvider {} .introspect r)
    !o.success && decide (o.status ≥ 400)) = true := by decide +kernel
/-- ... while a client registered for a secret method is served by it (both routers, both kinds of storage) -/
example : [true, false].all (fun cmp => [Router.provider, Router.legacy].all fun rt =>
    let x : EPProvider := { Demo.provider with storage := { Demo.provider.storage with secretCompareOnly := cmp } }
    let resp := EP.endpointDecision 0 rt x {} .introspect Demo.tokenReq
    (obsOf resp).success && (judge (cfgOf x) 0 .introspect (credsOf {} Demo.tokenReq) (obsOf resp)).isNone) = true := by decide +kernel
/-- revocation, Server router, comparing storage: a public client may revoke with its id alone, a private_key_jwt client may not -/
example :
    (obsOf (EP.endpointDecision 0 .legacy Witness.compareProvider {} .revoke
      { Form := Witness.tokenForm [("client_id", "pub")], PostForm := Witness.tokenForm [("client_id", "pub")] })).success = true ∧
    (obsOf (EP.endpointDecision 0 .legacy Witness.compareProvider {} .revoke
      { Form := Witness.tokenForm [("client_id", "pk")], PostForm := Witness.tokenForm [("client_id", "pk")] })).success = false ∧
    (obsOf (EP.endpointDecision 0 .legacy Witness.compareProvider {} .revoke (Witness.emptyBasic "pk"))).success = false := by decide +kernel

end C05
